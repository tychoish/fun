import FunProofs.Lockset
import FunGen.LockFacts

/-!
# C13 — the concurrency-safe types are free of data races

Full statement (property C13): using pubsub.Queue, Deque, Broker and their Distributors and
iterators, fun.WaitGroup, erc.Collector, adt.Map/Atomic/Synchronized/Once/Pool, a synchronised
dt.Set and the Lock/WithLock/Once/Limit wrappers from any number of goroutines through their
public API never produces a data race — for all client programs and all interleavings.

How it is stated here. `FunGen.LockFacts.lockFacts` is regenerated from the Go sources by
`tools/lockfacts` on every run: per type, every access site with the locks held there, the call
graph with its lock-set certificate, every way client code can enter. An *execution* is any
trace (any number of threads, any interleaving) that respects mutex exclusion and the `sync.Once`
rule (`WF`) and that is an execution of the code the table describes (`Conforms`: this is what is
trusted about the extractor — see `FunModel/Lockset.lean`). A *race* is a pair of conflicting
accesses not ordered by happens-before.

* `lockset_race_free`  — generic: a disciplined table has no racy execution.
* `all_sites_guarded`  — the regenerated table is disciplined (kernel evaluation of `Disciplined`).
* `fun_race_free`      — hence no execution of any client program of these types has a data race.

`fun_race_free` is the full statement only while `FunGen.LockFacts.exempted` is empty (`no_exemptions`). An entry
point exempted as a recorded open finding (known-findings.jsonl) is left out of the table and an exempted site is
marked `exempt`: the theorem is then about the client programs that do not use it.
-/

namespace FunModel.C13
open FunModel.Lockset FunGen.LockFacts

/-- Generic lock-set theorem: no well-formed execution of code described by a disciplined `F` — any number of
threads, any sequence of calls, any interleaving — contains a data race. -/
theorem lockset_race_free (F : Facts) (hD : Disciplined F = true) (tr : Trace) (wf : WF tr)
    (hc : Conforms F tr) : ¬ Race tr :=
  lockset_race_free_core F.classOf tr wf (conforms_disciplined hD hc) hc.confined hc.prelatch
    (latchConsistent_of_disciplined hD)

/-- The same on the level of traces, without any table: a trace whose every access is made with
tokens that satisfy the guard of the location's class has no race. -/
theorem trace_race_free (cls : Nat → Class) (tr : Trace) (wf : WF tr) (hd : TraceDisciplined cls tr)
    (hconf : ConfinedOK cls tr) (hpre : PreLatch cls tr) (hcons : LatchConsistent cls) : ¬ Race tr :=
  lockset_race_free_core cls tr wf hd hconf hpre hcons

/-- The table regenerated from the current source is disciplined: every site of every
concurrency-safe type is guarded, every helper that needs a lock is only reached with it, every
closure / method value that client code can get hold of needs nothing it is not given. -/
theorem all_sites_guarded : lockFacts.all Disciplined = true := by decide +kernel

/-- No execution of any client program that uses one of the concurrency-safe types through the
entry points of the table has a data race. -/
theorem fun_race_free (F : Facts) (hF : F ∈ lockFacts) (tr : Trace) (wf : WF tr) (hc : Conforms F tr) :
    ¬ Race tr :=
  lockset_race_free F (List.all_eq_true.mp all_sites_guarded F hF) tr wf hc

/-- nothing is exempted: `fun_race_free` speaks about every entry point the extractor found -/
theorem no_exemptions : exempted = [] := rfl

/-- a one-location type: `Set` writes `x` under mutex 0, `Get` reads it with the mutex or (`guarded = false`) without -/
def toy (guarded : Bool) : Facts where
  name := "toy"
  muNames := ["mu"]
  onceNames := []
  locNames := ["x"]
  classes := [.mutex 0]
  nodes := [
    { name := "Set", ctx := "method", assumes := [], entries := [{ key := "Set", held := [] }],
      sites := [{ key := "Set:x", loc := 0, kind := .wr, held := [.mu 0] }], calls := [] },
    { name := "Get", ctx := "method", assumes := [], entries := [{ key := "Get", held := [] }],
      sites := [{ key := "Get:x", loc := 0, kind := .rd, held := if guarded then [.mu 0] else [] }], calls := [] }]

example : Disciplined (toy true) = true := by decide
example : Disciplined (toy false) = false := by decide

/-- thread 1 calls Set, thread 2 calls Get, both under the mutex, interleaved -/
def goodTrace : Trace :=
  [⟨1, .enter 0 0⟩, ⟨2, .enter 1 0⟩, ⟨1, .acq 0⟩, ⟨1, .acc 0 0 0 0 0 .wr⟩, ⟨1, .rel 0⟩,
   ⟨2, .acq 0⟩, ⟨2, .acc 1 1 0 0 0 .rd⟩, ⟨2, .rel 0⟩]

/-- the unguarded Get of `toy false` running next to Set -/
def badTrace : Trace :=
  [⟨1, .enter 0 0⟩, ⟨2, .enter 1 0⟩, ⟨1, .acq 0⟩, ⟨1, .acc 0 0 0 0 0 .wr⟩, ⟨2, .acc 1 1 0 0 0 .rd⟩, ⟨1, .rel 0⟩]

theorem at_good {i : Nat} {t : Tid} {a : Act} (h : At goodTrace i t a) :
    (i = 0 ∧ t = 1 ∧ a = .enter 0 0) ∨ (i = 1 ∧ t = 2 ∧ a = .enter 1 0) ∨ (i = 2 ∧ t = 1 ∧ a = .acq 0) ∨
    (i = 3 ∧ t = 1 ∧ a = .acc 0 0 0 0 0 .wr) ∨ (i = 4 ∧ t = 1 ∧ a = .rel 0) ∨ (i = 5 ∧ t = 2 ∧ a = .acq 0) ∨
    (i = 6 ∧ t = 2 ∧ a = .acc 1 1 0 0 0 .rd) ∨ (i = 7 ∧ t = 2 ∧ a = .rel 0) := by
  match i, h with
  | 0, h | 1, h | 2, h | 3, h | 4, h | 5, h | 6, h | 7, h =>
    cases h
    decide
  | i + 8, h => cases h

theorem toy_class (l : Nat) : (toy true).classOf l = .mutex 0 ∨ (toy true).classOf l = .unknown := by
  match l with
  | 0 => left; rfl
  | l + 1 => right; simp [Facts.classOf, toy]

/-- the hypotheses of `lockset_race_free` are satisfiable by a concrete two-thread execution:
`goodTrace` is well-formed and conforms to the (disciplined) table `toy true` -/
example : Disciplined (toy true) = true ∧ WF goodTrace ∧ Conforms (toy true) goodTrace := by
  -- `goodTrace` has no Once, flag, spawn or call step: the clauses about those hold vacuously
  have plain {i t a} (h : At goodTrace i t a) :
      match a with | .enter .. | .acq _ | .rel _ | .acc .. => True | _ => False := by
    rcases at_good h with ⟨_, _, rfl⟩ | ⟨_, _, rfl⟩ | ⟨_, _, rfl⟩ | ⟨_, _, rfl⟩ | ⟨_, _, rfl⟩ | ⟨_, _, rfl⟩ |
      ⟨_, _, rfl⟩ | ⟨_, _, rfl⟩ <;> trivial
  refine ⟨by decide, ?_, ?_⟩
  · constructor
    · intro i t m h t' ⟨j, hji, hacq, hno⟩
      -- the mutex is acquired at step 2 by thread 1, which releases it at step 4, and at step 5 by thread 2
      have acq {i t m} (h : At goodTrace i t (.acq m)) : m = 0 ∧ ((i = 2 ∧ t = 1) ∨ (i = 5 ∧ t = 2)) := by
        rcases at_good h with ⟨_, _, h'⟩ | ⟨_, _, h'⟩ | ⟨hi, ht, h'⟩ | ⟨_, _, h'⟩ | ⟨_, _, h'⟩ | ⟨hi, ht, h'⟩ |
          ⟨_, _, h'⟩ | ⟨_, _, h'⟩ <;> cases h'
        · exact ⟨rfl, .inl ⟨hi, ht⟩⟩
        · exact ⟨rfl, .inr ⟨hi, ht⟩⟩
      obtain ⟨rfl, ⟨rfl, rfl⟩ | ⟨rfl, rfl⟩⟩ := acq h <;> obtain ⟨-, ⟨rfl, rfl⟩ | ⟨rfl, rfl⟩⟩ := acq hacq
      · omega
      · omega
      · exact hno 4 (by omega) (by omega) rfl
      · omega
    · exact fun _ _ _ _ _ h => (plain h).elim
    · exact fun _ _ _ h => (plain h).elim
    · exact fun _ _ _ h => (plain h).elim
    · exact fun _ _ _ h => (plain h).elim
    · exact fun _ _ _ h => (plain h).elim
  · constructor
    · intro e t n k h
      rcases at_good h with ⟨rfl, rfl, h'⟩ | ⟨rfl, rfl, h'⟩ | ⟨_, _, h'⟩ | ⟨_, _, h'⟩ | ⟨_, _, h'⟩ | ⟨_, _, h'⟩ | ⟨_, _, h'⟩ |
        ⟨_, _, h'⟩ <;> cases h'
      · exact ⟨_, _, rfl, rfl, nofun⟩
      · exact ⟨_, _, rfl, rfl, nofun⟩
    · exact fun _ _ _ _ _ h => (plain h).elim
    · intro i t n e s l c k h
      rcases at_good h with ⟨_, _, h'⟩ | ⟨_, _, h'⟩ | ⟨_, _, h'⟩ | ⟨rfl, rfl, h'⟩ | ⟨_, _, h'⟩ | ⟨_, _, h'⟩ | ⟨rfl, rfl, h'⟩ |
        ⟨_, _, h'⟩ <;> cases h'
      · refine ⟨_, _, rfl, rfl, rfl, rfl, rfl, Or.inl ⟨0, rfl⟩, by omega, ?_, nofun⟩
        intro tok htok
        cases List.mem_singleton.mp htok
        exact ⟨2, by omega, rfl, fun k hk1 hk2 => by omega⟩
      · refine ⟨_, _, rfl, rfl, rfl, rfl, rfl, Or.inl ⟨0, rfl⟩, by omega, ?_, nofun⟩
        intro tok htok
        cases List.mem_singleton.mp htok
        exact ⟨5, by omega, rfl, fun k hk1 hk2 => by omega⟩
    · intro i j t₁ t₂ n₁ f₁ s₁ n₂ f₂ s₂ l c k₁ k₂ _ _ hc
      rcases toy_class l with h | h <;> rw [h] at hc <;> cases hc
    · intro i t n f s l c m a _ hc
      rcases toy_class l with h | h <;> rw [h] at hc <;> cases hc

/-- kernel-checked witness that `Race` is satisfiable: in `badTrace` the write (step 3) and the
read (step 4) conflict and nothing orders them -/
example : Race badTrace := by
  refine ⟨3, 4, 1, 2, 0, 0, 0, 1, 1, 0, 0, 0, .wr, .rd, by decide, rfl, rfl, rfl, fun h => ?_⟩
  -- `badTrace` has no synchronisation edge (no Once, flag or spawn step, and its only release is its last step),
  -- so happens-before only relates steps of one and the same thread
  have mem {i t a} (h : At badTrace i t a) : (⟨t, a⟩ : Ev) ∈ badTrace := List.mem_of_getElem? h
  have same : ∀ i j, HB badTrace i j → ∃ t a b, At badTrace i t a ∧ At badTrace j t b := by
    intro i j hb
    induction hb with
    | po _ hi hj => exact ⟨_, _, _, hi, hj⟩
    | @relAcq i j _ _ _ hij hi hj =>
      match i, hi with
      | 0, hi | 1, hi | 2, hi | 3, hi | 4, hi | i + 6, hi => cases hi
      | 5, _ =>
        obtain ⟨j, rfl⟩ : ∃ k, j = k + 6 := ⟨j - 6, by omega⟩
        cases hj
    | once _ hi _ => have := mem hi; simp [badTrace] at this
    | latch _ _ hj => have := mem hj; simp [badTrace] at this
    | spawn _ hi _ => have := mem hi; simp [badTrace] at this
    | trans _ _ ih1 ih2 =>
      obtain ⟨t, a, _, h1, h2⟩ := ih1
      obtain ⟨_, _, c, h3, h4⟩ := ih2
      obtain ⟨rfl, _⟩ := At.inj h2 h3
      exact ⟨t, a, c, h1, h4⟩
  obtain ⟨t, _, _, h3, h4⟩ := same 3 4 h
  cases h3; cases h4

end FunModel.C13
