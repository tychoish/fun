import FunProofs.Hdr

/-! C19 — the HDR histogram (`dt/hdrhist`): recording never fails for in-range values, counts are
    conserved, equivalence ranges are exact powers of two within the promised precision,
    quantiles are order statistics (up to the equivalence range), Min/Max bracket the data,
    Export/Import and Merge-into-empty are identities, and every position of the counts array satisfies the
    bound the iterator asserts (`iterator_in_bounds`; that the iterator halts inside the array is not a theorem:
    the model's scans run over the list of counts and have no `countToIdx >= totalCount` exit). -/

namespace FunModel.C19
open FunModel FunModel.Hdr

/-- The Go loop of `bitLen` computes floor(log2 x)+1 (0 for x = 0) on every non-negative int64. -/
theorem bitLenGo_eq (x : Nat) (h : x < 2 ^ 63) : bitLenGo x = bitLen x :=
  bitLenGo_eq_bitLen x h

/-- `New`'s loop terminates (within the model's fuel) and yields the least bucket count that
    covers `max`. This is the loop on unbounded naturals; `ValidArgs` says where Go's int64 loop is not that. -/
theorem bucketCount_least (min max sig : Nat) (h : ValidArgs min max sig) :
    1 ≤ (mkShape min max sig).bucketCount ∧
      max < ((mkShape min max sig).subBucketCount <<< (mkShape min max sig).unitMag)
              * 2 ^ ((mkShape min max sig).bucketCount - 1) ∧
      ∀ n, 1 ≤ n →
        max < ((mkShape min max sig).subBucketCount <<< (mkShape min max sig).unitMag) * 2 ^ (n - 1) →
        (mkShape min max sig).bucketCount ≤ n :=
  Shape.bucketCount_spec rfl h.2.2.1

theorem record_in_range {min max sig v : Nat} (h : ValidArgs min max sig) (hv : v ≤ max) :
    (mkShape min max sig).countsIndexFor v < (mkShape min max sig).countsLen :=
  Shape.index_lt rfl h.2.2.1 hv

/-- `RecordValues` does not return the error for a value up to `max`. -/
theorem record_succeeds {min max sig v : Nat} (h : ValidArgs min max sig) (hv : v ≤ max)
    (hist : Hist) (hs : hist.shape = mkShape min max sig) (n : Nat) :
    (hist.record v n).isSome = true := by
  have := record_in_range (v := v) h hv
  rw [← hs] at this
  rw [record_eq_some this]; rfl

/-- Finding D17: had `New` the strict test `smallestUntrackableValue < maxValue` (`mkShapeLt`; hdr.go and
    `bucketsLoop` test `<=`), only values strictly below `max` would be guaranteed recordable … -/
theorem record_in_range_strict_loop {min max sig v : Nat} (h : ValidArgs min max sig)
    (hv : v < max) :
    (mkShapeLt min max sig).countsIndexFor v < (mkShapeLt min max sig).countsLen :=
  Shape.index_lt (max := max - 1)
    (bucketsLoopLt_eq _ _ _ _ (Nat.shiftLeft_eq _ _ ▸ Nat.mul_pos (Nat.two_pow_pos _) (Nat.two_pow_pos _)))
    (by have := h.2.2.1; omega) (by omega)

/-- … and `max` itself can be rejected: `New(1, 2048, 3).RecordValue(2048)` is out of range. -/
theorem record_max_fails_strict_loop :
    ValidArgs 1 2048 3 ∧
      ¬ (mkShapeLt 1 2048 3).countsIndexFor 2048 < (mkShapeLt 1 2048 3).countsLen := by
  unfold ValidArgs; decide

/-- After any sequence of in-range `RecordValues(v, n)` on a fresh histogram: the total is the sum
    of the `n`, the counts array sums to the total and keeps its length, and the shape is kept. -/
theorem total_count {min max sig : Nat} (h : ValidArgs min max sig) (ps : List (Nat × Nat))
    (hps : ∀ p ∈ ps, p.1 ≤ max) :
    (recordAll (Hist.new min max sig) ps).total = (ps.map (·.2)).sum ∧
      (recordAll (Hist.new min max sig) ps).counts.sum
        = (recordAll (Hist.new min max sig) ps).total ∧
      (recordAll (Hist.new min max sig) ps).counts.length = (mkShape min max sig).countsLen ∧
      (recordAll (Hist.new min max sig) ps).shape = mkShape min max sig := by
  obtain ⟨i1, i2, i3, i4, _⟩ := recordAll_empty (new_isEmpty min max sig) ps
    (fun p hp => record_in_range h (hps p hp))
  exact ⟨i3, by rw [i4, i3], i2, i1⟩

theorem lowestEquiv_le (s : Shape) (v : Nat) : s.lowestEquiv v ≤ v := s.lowestEquiv_le v

theorem le_highestEquiv (s : Shape) (v : Nat) : v ≤ s.highestEquiv v := s.le_highestEquiv v

theorem highestEquiv_succ (s : Shape) (v : Nat) :
    s.highestEquiv v + 1 = s.lowestEquiv v + s.sizeOfRange v := s.highestEquiv_succ v

theorem sizeOfRange_pow (s : Shape) (v : Nat) :
    s.sizeOfRange v = 2 ^ (s.unitMag + s.bucketIdx v) := s.sizeOfRange_eq v

/-- The width of an equivalence range is one unit (`2^floor(log2 min)`), or at most
    `v / 10^sigfigs`. -/
theorem width_bound {min max sig : Nat} (h : ValidArgs min max sig) (v : Nat) :
    (mkShape min max sig).sizeOfRange v ≤ Nat.max (2 ^ Nat.log2 min) (v / 10 ^ sig) :=
  (mkShape min max sig).sizeOfRange_le v (10 ^ sig) (halfMag_table h.2.2.2.2.1 h.2.2.2.2.2)
    (Nat.pow_pos (by decide))

theorem index_mono (s : Shape) {v w : Nat} (h : v ≤ w) :
    s.countsIndexFor v ≤ s.countsIndexFor w := s.countsIndexFor_mono h

theorem index_valueAt (s : Shape) (i : Nat) : s.countsIndexFor (s.valueAt i) = i :=
  s.countsIndexFor_valueAt i

theorem countsIndex_posOfIndex (s : Shape) (i : Nat) :
    s.countsIndex (s.posOfIndex i).1 (s.posOfIndex i).2 = i := s.countsIndex_posOfIndex i

theorem index_lowest (s : Shape) (v : Nat) :
    s.countsIndexFor (s.lowestEquiv v) = s.countsIndexFor v :=
  s.same_cell_index (Nat.le_refl _) (s.lowest_le_highest v)

theorem index_highest (s : Shape) (v : Nat) :
    s.countsIndexFor (s.highestEquiv v) = s.countsIndexFor v :=
  s.same_cell_index (s.lowest_le_highest v) (Nat.le_refl _)

theorem highest_valueAt_index (s : Shape) (v : Nat) :
    s.highestEquiv (s.valueAt (s.countsIndexFor v)) = s.highestEquiv v :=
  s.highestEquiv_valueAt_index v

/-- If `x` is the `r`-th smallest recorded value (1-based; fewer than `r` values are `< x`, at
    least `r` are `≤ x`), `ValueAtQuantile` with rank `r` returns the top of `x`'s equivalence
    range. -/
theorem quantile_is_order_statistic {min max sig : Nat} (h : ValidArgs min max sig) (vs : List Nat)
    (hvs : ∀ v ∈ vs, v ≤ max) (x r : Nat) (hx : x ∈ vs)
    (hlo : (vs.filter (· < x)).length < r) (hhi : r ≤ (vs.filter (· ≤ x)).length) :
    (recordValues (Hist.new min max sig) vs).valueAtRank r
      = (mkShape min max sig).highestEquiv x :=
  valueAtRank_recordValues (new_isEmpty min max sig) vs (fun v hv => record_in_range h (hvs v hv)) x r hx
    (by rw [List.countP_eq_length_filter]; exact hlo)
    (by rw [List.countP_eq_length_filter]; exact hhi)

/-- … hence it is within one equivalence-range width above `x` (see `width_bound`). -/
theorem quantile_within_precision {min max sig : Nat} (h : ValidArgs min max sig) (vs : List Nat)
    (hvs : ∀ v ∈ vs, v ≤ max) (x r : Nat) (hx : x ∈ vs)
    (hlo : (vs.filter (· < x)).length < r) (hhi : r ≤ (vs.filter (· ≤ x)).length) :
    x ≤ (recordValues (Hist.new min max sig) vs).valueAtRank r ∧
      (recordValues (Hist.new min max sig) vs).valueAtRank r
        < x + (mkShape min max sig).sizeOfRange x := by
  rw [quantile_is_order_statistic h vs hvs x r hx hlo hhi]
  have h1 := (mkShape min max sig).le_highestEquiv x
  have h2 := (mkShape min max sig).highestEquiv_succ x
  have h3 := (mkShape min max sig).lowestEquiv_le x
  omega

/-- `Min()` is the bottom of the equivalence range of a smallest recorded value and `Max()` the
    top of the range of a largest one (no assumption on 0 being recorded or not). -/
theorem min_max_bracket {min max sig : Nat} (h : ValidArgs min max sig) (vs : List Nat)
    (hvs : ∀ v ∈ vs, v ≤ max) (m M : Nat) (hm : m ∈ vs) (hmle : ∀ v ∈ vs, m ≤ v)
    (hM : M ∈ vs) (hMge : ∀ v ∈ vs, v ≤ M) :
    (recordValues (Hist.new min max sig) vs).min = (mkShape min max sig).lowestEquiv m ∧
      (recordValues (Hist.new min max sig) vs).max = (mkShape min max sig).highestEquiv M :=
  ⟨min_recordValues (new_isEmpty min max sig) vs (fun v hv => record_in_range h (hvs v hv)) m hm hmle,
    max_recordValues (new_isEmpty min max sig) vs (fun v hv => record_in_range h (hvs v hv)) M hM hMge⟩

/-- In particular `Min() ≤ v ≤ Max()` for every recorded `v`. -/
theorem min_le_max_ge {min max sig : Nat} (h : ValidArgs min max sig) (vs : List Nat)
    (hvs : ∀ v ∈ vs, v ≤ max) (m M : Nat) (hm : m ∈ vs) (hmle : ∀ v ∈ vs, m ≤ v)
    (hM : M ∈ vs) (hMge : ∀ v ∈ vs, v ≤ M) (v : Nat) (hv : v ∈ vs) :
    (recordValues (Hist.new min max sig) vs).min ≤ v ∧
      v ≤ (recordValues (Hist.new min max sig) vs).max := by
  obtain ⟨h1, h2⟩ := min_max_bracket h vs hvs m M hm hmle hM hMge
  rw [h1, h2]
  exact ⟨Nat.le_trans ((mkShape min max sig).lowestEquiv_le m) (hmle v hv),
    Nat.le_trans (hMge v hv) ((mkShape min max sig).le_highestEquiv M)⟩

/-- `Import(h.Export())` equals `h` for every histogram with the shape `New` builds, the right
    array length, and `totalCount` = sum of the counts … -/
theorem export_import_equal_of_wf {min max sig : Nat} (h : Hist) (hw : h.WF min max sig) :
    h.reimport = h := by
  obtain ⟨h1, _, h3⟩ := hw
  obtain ⟨shape, counts, total⟩ := h
  simp only at h1 h3
  subst h1 h3
  unfold Hist.reimport
  simp only [mkShape_lowest, mkShape_highest, mkShape_sigfigs]
  rw [← List.sum_eq_foldl]

/-- … in particular for every histogram reachable from `New` by in-range `RecordValues`. -/
theorem export_import_equal {min max sig : Nat} (hv : ValidArgs min max sig) (h : Hist)
    (hr : Reachable min max sig h) : h.reimport = h :=
  export_import_equal_of_wf h (hr.wf hv.2.2.1)

theorem merge_into_empty_equal_of_wf {min max sig : Nat} (h : Hist) (hw : h.WF min max sig) :
    (Hist.new min max sig).merge h = (h, 0) := by
  obtain ⟨shape, counts, total⟩ := h
  obtain ⟨h1, h2, h3⟩ := hw
  simp only at h1 h2 h3
  subst h1 h3
  have := mergeFrom_spec (mkShape min max sig) counts [] 0 (by rw [← h2]; simp)
  rw [h2] at this
  simpa [Hist.merge, Hist.new] using this

/-- Merging a reachable histogram into a fresh one of the same parameters reproduces it and drops
    nothing. -/
theorem merge_into_empty_equal {min max sig : Nat} (hv : ValidArgs min max sig) (h : Hist)
    (hr : Reachable min max sig h) : (Hist.new min max sig).merge h = (h, 0) :=
  merge_into_empty_equal_of_wf h (hr.wf hv.2.2.1)

/-- What the iterator's `fun.Invariant` "iteration out of bounds, should have halted here" asserts: every
    position of the counts array decodes to a bucket and sub-bucket within the shape's bounds. -/
theorem iterator_in_bounds {min max sig i : Nat} (h : ValidArgs min max sig)
    (hi : i < (mkShape min max sig).countsLen) :
    ((mkShape min max sig).posOfIndex i).1 < (mkShape min max sig).bucketCount ∧
      ((mkShape min max sig).posOfIndex i).2 < (mkShape min max sig).subBucketCount :=
  (mkShape min max sig).posOfIndex_in_bounds (Shape.bucketCount_spec rfl h.2.2.1).1 hi

/-- the hypotheses of the theorems above hold of `New(1, 2048, 3)` with 1, 2048, 17, 17 recorded -/
example : ValidArgs 1 2048 3 := by unfold ValidArgs; decide
example : ∀ v ∈ [1, 2048, 17, 17], v ≤ 2048 := by decide
example : ∀ p ∈ [(1, 2), (2048, 1), (17, 5)], p.1 ≤ 2048 := by decide
/-- 17 is the 2nd and the 3rd order statistic of [1, 2048, 17, 17]; 2048 the 4th -/
example : 17 ∈ [1, 2048, 17, 17] ∧ ([1, 2048, 17, 17].filter (· < 17)).length < 2 ∧
    3 ≤ ([1, 2048, 17, 17].filter (· ≤ 17)).length := by decide
example : 2048 ∈ [1, 2048, 17, 17] ∧ ([1, 2048, 17, 17].filter (· < 2048)).length < 4 ∧
    4 ≤ ([1, 2048, 17, 17].filter (· ≤ 2048)).length := by decide
example : (1 ∈ [1, 2048, 17, 17] ∧ ∀ v ∈ [1, 2048, 17, 17], 1 ≤ v) ∧
    (2048 ∈ [1, 2048, 17, 17] ∧ ∀ v ∈ [1, 2048, 17, 17], v ≤ 2048) := by decide
example : Reachable 1 2048 3 (recordValues (Hist.new 1 2048 3) [1, 2048, 17, 17]) :=
  ⟨_, by decide, rfl⟩

/-- the theorems instantiated: the 3rd of [1, 2048, 17, 17] is reported as 17, the 4th as 2049
    (2048 lies in bucket 1, whose ranges have width 2) -/
example : (recordValues (Hist.new 1 2048 3) [1, 2048, 17, 17]).valueAtRank 3
    = (mkShape 1 2048 3).highestEquiv 17 :=
  quantile_is_order_statistic (by unfold ValidArgs; decide) _ (by decide) 17 3 (by decide)
    (by decide) (by decide)
example : (mkShape 1 2048 3).highestEquiv 17 = 17 ∧ (mkShape 1 2048 3).highestEquiv 2048 = 2049 ∧
    (mkShape 1 2048 3).lowestEquiv 1 = 1 ∧ (mkShape 1 2048 3).countsIndexFor 2048 = 2048 ∧
    (mkShape 1 2048 3).countsLen = 3072 ∧ (mkShape 1 2048 3).bucketCount = 2 := by decide
example : 5 < (mkShape 1 100 1).countsLen := by decide
example : (Hist.new 1 100 1).WF 1 100 1 := ⟨rfl, by decide, by decide⟩
example : (recordValues (Hist.new 1 2048 3) [1, 2048, 17, 17]).reimport
    = recordValues (Hist.new 1 2048 3) [1, 2048, 17, 17] :=
  export_import_equal (by unfold ValidArgs; decide) _ ⟨_, by decide, rfl⟩

end FunModel.C19
