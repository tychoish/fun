import FunProofs.DequeIter
import FunProofs.DequeWake

/-! C20 (Deque half) — the non-destructive Deque iterators `Producer` / `ProducerReverse` /
    `ProducerBlocking` / `ProducerReverseBlocking` (`Iterator` / `IteratorReverse` wrap the first two).

    Model: `Op.next d blocking k` = one call of iterator `k` of that kind; its cursor is an element
    identity (0 = the root, also the `nil` the closure starts with); `St.nbr d e` is
    `e.getNextOrPrevious(d)`, taken from the live list while `e` is linked and from the links `e`
    kept when it was popped (`stale`) afterwards. `ahead x d c` = what an iterator in direction `d`
    standing on `c` has not passed yet. Hypothesis `Owned`: each iterator is used by one
    goroutine. Proofs: `FunProofs/DequeIter.lean`, `FunProofs/DequeWake.lean`. -/
namespace FunModel.C20Deque
open FunModel.Conc FunModel.Deque

theorem inv23_new (o : Opts) (st : St) (h : newDeque o = some (some st)) : Inv23 st := by
  obtain ⟨_, hq, _, hs, hc, hn, hv⟩ := (newDeque_ok o).2 st h
  exact inv23_of_empty hq hs hc hv (by rw [hn]; decide)

def exSt : St := { tracker := .noLimit 2, q := [(1, 10), (2, 20)], vals := [(2, 20), (1, 10)], nextId := 3 }
theorem exSt_inv23 : Inv23 exSt :=
  ⟨⟨by decide, by decide, by decide, nofun, nofun⟩,
   ⟨by decide, by decide, by decide, by decide, nofun, nofun⟩⟩

/-- **iter_nondestructive**: an iterator call never changes the contents, the closed flag or the
    tracker of the deque -/
theorem iter_nondestructive (s : St) (d : End) (b : Bool) (k : Nat) (cancelled : Bool) :
    absS (startR s (.next d b k)).st = absS s ∧ absS (resumeR s (.next d b k) cancelled).st = absS s :=
  iter_absS s d b k cancelled

/-- **iter_complete_in_order**: while the element an iterator stands on is still in the deque (or it
    has not yielded anything yet) — in particular when nothing is removed — (1) `n = |unseen|`
    successive calls yield exactly the unseen items, in container order for the forward kinds and in
    reverse order for the reverse kinds, each once, none skipped, and leave the deque unchanged with
    nothing unseen; (2) a push at the far end appends the new item to the unseen part, a push at the
    near end leaves the unseen part of a started iterator alone (an iterator that has not started
    sees the new first item): so with pushes interleaved the yielded sequence is a prefix of
    present ++ pushed-later, in order. -/
theorem iter_complete_in_order (x : St) (h : Inv23 x) (d : End) (b : Bool) (k : Nat)
    (hc : x.cursor (cursorKey d b k) = 0 ∨ x.cursor (cursorKey d b k) ∈ x.ids) :
    (let L := ahead x d (x.cursor (cursorKey d b k))
     (iterRun x d b k L.length).2 = L.map (fun p => FinR.ret (.val p.2)) ∧
     abs (iterRun x d b k L.length).1 = abs x ∧
     ahead (iterRun x d b k L.length).1 d ((iterRun x d b k L.length).1.cursor (cursorKey d b k)) = []) ∧
    (∀ v, ahead (pushed x d.opp v) d (x.cursor (cursorKey d b k)) = ahead x d (x.cursor (cursorKey d b k)) ++ [(x.nextId, v)]) ∧
    (∀ v, ahead (pushed x d v) d (x.cursor (cursorKey d b k)) =
      if x.cursor (cursorKey d b k) = 0 then (x.nextId, v) :: ahead x d 0 else ahead x d (x.cursor (cursorKey d b k))) := by
  refine ⟨?_, fun v => ahead_push_far x d v _ hc, fun v => ?_⟩
  · obtain ⟨h1, h2, _, h4⟩ := iterRun_ahead d b k _ x h.i2 h.i3 hc rfl
    exact ⟨h1, h2, h4⟩
  · have := ahead_push_near x h.i2 d v _ hc
    by_cases h0 : x.cursor (cursorKey d b k) = 0
    · rw [h0] at this ⊢; exact this
    · simpa [h0] using this

example : (iterRun exSt .back false 0 2).2 = [.ret (.val 20), .ret (.val 10)] :=
  (iter_complete_in_order exSt exSt_inv23 .back false 0 (Or.inl rfl)).1.1

/-- the first unseen element is what a single call yields; with nothing unseen the non-blocking
    kinds end at the sentinel with io.EOF and stay there, the blocking kinds park (open deque) or
    end with ErrQueueClosed, which is an io.EOF (closed deque) -/
theorem iter_next (x : St) (h : Inv23 x) (d : End) (b : Bool) (k : Nat)
    (hc : x.cursor (cursorKey d b k) = 0 ∨ x.cursor (cursorKey d b k) ∈ x.ids) :
    (∀ e v rest, ahead x d (x.cursor (cursorKey d b k)) = (e, v) :: rest →
      startR x (.next d b k) = { st := x.setCursor (cursorKey d b k) e, fin := .ret (.val v) } ∧
      ahead (x.setCursor (cursorKey d b k) e) d e = rest) ∧
    (ahead x d (x.cursor (cursorKey d b k)) = [] →
      (b = false → startR x (.next d b k) = { st := x, fin := .ret .eof }) ∧
      (b = true → x.closed = true → (startR x (.next d b k)).fin = .ret .closed) ∧
      (b = true → x.closed = false → ∃ c, (startR x (.next d b k)).fin = .park c)) := by
  constructor
  · intro e v rest ha
    obtain ⟨h1, _, h3⟩ := iter_step_some x h.i2 h.i3 d b k hc ha
    exact ⟨h1, h3⟩
  · intro ha
    obtain ⟨_, h1, h2, h3⟩ := iter_step_none x d b k hc ha
    exact ⟨h1, fun hb hcl => (h2 hb hcl).1, fun hb hcl => ⟨_, (h3 hb hcl).1⟩⟩

/-- **iter_safe_under_removal**: in every reachable state — whatever was popped or evicted, whenever —
    every cursor and every link an iterator can follow is the root or an element that a push
    created (never nil), every value a call yields is the item of such an element (so it was in
    the deque), and the set of created elements only grows by successful pushes of the pushed value. -/
theorem iter_safe_under_removal (init : St) (hinit : Inv23 init) (programs : List (List Op)) (s : Sys St Op)
    (hr : Reach subject (initSys init programs) s) (d : End) (b : Bool) (k : Nat) (kc : Bool) :
    (∀ key, s.subj.cursor key = 0 ∨ s.subj.cursor key ∈ s.subj.vals.map (·.1)) ∧
    (∀ e, s.subj.nbr d e = 0 ∨ s.subj.nbr d e ∈ s.subj.vals.map (·.1)) ∧
    (∀ v, (startR s.subj (.next d b k)).fin = .ret (.val v) → ∃ e, e ≠ 0 ∧ (e, v) ∈ s.subj.vals) ∧
    (∀ v, (resumeR s.subj (.next d b k) kc).fin = .ret (.val v) → ∃ e, e ≠ 0 ∧ (e, v) ∈ s.subj.vals) ∧
    (∀ d' v', (addEnd s.subj d' v').1.vals = s.subj.vals ∨
      ((addEnd s.subj d' v').1.vals = (s.subj.nextId, v') :: s.subj.vals ∧ (s.subj.nextId, v') ∈ (addEnd s.subj d' v').1.q)) := by
  have hinv := reach_inv23 (initSys_wf init programs) hinit hr
  exact ⟨hinv.i3.cursor_valid, hinv.i3.nbr_valid d,
    fun v => (iter_yield_created s.subj hinv.i3 d b k kc v).1,
    fun v => (iter_yield_created s.subj hinv.i3 d b k kc v).2,
    fun d' v' => addEnd_vals s.subj d' v'⟩

/-- **iter_nonblocking_ends_at_sentinel**: `Producer` / `ProducerReverse` never park; they return
    io.EOF exactly when the link they follow is the root -/
theorem iter_nonblocking_ends_at_sentinel (x : St) (d : End) (k : Nat) :
    (∀ c, (startR x (.next d false k)).fin ≠ .park c) ∧
    ((startR x (.next d false k)).fin = .ret .eof ↔ x.nbr d (x.cursor (cursorKey d false k)) = 0) := by
  constructor
  · intro c h
    cases (parks_blocking (startR_park h).2.1).1
  · by_cases hn : x.nbr d (x.cursor (cursorKey d false k)) = 0
    · simp [startR, iterYield, hn]
    · have h0 : (x.nbr d (x.cursor (cursorKey d false k)) == 0) = false := by simpa using hn
      simp [startR, iterYield, hn, h0]

/-- **iter_returns_on_close_and_cancel**: a blocking iterator that has nothing to yield returns
    ErrQueueClosed (an io.EOF) once the deque is closed and its context's error once that is
    cancelled, in the first segment it runs after the event; and it has no effect -/
theorem iter_returns_on_close_and_cancel (x : St) (d : End) (k : Nat) (kc : Bool)
    (hn : x.nbr d (x.cursor (cursorKey d true k)) = 0) :
    (x.closed = true → (resumeR x (.next d true k) kc).fin = .ret .closed ∧ (startR x (.next d true k)).fin = .ret .closed) ∧
    (x.closed = false → kc = true → (resumeR x (.next d true k) kc).fin = .ret .ctx) ∧
    (resumeR x (.next d true k) kc).st = x := by
  refine ⟨fun hc => ?_, fun hc hk => ?_, ?_⟩
  · simp [resumeR, startR, iterLoop, hn, hc]
  · simp [resumeR, iterLoop, hn, hc, hk]
  · simp only [resumeR, iterLoop, hn, beq_self_eq_true, ite_true]
    by_cases hc : x.closed = true
    · simp [hc]
    · by_cases hk : kc = true <;> simp [hc, hk]

/-- **iter_no_stuck**: in every reachable state that is quiescent up to ping-pong, a blocking iterator
    call that is still blocked has nothing to yield (the link it watches is the root), the deque is
    open and its context is live; if the element it stands on is still linked (or it stands on
    the root) this means that no unseen item is in the deque. -/
theorem iter_no_stuck (init : St) (hinit : Inv23 init) (programs : List (List Op)) (hown : Owned (initSys init programs))
    (s : Sys St Op) (hr : Reach subject (initSys init programs) s) (hq : QuiescentPP subject s)
    (u : Nat) (th : Th Op) (d : End) (k : Nat) (hth : s.ths[u]? = some th)
    (hblocked : th.st = .woken ∨ ∃ c, th.st = .parked c) (hop : th.ops[th.pc]? = some (.next d true k)) :
    s.subj.nbr d (s.subj.cursor (cursorKey d true k)) = 0 ∧ s.subj.closed = false ∧ th.cancelled = false ∧
    ((s.subj.cursor (cursorKey d true k) = 0 ∨ s.subj.cursor (cursorKey d true k) ∈ s.subj.ids) →
      ahead s.subj d (s.subj.cursor (cursorKey d true k)) = []) := by
  have hp := blocked_pp_parks init hinit.i2 programs hown hr hq hth hblocked hop
  simp only [parks, Bool.and_eq_true, Bool.not_eq_true', beq_iff_eq] at hp
  exact ⟨hp.1.1, hp.1.2, hp.2, fun hc =>
    (nbr_eq_zero_iff (reach_inv23 (initSys_wf init programs) hinit hr).i3 d hc).1 hp.1.1⟩

/-- a blocking forward iterator parked on the last element is woken by a
    `PushBack` (the schedule of the defect "Deque iterator on last element", DESIGN.md §11.3: there the
    iterator must wait on `nback`, which a `PushBack` signals — `iterCond`) -/
example : ∃ s, Reach subject (initSys exSt [[.next .front true 0, .next .front true 0, .next .front true 0], [.push .back 30]]) s ∧
    ∃ th, s.ths[0]? = some th ∧ th.st = .woken ∧ abs s.subj = [10, 20, 30] :=
  ⟨_, reach_of_runActs [.start 0, .start 0, .start 0, .start 1] (by rfl) .init, _, rfl, rfl, rfl⟩

end FunModel.C20Deque
