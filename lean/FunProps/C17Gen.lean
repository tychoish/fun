import FunProofs.GenTieCmp
import FunProofs.DllRun

/-! C17 — T-gen obligations. tools/go2lean (cmp.go) re-reads dt/cmp.go on every run of `./check` and rewrites
    lean/FunGen/Cmp.lean: `List.IsSorted`, `split`, `merge`, `mergeSort`, `List.SortMerge`, `Heap.lazySetup`,
    `Heap.Push`, `Heap.Pop`, `Heap.Len`, statement by statement, over the heap of FunModel/Dll.lean (every pointer an
    `Option Nat`, `none` result = panic, loops and the recursion as functions over `fuel`, calls into dt/list.go mapped
    onto the operations of the C16 model — the mapping is the preamble of the generated file and is trusted).

    These theorems say that the hand-written pointer-level model FunProps/C17Ptr.lean is about
    (`Heap.isSortedLoop/isSorted`, `splitLoop/split`, `mergeLoop/merge`, `mergeSort`, `sortMerge`,
    `heapPushLoop/heapPush`, and `popFront` + `(item, ok)` for `Heap.Pop`) computes what the generated definitions
    compute on a non-nil receiver: loops and the recursion for EVERY fuel, wrappers with the fuel the model passes
    (`length + 1`; the generated callers take the callee's fuel from a policy `φ`, instantiated here with the model's
    measures `handFuel`). Heaps are arbitrary except where stated:
    * `RS h l` (`l.root != nil`) for the output list of the loops of `split`/`merge` (the wrappers establish it:
      `out.lazySetup()`) and for the two inputs of `merge` — the generated code calls `Front()/Back()` (hence
      `lazySetup`) where the model reads `root.next/prev` directly or in another order, which agree once the sentinels
      exist;
    * `0 ≤ length` for `split` (Go's `/` truncates, the model's rounds down);
    * `mergeSort`: `head` is allocated and its sentinel exists (`n`, `ha`, `hn` of the statement are not used);
    * `SortMerge`: the list is allocated and has its sentinel if it holds two or more elements — true in every
      well-formed heap (`gen_sortMerge_wf`, hypothesis `WF` of C16/C17Ptr only).
    `SortQuick` (slice, `sort.SliceStable`, closure, `range`) is outside the translated subset: T-diff only. -/
namespace FunModel.C17Gen
open FunModel.Dll FunModel.Dll.Heap FunGen.Cmp FunProofs.GenTieCmp

/-- the walk of `IsSorted` (`for item := …; item.Ok(); item = item.Next()` comparing `item.Value()` with
    `item.Previous().Value()`), for every fuel and start pointer; the model's `false` = the body returned false,
    `true` = the loop was left -/
theorem gen_isSortedLoop (h : Heap) (lt : Int → Int → Bool) (l : Option Nat) (fuel : Nat) (cur : Option Nat) :
    List_IsSorted_loop1 fuel h l lt cur =
      (h.isSortedLoop lt cur fuel).map (fun b => (h, if b then none else some false)) := by
  induction fuel generalizing cur with
  | zero => rfl
  | succ fuel ih =>
    cases cur with
    | none => rfl
    | some e =>
      simp only [List_IsSorted_loop1, Heap.isSortedLoop, Element_Ok, Heap.okOpt, Element_Value, Element_Previous,
        Element_Next, ldE_some, Option.bind_eq_bind, Option.bind_some, Option.pure_def]
      cases (h.node e).ok with
      | false => rfl
      | true =>
        cases (h.node e).prev with
        | none => rfl
        | some p =>
          simp only [ldE_some, Option.bind_some, if_true]
          cases lt (h.node e).item (h.node p).item with
          | true => rfl
          | false => exact ih _

/-- `l.IsSorted(lt)`: guard `l == nil || l.Len() <= 1`, start at `l.root.Next().Next()`, final `return true` -/
theorem gen_isSorted (h : Heap) (lt : Int → Int → Bool) (l : Nat) :
    List_IsSorted ((h.hdr l).length.toNat + 1) h (some l) lt = (h.isSorted lt l).map (fun b => (h, b)) := by
  simp only [List_IsSorted, Heap.isSorted, List_Len, Heap.root, Element_Next, gen_isSortedLoop, Option.isNone_some,
    ldL_some, Option.bind_eq_bind, Option.bind_some, Option.pure_def, Bool.false_eq_true, if_false]
  by_cases hl : (h.hdr l).length ≤ 1
  · simp only [hl, decide_true, if_true]
    rfl
  · simp only [hl, decide_false, if_false, Bool.false_eq_true, ldE, Option.bind_eq_bind, Option.pure_def,
      Option.bind_assoc, Option.bind_some, Option.map_eq_bind, Function.comp_def]
    refine Option.bind_congr fun r _ => Option.bind_congr fun f _ => Option.bind_congr fun b _ => ?_
    cases b <;> rfl

theorem gen_isSorted_nil (fuel : Nat) (h : Heap) (lt : Int → Int → Bool) :
    List_IsSorted fuel h none lt = some (h, true) := rfl

/-- the loop of `split` (`for list.Len() > total/2 { out.Back().Append(list.PopFront()) }`), every fuel -/
theorem gen_splitLoop (fuel : Nat) (h : Heap) (l out : Nat) (total : Int) (hr : RS h out) :
    split_loop1 fuel h (some l) total (some out) =
      (h.splitLoop l out (Int.tdiv total 2) fuel).map (fun μ => (μ, none)) := by
  induction fuel generalizing h with
  | zero => rfl
  | succ fuel ih =>
    simp only [split_loop1, Heap.splitLoop, List_Len, List_Back, hr.lazySetup_eq, List_PopFront, Element_Append,
      ldL_some, Option.bind_eq_bind, Option.bind_some, Option.pure_def]
    by_cases hc : (h.hdr l).length > Int.tdiv total 2
    · -- the same three calls on both sides (the generated code finds `out.Back()` nil only inside `Append`, after the
      -- pop), then the loop
      simp only [hc, decide_true, if_true, Option.bind_assoc, Option.map_bind, Option.bind_some, Function.comp_def]
      rw [Option.bind_comm]
      refine Option.bind_congr fun b _ => Option.bind_congr fun q hp => Option.bind_congr fun q2 ha => ?_
      exact ih q2.1 ((hr.frame (frame_popFront hp)).frame (frame_elemAppend ha))
    · simp only [hc, decide_false, if_false, Bool.false_eq_true]
      rfl

/-- `split(list)`: allocation of `out`, loop; `h0`: Go's `total/2` truncates, the model's rounds down -/
theorem gen_split (h : Heap) (l : Nat) (h0 : 0 ≤ (h.hdr l).length) :
    FunGen.Cmp.split ((h.hdr l).length.toNat + 1) h (some l) = (h.split l).map (fun p => (p.1, some p.2)) := by
  have hr : RS (h.allocList.1.lazySetup h.nl) h.nl := RS_lazySetup_self _ _
  simp only [FunGen.Cmp.split, Heap.split, List_Len, newList, List_lazySetup, ldL_some, Option.bind_eq_bind,
    Option.bind_some, Option.pure_def, gen_splitLoop _ _ _ _ _ hr, Int.tdiv_eq_ediv_of_nonneg h0, allocList_snd,
    Option.map_bind, Option.bind_map, Option.map_some, Function.comp_def]

/-- the loop of `merge` (condition `a.Len() != 0 && b.Len() != 0`, the comparison
    `lt(a.Front().Value(), b.Front().Value())`, which list is popped in which branch), every fuel -/
theorem gen_mergeLoop (fuel : Nat) (lt : Int → Int → Bool) (a b out : Nat) (h : Heap)
    (ha : RS h a) (hb : RS h b) (ho : RS h out) :
    merge_loop1 fuel h lt (some a) (some b) (some out) = (h.mergeLoop lt a b out fuel).map (fun μ => (μ, none)) := by
  induction fuel generalizing h with
  | zero => rfl
  | succ fuel ih =>
    simp only [merge_loop1, Heap.mergeLoop, List_Len, List_Front, List_Back, ha.lazySetup_eq, hb.lazySetup_eq,
      ho.lazySetup_eq, List_PopFront, Element_Append, Element_Value, ldL_some, Option.bind_eq_bind, Option.bind_some,
      Option.pure_def]
    cases decide ((h.hdr a).length ≠ 0) with
    | false => rfl
    | true =>
      cases decide ((h.hdr b).length ≠ 0) with
      | false => rfl
      | true =>
        -- one iteration taking the front of `src` (`a` or `b`)
        have step : ∀ src : Nat,
            (((h.popFront src).bind fun p => some (p.1, some p.2)).bind fun p =>
              ((h.back out).bind fun o => (p.1.elemAppend o p.2).bind fun q => some (q.1, some q.2)).bind fun q =>
                merge_loop1 fuel q.1 lt (some a) (some b) (some out)) =
            Option.map (fun μ => (μ, (none : Option (Option Nat)))) ((h.back out).bind fun ob =>
              (h.popFront src).bind fun p => (p.1.elemAppend ob (some p.2)).bind fun q =>
                q.1.mergeLoop lt a b out fuel) := by
          intro src
          simp only [Option.bind_assoc, Option.map_bind, Option.bind_some, Function.comp_def]
          rw [Option.bind_comm]
          refine Option.bind_congr fun ob _ => Option.bind_congr fun p hp => Option.bind_congr fun q hap => ?_
          have m := (frame_popFront hp).trans (frame_elemAppend hap)
          exact ih q.1 (ha.frame m) (hb.frame m) (ho.frame m)
        cases h.front a with
        | none => rfl
        | some fa =>
          cases h.front b with
          | none => rfl
          | some fb =>
            simp only [ldE_some, Option.bind_some, Bool.and_self, if_true]
            cases lt (h.node fa).item (h.node fb).item with
            | true => exact step a
            | false => exact step b

/-- `merge(lt, a, b)`: allocation of `out`, loop, the two `Extend`s in this order; `han`, `hbn`: the allocation of `out`
    keeps the sentinels and lengths of `a` and `b` -/
theorem gen_merge (h : Heap) (lt : Int → Int → Bool) (a b : Nat) (ha : RS h a) (hb : RS h b)
    (han : a ≠ h.nl) (hbn : b ≠ h.nl) :
    FunGen.Cmp.merge (mergeFuel h a b) h lt (some a) (some b) = (h.merge lt a b).map (fun p => (p.1, some p.2)) := by
  have ho : RS (h.allocList.1.lazySetup h.nl) h.nl := RS_lazySetup_self _ _
  simp only [FunGen.Cmp.merge, Heap.merge, newList, List_lazySetup, Option.bind_eq_bind, Option.bind_some, Option.pure_def,
    allocList_snd, gen_mergeLoop _ _ _ _ _ _ (ha.newList han) (hb.newList hbn) ho, mergeFuel, lazySetup_hdr_length,
    allocList_fst_hdr, if_neg han, if_neg hbn, List_Extend, Option.map_bind, Option.bind_map, Option.map_some,
    Function.comp_def]

/-- `mergeSort(head, lt)` for every recursion fuel; the callees `split` and `merge` get the fuel `handFuel` names.
    `n`, `ha`, `hn` are inert (`mergeSort_post` provides the sentinels): callers pass `h.nl`, `rsFrom_nl h`,
    `Nat.le_refl _`. -/
theorem gen_mergeSort (lt : Int → Int → Bool) (n fuel : Nat) (h : Heap) (head : Nat)
    (ha : RSFrom n h) (hn : n ≤ h.nl) (hh : head < h.nl) (hr : RS h head) :
    FunGen.Cmp.mergeSort fuel handFuel h (some head) lt =
      (h.mergeSort lt head fuel).map (fun p => (p.1, some p.2)) := by
  induction fuel generalizing n h head ha hn with
  | zero => rfl
  | succ fuel ih =>
    simp only [FunGen.Cmp.mergeSort, Heap.mergeSort, List_Len, ldL_some, Option.bind_eq_bind, Option.bind_some,
      Option.pure_def, handFuel_split]
    by_cases hc : (h.hdr head).length < 2
    · simp only [hc, decide_true, if_true]
      rfl
    · simp only [hc, decide_false, Bool.false_eq_true, if_false, gen_split h head (by omega), Option.map_bind, Option.bind_map, Function.comp_def]
      refine Option.bind_congr fun q1 e1 => ?_
      obtain ⟨h1, tail⟩ := q1
      obtain ⟨rfl, k1, n1, t1⟩ := split_post e1
      have hh1 := Nat.lt_of_lt_of_le hh k1.1
      have hr1 := k1.2 head hh hr
      simp only [ih _ h1 head (rsFrom_nl h1) (Nat.le_refl _) hh1 hr1, Option.bind_map, Function.comp_def]
      refine Option.bind_congr fun q2 e2 => ?_
      obtain ⟨h2, hd⟩ := q2
      obtain ⟨k2, b2, s2⟩ := mergeSort_post lt fuel hh1 hr1 e2
      have hh2 := Nat.lt_of_lt_of_le n1 k2.1
      have hr2 := k2.2 _ n1 t1
      simp only [ih _ h2 h.nl (rsFrom_nl h2) (Nat.le_refl _) hh2 hr2, Option.bind_map, Function.comp_def]
      refine Option.bind_congr fun q3 e3 => ?_
      obtain ⟨h3, tl⟩ := q3
      obtain ⟨k3, b3, s3⟩ := mergeSort_post lt fuel hh2 hr2 e3
      simp only [handFuel_merge]
      rw [gen_merge h3 lt hd tl (k3.2 hd b2 s2) s3 (Nat.ne_of_lt (Nat.lt_of_lt_of_le b2 k3.1)) (Nat.ne_of_lt b3)]
      cases h3.merge lt hd tl <;> rfl

/-- `l.SortMerge(lt)`: `if sorted := mergeSort(l, lt); sorted != l { l.Extend(sorted) }` -/
theorem gen_sortMerge (h : Heap) (lt : Int → Int → Bool) (l : Nat) (hl : l < h.nl)
    (hr : 2 ≤ (h.hdr l).length → RS h l) :
    List_SortMerge handFuel h (some l) lt = h.sortMerge lt l := by
  have hm : FunGen.Cmp.mergeSort ((h.hdr l).length.toNat + 1) handFuel h (some l) lt =
      (h.mergeSort lt l ((h.hdr l).length.toNat + 1)).map (fun p => (p.1, some p.2)) := by
    by_cases hc : (h.hdr l).length < 2
    · simp [FunGen.Cmp.mergeSort, Heap.mergeSort, List_Len, hc]
    · exact gen_mergeSort lt h.nl _ h l (rsFrom_nl h) (Nat.le_refl _) hl (hr (by omega))
  simp only [List_SortMerge, Heap.sortMerge, handFuel_mergeSort, hm, Option.bind_eq_bind, Option.pure_def, List_Extend,
    Option.bind_map, Function.comp_def]
  refine Option.bind_congr fun q _ => ?_
  by_cases hr : q.2 = l <;> simp [hr]

/-- on every allocated list of every well-formed heap: the hypotheses of `C17Ptr.sortMerge_refines` -/
theorem gen_sortMerge_wf {h : Heap} {g : Nat → List Nat} (hw : WF h g) (lt : Int → Int → Bool) {l : Nat}
    (hl : l < h.nl) : List_SortMerge handFuel h (some l) lt = h.sortMerge lt l := by
  apply gen_sortMerge h lt l hl
  intro h2
  unfold RS
  cases hx : (h.hdr l).root with
  | some r => rfl
  | none =>
    have := hw.len_eq_zero.2 ((hw.lwf l).empty hx)
    omega

/-- `Heap.lazySetup` panics on a nil heap and on one without comparator, does nothing once the backing list exists,
    and otherwise allocates it and creates its sentinel -/
theorem gen_heapLazySetup_nil (h : Heap) : Heap_lazySetup h none = none := rfl
theorem gen_heapLazySetup_noLT (h : Heap) (l : Option Nat) :
    Heap_lazySetup h (some { LT := none, list := l }) = none := rfl
theorem gen_heapLazySetup (h : Heap) (lt : Int → Int → Bool) (l : Nat) :
    Heap_lazySetup h (some { LT := some lt, list := some l }) = some (h, some { LT := some lt, list := some l }) := rfl
theorem gen_heapLazySetup_fresh (h : Heap) (lt : Int → Int → Bool) :
    Heap_lazySetup h (some { LT := some lt, list := none }) =
      some (h.allocList.1.lazySetup h.nl, some { LT := some lt, list := some h.nl }) := rfl

/-- the scan of `Heap.Push` (`for item := h.list.Back(); item.Ok(); item = item.Previous()`: `continue` while
    `LT(t, item.item)`, else `item.Append(NewElement(t)); return`) followed by what `Push` does when the loop is left
    (`h.list.PushFront(t)`) is the model's `heapPushLoop`, for every fuel and start pointer -/
theorem gen_heapPushLoop (h : Heap) (lt : Int → Int → Bool) (l : Nat) (t : Int) (fuel : Nat) (cur : Option Nat) :
    (Heap_Push_loop1 fuel h (some { LT := some lt, list := some l }) t cur).bind (pushRest l t) =
      h.heapPushLoop lt l t cur fuel := by
  induction fuel generalizing cur with
  | zero => rfl
  | succ fuel ih =>
    cases cur with
    | none => rfl
    | some e =>
      simp only [Heap_Push_loop1, Heap.heapPushLoop, Element_Ok, Heap.okOpt, Element_Previous, NewElement,
        Element_Append, ldH_some, ldE_some, Option.bind_eq_bind, Option.bind_some, Option.pure_def]
      cases (h.node e).ok with
      | false => rfl
      | true =>
        cases lt t (h.node e).item with
        | true => exact ih _
        | false => cases (h.makeElem t).1.elemAppend e (some (h.makeElem t).2) <;> rfl

theorem gen_heapPush (h : Heap) (lt : Int → Int → Bool) (l : Nat) (t : Int) :
    Heap_Push ((h.hdr l).length.toNat + 1) h (some { LT := some lt, list := some l }) t =
      (h.heapPush lt l t).map (fun μ => (μ, some { LT := some lt, list := some l })) := by
  simp only [Heap_Push, gen_heapLazySetup, Heap.heapPush, lazySetup_hdr_length, List_PushBack, List_Back, List_PushFront,
    ldH_some, ldL_some, Option.bind_eq_bind, Option.bind_some, Option.pure_def, ← gen_heapPushLoop]
  by_cases h0 : (h.hdr l).length = 0
  · have hpb : (h.lazySetup l).pushBack l t = h.pushBack l t := by
      simp [Heap.pushBack, lazySetup_idem]
    simp only [h0, decide_true, if_true, hpb, Option.map_eq_bind, Function.comp_def]
  · simp only [h0, decide_false, if_false, Bool.false_eq_true, Option.map_bind, Function.comp_def]
    refine Option.bind_congr fun q _ => ?_
    obtain ⟨μ, r⟩ := q
    cases r <;> simp only [pushRest, Option.map_eq_bind, Option.bind_some, Function.comp_def]

/-- the first `Push` allocates the backing list and then is the model's `heapPush` on it -/
theorem gen_heapPush_fresh (fuel : Nat) (h : Heap) (lt : Int → Int → Bool) (t : Int) :
    Heap_Push fuel h (some { LT := some lt, list := none }) t =
      (h.allocList.1.heapPush lt h.nl t).map (fun μ => (μ, some { LT := some lt, list := some h.nl })) := by
  have hl : ((h.allocList.1.lazySetup h.nl).hdr h.nl).length = 0 := by
    rw [lazySetup_hdr_length]
    simp
  simp only [Heap_Push, gen_heapLazySetup_fresh, Heap.heapPush, hl, List_PushBack,
    ldH_some, ldL_some, Option.bind_eq_bind, Option.bind_some, Option.pure_def, decide_true, if_true,
    Option.map_eq_bind, Function.comp_def]

theorem gen_heapPush_nil (fuel : Nat) (h : Heap) (t : Int) : Heap_Push fuel h none t = none := rfl

/-- `Heap.Pop()` is `PopFront` on the backing list, returning the element's `(item, ok)` — the reading of `Pop` in
    `SortPtr.heapRun` / `C17Ptr.heapPop_refines_*` -/
theorem gen_heapPop (h : Heap) (lt : Int → Int → Bool) (l : Nat) :
    Heap_Pop h (some { LT := some lt, list := some l }) =
      (h.popFront l).map (fun p =>
        (p.1, some { LT := some lt, list := some l }, (p.1.node p.2).item, (p.1.node p.2).ok)) := by
  simp only [Heap_Pop, gen_heapLazySetup, List_PopFront, Element_Value, Element_Ok, Heap.okOpt, ldH_some,
    ldE_some, Option.bind_eq_bind, Option.bind_some, Option.pure_def, Option.map_eq_bind, Option.bind_assoc,
    Function.comp_def]

theorem gen_heapLen (h : Heap) (lt : Option (Int → Int → Bool)) (l : Nat) :
    Heap_Len h (some { LT := lt, list := some l }) = some (h, some { LT := lt, list := some l }, (h.hdr l).length) := rfl
/-- `Heap.Len()` before the first push -/
theorem gen_heapLen_fresh (h : Heap) (lt : Option (Int → Int → Bool)) :
    Heap_Len h (some { LT := lt, list := none }) = some (h, some { LT := lt, list := none }, 0) := rfl

/-! ### non-vacuity: the GENERATED functions run on concrete heaps (kernel-checked) -/

open FunProofs.SortPtr in
/-- the generated `SortMerge` sorts 3,-1,2,-1,0; its stability shows with the key-projected comparison below -/
example : (demo5.bind fun h => (List_SortMerge handFuel h (some 0) (fun a b => a < b)).map fun h => observe h 0) =
    some ([-1, -1, 0, 2, 3], [3, 2, 0, -1, -1], 5) := by decide +kernel
open FunProofs.SortPtr in
example : (demo5.bind fun h =>
      (List_SortMerge handFuel h (some 0) (fun a b => (a + 1000) / 10 < (b + 1000) / 10)).map fun h => observe h 0) =
    some ([-1, -1, 3, 2, 0], [0, 2, 3, -1, -1], 5) := by decide +kernel
open FunProofs.SortPtr in
example : (demo5.bind fun h => (List_IsSorted 6 h (some 0) (fun a b => a < b)).map (·.2)) = some false := by decide +kernel
/-- the hypotheses of `gen_sortMerge` hold of that heap -/
example : FunProofs.SortPtr.demo5.isSome = true ∧
    ∀ h, FunProofs.SortPtr.demo5 = some h → 0 < h.nl ∧ RS h 0 := by
  refine ⟨by decide +kernel, ?_⟩
  intro h hh
  have : (FunProofs.SortPtr.demo5.map fun h => (decide (0 < h.nl), ((h.hdr 0).root).isSome)) = some (true, true) := by decide +kernel
  rw [hh] at this
  simp only [Option.map_some, Option.some.injEq, Prod.mk.injEq, decide_eq_true_eq] at this
  exact ⟨this.1, this.2⟩
example : (do
      let lt : Int → Int → Bool := fun a b => a < b
      let (μ, hp) ← Heap_Push 9 ({} : Heap) (some { LT := some lt, list := none }) 2
      let (μ, hp) ← Heap_Push 9 μ hp (-3)
      let (μ, hp) ← Heap_Push 9 μ hp 2
      let (μ, hp, n) ← Heap_Len μ hp
      let (μ, hp, a) ← Heap_Pop μ hp
      let (μ, hp, b) ← Heap_Pop μ hp
      let (μ, hp, c) ← Heap_Pop μ hp
      let (_, _, d) ← Heap_Pop μ hp
      pure (n, [a, b, c, d])) = some (3, [(-3, true), (2, true), (2, true), (0, false)]) := by decide +kernel

end FunModel.C17Gen
