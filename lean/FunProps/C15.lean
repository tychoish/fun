import FunProofs.Wrap
import FunProofs.WrapConc

/-! C15 — function wrappers keep their execution-count, exclusion and waiting contracts.

    Concurrent contracts are theorems about every reachable state of the small-step machines of
    `FunModel/WrapConc.lean` (any number of callers, any script of outcomes, any schedule);
    sequential contracts are theorems about the call-stream semantics of `FunModel/Wrap.lean`,
    generic in the wrapped function (`logged f` records what the wrapper asked of `f`). -/
namespace FunModel.C15
open FunModel.Wrap FunModel.WrapConc

/-- However many callers and whatever the schedule, a Once-wrapped function is begun at most once,
    and as soon as any caller has returned it has been executed exactly once and that execution has ended. -/
theorem once_exactly_one_exec (k : Kind) (callers : Nat) (script : List Step) (s : OnceS)
    (h : onceM.Reachable (onceInit k callers script) s) :
    s.execs ≤ 1 ∧ (s.rets ≠ [] → s.execs = 1 ∧ s.finished = 1) :=
  have hr := onceInv_returned (onceInv_reachable h)
  ⟨hr.1, hr.2.1⟩

/-- No caller of a Once-wrapped function returns before the single execution has finished: every
    return record was made when exactly one execution had ended. -/
theorem once_no_return_before_done (k : Kind) (callers : Nat) (script : List Step) (s : OnceS)
    (h : onceM.Reachable (onceInit k callers script) s) : ∀ r ∈ s.rets, r.fin = 1 :=
  fun r hr => ((onceInv_returned (onceInv_reachable h)).2.2 r hr).1

/-- All callers observe the result of the single execution (as far as the function type can carry
    it); if that execution panicked, the caller that ran it sees the panic and the others the zero
    value, which is what `sync.Once` does. -/
theorem once_same_result (k : Kind) (callers : Nat) (script : List Step) (s : OnceS)
    (h : onceM.Reachable (onceInit k callers script) s) :
    ∀ r ∈ s.rets, r.res = onceExpected k (firstOutcome k script) ∨
      ∃ p, firstOutcome k script = .panic p ∧ r.res = .panic p :=
  fun r hr => ((onceInv_returned (onceInv_reachable h)).2.2 r hr).2

/-- Nobody is left behind: as long as some caller has not returned, some action is enabled. -/
theorem once_never_stuck (k : Kind) (callers : Nat) (script : List Step) (s : OnceS)
    (h : onceM.Reachable (onceInit k callers script) s) (hlt : s.rets.length < callers) :
    ∃ a, (onceStep s a).isSome = true := by
  obtain ⟨hc, hph⟩ := onceInv_reachable h
  cases hph with
  | fresh idle =>
    cases idle with
    | zero => exact absurd hlt (hc ▸ Nat.lt_irrefl 0)
    | succ idle => exact ⟨.enter, rfl⟩
  | running =>
    refine ⟨.fnEnd, ?_⟩
    simp only [onceStep]
    split <;> rfl
  | returned | panicked => exact ⟨.exit, rfl⟩
  | fired idle blocked after =>
    cases after with
    | succ after => exact ⟨.ret, rfl⟩
    | zero =>
      cases blocked with
      | succ blocked => exact ⟨.wake, rfl⟩
      | zero =>
        cases idle with
        | zero => exact absurd hlt (hc ▸ Nat.lt_irrefl _)
        | succ idle => exact ⟨.enter, rfl⟩

/-- non-vacuity: 3 callers; one runs the function, one is blocked inside Do, then all return -/
example : (onceM.run (onceInit .worker 3 [{ res := .ret 0 [.user 1] }])
    [.enter, .enter, .fnEnd, .exit, .enter, .wake, .ret, .ret, .ret]).map (fun s => (s.rets.map (·.res), s.execs))
    = some ([.ret 0 [.user 1], .ret 0 [.user 1], .ret 0 [.user 1]], 1) := by decide

/-- `limitExec(n)`: in every schedule never more than n executions complete, and when all callers
    have returned exactly `min n (calls − panicking executions)` have — `min n calls` when the
    function does not panic. The lock-free fast path is part of the machine. -/
theorem limit_exec_count (k : Kind) (n callers : Nat) (script : List Step) (hn : 0 < n) (s : LimS)
    (h : limM.Reachable (limInit k n callers script) s) :
    s.finished ≤ n ∧ s.execs ≤ s.finished + s.panics + 1 ∧
    (s.terminal → s.finished = min n (callers - s.panics) ∧ s.execs = s.finished + s.panics) := by
  have hi := limInv_reachable hn h
  refine ⟨hi.n_eq ▸ hi.fin_le, ?_, fun ht => ?_⟩
  · have := hi.execs_eq; have := insideFn_le s.holder; omega
  · obtain ⟨hp, he, _, hf⟩ := limInv_terminal hi ht
    rw [hp]; exact ⟨hf, he⟩

/-- `limitExec(n)`: a caller that executed the function returns its own execution's result; a caller
    that did not (fast path, or slow path with the counter already at n) returns only when n
    executions have completed, and returns the result of the latest (n-th) of them — never a stale
    or zero value. (A caller whose own execution panicked sees the panic.) -/
theorem limit_result_is_last (k : Kind) (n callers : Nat) (script : List Step) (hn : 0 < n) (s : LimS)
    (h : limM.Reachable (limInit k n callers script) s) :
    ∀ r ∈ s.rets, (∀ x, r.own = some x → r.res = x) ∧
      (r.own = none → (∃ p, r.res = .panic p) ∨ (r.fin = n ∧ s.hist.length = n ∧ s.hist.head? = some r.res)) := by
  have hi := limInv_reachable hn h
  intro r hr
  have := hi.rets_ok r hr
  rwa [retOK, hi.n_eq] at this

/-- non-vacuity: n = 2, 3 callers, results 1, 2: the third caller takes the fast path and gets 2 -/
example : (limM.run (limInit .future 2 3 [{ res := .ret 1 [] }, { res := .ret 2 [] }])
    [.fast, .lock, .load, .fnEnd, .assign, .store, .unlock, .fast, .lock, .load, .fnEnd, .assign, .store, .unlock,
     .fast, .readFast]).map (fun s => (s.rets.map (·.res), s.execs))
    = some ([.ret 2 [], .ret 2 [], .ret 1 []], 2) := by decide

/-- `Operation.Limit(n)`: the condition answers true at most n times in every schedule, and exactly
    `min n calls` times once every caller has returned. -/
theorem limit_true_count (n callers : Nat) (script : List Step) (s : OLS)
    (h : olM.Reachable (olInit n callers script) s) :
    s.execs ≤ n ∧ (s.terminal → s.execs = min n callers) := by
  have hi := olInv_reachable h
  exact ⟨hi.execs_le, fun ht => (olInv_terminal hi ht).2⟩

example : (olM.run (olInit 1 2 []) [.load, .load, .cas 0, .cas 0, .load, .fnEnd]).map
    (fun s => (s.execs, s.retExec, s.retSkip)) = some (1, 1, 1) := by decide

/-- Two executions of a Lock-ed function never overlap: at most one caller is inside the function
    in every reachable state (and the high-water mark never exceeded one). -/
theorem no_two_executions_overlap (k : Kind) (callers : Nat) (script : List Step) (s : LkS)
    (h : lkM.Reachable (lkInit k callers script) s) : s.active ≤ 1 ∧ s.maxActive ≤ 1 := by
  have hi := lkInv_reachable h
  have := hi.mutex; have := Bool.toNat_le s.locked
  exact ⟨by omega, hi.max_le⟩

example : (lkM.run (lkInit .worker 2 []) [.lock, .begin, .fnEnd, .unlock, .lock, .begin]).map
    (fun s => (s.active, s.execs, s.rets.length)) = some (1, 2, 1) := by decide

/-- A waiter obtained from Operation.Signal / Operation.Launch (as repaired) / Worker.Signal /
    Worker.Launch / Worker.Background / Producer.Background / Processor.Background does not return
    before the background execution has finished. -/
theorem waiter_not_before_done (worker : Bool) (waiters : Nat) (script : List Step) (s : BgS)
    (h : bgM.Reachable (bgInit worker false waiters script) s) : ∀ r ∈ s.rets, r.done = true :=
  (bgInv_reachable h).rets_done

/-- A waiter on a StartGroup (wg.Wait / the Worker returned by Worker.StartGroup) does not return
    before all n background executions have finished. -/
theorem waiter_not_before_done_group (n waiters : Nat) (script : List Step) (s : SgS)
    (h : sgM.Reachable (sgInit n waiters script) s) : ∀ r ∈ s.rets, r.fin = n :=
  fun r hr => ((sgInv_reachable h).rets_fin r hr).1

/-- A waiter on `Producer.Launch` does not return before the execution whose value it carries has
    finished: the (i+1)-th waiter to be served returns only when at least i+1 background executions
    have ended (the one that ended the stream, for a waiter that gets io.EOF). -/
theorem waiter_not_before_done_producer (waiters : Nat) (script : List Step) (s : PlS)
    (h : plM.Reachable (plInit waiters script) s) : ∀ r ∈ s.rets, r.idx + 1 ≤ r.fin :=
  (plInv_reachable h).2

example : (plM.run (plInit 2 [{ res := .ret 1 [] }, { res := .ret 0 [.user 1] }]) [.fnEnd, .recv, .fnEnd, .recvClosed]).map
    (fun s => s.rets.map (fun r => (r.res, r.idx, r.fin))) = some [(.ret 0 [.user 1, .eof], 1, 2), (.ret 1 [], 0, 1)] := by
  decide

example : (bgM.run (bgInit true false 2 [{ res := .ret 0 [.user 1] }]) [.begin, .fnEnd, .send, .close, .waitRet]).map
    (fun s => s.rets.map (·.res)) = some [.zero, .ret 0 [.user 1]] := by decide

/-- kernel-checked witness of defect D9: the waiter of the *unrepaired* `Operation.Launch`
    (`func(ctx) { WaitChannel(sig) }`, which drops the operation it builds) returns while the
    background operation is still running. -/
example : (bgM.run (bgInit false true 1 []) [.begin, .waitRet]).map (fun s => s.rets.map (·.done)) = some [false] := by
  decide

example : (sgM.run (sgInit 2 1 []) [.begin, .begin, .fnEnd, .done, .fnEnd, .done, .waitRet]).map
    (fun s => s.rets.map (·.fin)) = some [2] := by decide

/-- `Retry(n)` makes at most n attempts per call, in the Worker / Processor flavour and in the Producer's. -/
theorem retry_attempts_le_n (n : Nat) (f : Mach) (l : List Res) (s : f.σ) (d : Bool) (a : Int) (w : World) :
    ((retry .worker n (logged f)).call (l, s) d a w).st.1.length ≤ l.length + n ∧
    ((retry .producer n (logged f)).call (l, s) d a w).st.1.length ≤ l.length + n := by
  obtain ⟨new, h1, ⟨h2, _⟩, _⟩ := retryW_log f d a n [] (l, s) w
  obtain ⟨new', h1', ⟨h2', _⟩, _⟩ := retryP_log f d a n [] (l, s) w
  have key {x new : List Res} (h : x = new ++ l) (hn : new.length ≤ n) : x.length ≤ l.length + n := by
    rw [h, List.length_append, Nat.add_comm]; exact Nat.add_le_add_left hn _
  exact ⟨key h1 h2, key h1' h2'⟩

/-- `Worker.Retry(n)` stops at the first success or terminating error (or panic): every attempt but
    the last one of a call failed with a non-terminating error (or ErrIteratorSkip), and if fewer than
    n attempts were made the last one was a success, a terminating error or a panic.
    `new` = the attempts of this call, latest first. -/
theorem retry_stops_at_first_success_or_terminating (n : Nat) (f : Mach) (l : List Res) (s : f.σ) (d : Bool) (a : Int)
    (w : World) :
    ∃ new, ((retry .worker n (logged f)).call (l, s) d a w).st.1 = new ++ l ∧
      (∀ r ∈ new.tail, stopsW r = false) ∧ (new.length < n → ∃ r, new.head? = some r ∧ stopsW r = true) := by
  obtain ⟨new, h1, ⟨_, h3, h4⟩, _⟩ := retryW_log f d a n [] (l, s) w
  exact ⟨new, h1, h3, h4⟩

/-- the same for `Producer.Retry(n)` (terminating = io.EOF, ErrCurrentOpAbort, context errors) -/
theorem retry_stops_at_first_success_or_terminating_producer (n : Nat) (f : Mach) (l : List Res) (s : f.σ) (d : Bool)
    (a : Int) (w : World) :
    ∃ new, ((retry .producer n (logged f)).call (l, s) d a w).st.1 = new ++ l ∧
      (∀ r ∈ new.tail, stopsP r = false) ∧ (new.length < n → ∃ r, new.head? = some r ∧ stopsP r = true) := by
  obtain ⟨new, h1, ⟨_, h3, h4⟩, _⟩ := retryP_log f d a n [] (l, s) w
  exact ⟨new, h1, h3, h4⟩

/-- `Retry(n)` reports failures only if no attempt succeeded: when a call returns a non-nil error,
    none of its attempts returned nil; for a Producer a successful attempt's value is what the call returns. -/
theorem retry_reports_only_if_no_success (n : Nat) (f : Mach) (l : List Res) (s : f.σ) (d : Bool) (a : Int) (w : World) :
    (∃ new, ((retry .worker n (logged f)).call (l, s) d a w).st.1 = new ++ l ∧
      ∀ v e, ((retry .worker n (logged f)).call (l, s) d a w).res = .ret v e → e ≠ [] → ∀ r ∈ new, r.succ = false) ∧
    (∃ new, ((retry .producer n (logged f)).call (l, s) d a w).st.1 = new ++ l ∧
      (∀ r ∈ new, r.succ = true → ((retry .producer n (logged f)).call (l, s) d a w).res = r) ∧
      ∀ v e, ((retry .producer n (logged f)).call (l, s) d a w).res = .ret v e → e ≠ [] → ∀ r ∈ new, r.succ = false) := by
  obtain ⟨new, h1, _, h5⟩ := retryW_log f d a n [] (l, s) w
  obtain ⟨new', h1', _, h5'⟩ := retryP_log f d a n [] (l, s) w
  exact ⟨⟨new, h1, no_success_of_error fun r hr hs => h5 r hr hs ▸ rfl⟩,
    ⟨new', h1', h5', no_success_of_error fun r hr hs => h5' r hr hs ▸ hs⟩⟩

/-- non-vacuity: a failure, a skip, then success: three attempts, nil result -/
example : ((run (retry .worker 5 (logged (base .worker 0)))
    [{ res := .ret 0 [.user 1] }, { res := .ret 0 [.skip] }, { res := .ret 0 [] }, { res := .ret 0 [.user 2] }] [.call 0]).1,
    (run (retry .worker 5 (logged (base .worker 0)))
    [{ res := .ret 0 [.user 1] }, { res := .ret 0 [.skip] }, { res := .ret 0 [] }, { res := .ret 0 [.user 2] }] [.call 0]).2.1.1.length)
    = ([.ret 0 []], 3) := by decide

/-- Sequentially: whatever the call sequence (live or cancelled contexts, cancellations in
    between), a Once-wrapped function has been executed exactly once after the first call. -/
theorem once_seq_exactly_one_exec (k : Kind) (f : Mach) (script : List Step) (ops : List CallOp) (h : 0 < ncalls ops) :
    (run (once k (logged f)) script ops).2.1.2.1.length = 1 := by
  obtain ⟨h0, h1⟩ := once_inv_run k f script ops
  have hlen := run_length (once k (logged f)) script ops
  cases hf : (run (once k (logged f)) script ops).2.1.1.fired with
  | false =>
    rw [List.reverse_eq_nil_iff.1 (h0 hf).2] at hlen
    exact absurd hlen (Nat.ne_of_lt h)
  | true =>
    obtain ⟨r, hl, _⟩ := h1 hf
    rw [hl]; rfl

/-- Sequentially: every call of a Once-wrapped function returns what the single execution returned
    (the part of it the function type carries). -/
theorem once_seq_same_result (k : Kind) (f : Mach) (script : List Step) (ops : List CallOp) (v : Int) (e : Err)
    (h : (run (once k (logged f)) script ops).2.1.2.1 = [.ret v e]) :
    ∀ r ∈ (run (once k (logged f)) script ops).1, r = k.cache (.ret v e) := by
  obtain ⟨h0, h1⟩ := once_inv_run k f script ops
  cases hf : (run (once k (logged f)) script ops).2.1.1.fired with
  | false => rw [(h0 hf).1] at h; cases h
  | true =>
    obtain ⟨r, hl, hr⟩ := h1 hf
    rw [hl] at h
    cases h
    intro x hx
    exact (hr v e rfl).2 x (by simpa using hx)

/-- Sequentially: `limitExec(n)` has completed exactly `min n (calls − panicking executions)`
    executions after any call sequence. -/
theorem limit_seq_exec_count (n : Nat) (f : Mach) (script : List Step) (ops : List CallOp) :
    let log := (run (limit n (logged f)) script ops).2.1.2.1
    (completed log).length = min n (ncalls ops - (log.length - (completed log).length)) := by
  obtain ⟨h1, h2, _, h4, h5⟩ := lim_inv_run n f script ops
  rw [List.length_reverse, run_length] at h4 h5
  have := List.length_filter_le Res.isRet (run (limit n (logged f)) script ops).2.1.2.1
  simp only [completed] at *
  omega

/-- Sequentially: once n executions have completed, every further call returns the result of the
    latest (n-th) completed execution and executes nothing. -/
theorem limit_seq_result_is_last (n : Nat) (hn : 0 < n) (f : Mach) (script : List Step) (ops1 ops2 : List CallOp)
    (hsat : (run (limit n (logged f)) script ops1).2.1.1.counter = n) :
    let st1 := (run (limit n (logged f)) script ops1).2.1
    let w1 := (run (limit n (logged f)) script ops1).2.2
    (∀ r ∈ (runOps (limit n (logged f)) st1 w1 ops2 []).1, (completed st1.2.1).head? = some r) ∧
    (runOps (limit n (logged f)) st1 w1 ops2 []).2.1.2.1 = st1.2.1 := by
  obtain ⟨_, _, h3, _, _⟩ := lim_inv_run n f script ops1
  obtain ⟨t1, t3⟩ := lim_saturated n f _ _ hsat ops2 _ (run (limit n (logged f)) script ops1).2.2 ⟨rfl, rfl⟩
  exact ⟨fun r hr => t3 r hr ▸ h3 (Nat.lt_of_lt_of_eq hn hsat.symm), t1⟩

/-- `PreHook`: the hook runs first, then the function. For Worker/Processor/Producer a panicking
    hook is recovered and the function still runs; for Operation/Handler/Future a panicking hook
    propagates and the function does not run. (`a`, `b` are the probes around function and hook.) -/
theorem hook_order_pre (k : Kind) (f h : Mach) (hf : f.Extends) (hh : h.Extends) (a b : Nat)
    (s : f.σ) (t : h.σ) (d : Bool) (arg : Int) (w : World) :
    ∃ evh rh, (if rh.isPanic && !k.recovers then
        ((preHook k (probe a f) (probe b h)).call (s, t) d arg w).w.trace = .ret b rh :: (evh ++ .call b :: w.trace) ∧
        ((preHook k (probe a f) (probe b h)).call (s, t) d arg w).res = rh
      else ∃ evf rf,
        ((preHook k (probe a f) (probe b h)).call (s, t) d arg w).w.trace =
          .ret a rf :: (evf ++ .call a :: .ret b rh :: (evh ++ .call b :: w.trace))) := by
  obtain ⟨evh, hq⟩ := probe_call b h hh t d arg w
  obtain ⟨evf, hr⟩ := probe_call a f hf s d arg ((probe b h).call t d arg w).w
  have hw := preHook_world k (probe a f) (probe b h) s t d arg w
  refine ⟨evh, ((probe b h).call t d arg w).res, ?_⟩
  split at hw
  · rw [if_pos ‹_›, hw.1, hw.2]; exact ⟨hq, rfl⟩
  · rw [if_neg ‹_›, hw, hr, hq]; exact ⟨evf, _, rfl⟩

/-- `PostHook`: the function runs first, then the hook. For Worker/Processor/Producer a panicking
    function skips the hook; for Operation/Future the hook is deferred and always runs. -/
theorem hook_order_post (k : Kind) (f h : Mach) (hf : f.Extends) (hh : h.Extends) (a b : Nat)
    (s : f.σ) (t : h.σ) (d : Bool) (arg : Int) (w : World) :
    ∃ evf rf, (if rf.isPanic && k.recovers then
        ((postHook k (probe a f) (probe b h)).call (s, t) d arg w).w.trace = .ret a rf :: (evf ++ .call a :: w.trace) ∧
        ((postHook k (probe a f) (probe b h)).call (s, t) d arg w).res = rf
      else ∃ evh rh,
        ((postHook k (probe a f) (probe b h)).call (s, t) d arg w).w.trace =
          .ret b rh :: (evh ++ .call b :: .ret a rf :: (evf ++ .call a :: w.trace))) := by
  obtain ⟨evf, hr⟩ := probe_call a f hf s d arg w
  obtain ⟨evh, hq⟩ := probe_call b h hh t d arg ((probe a f).call s d arg w).w
  have hw := postHook_world k (probe a f) (probe b h) s t d arg w
  refine ⟨evf, ((probe a f).call s d arg w).res, ?_⟩
  split at hw
  · rw [if_pos ‹_›, hw.1, hw.2]; exact ⟨hr, rfl⟩
  · rw [if_neg ‹_›, hw, hq, hr]; exact ⟨evh, _, rfl⟩

/-- `Worker.Join` / `Processor.Join`: the parts run in order; the next part runs only if the
    previous one returned nil *and the context is still live when it returned* — otherwise the
    chain stops there (with the error, or with nil when the context was cancelled between parts)
    and the next part's state is untouched. -/
theorem hook_order_join (f g : Mach) (hf : f.Extends) (hg : g.Extends) (a b : Nat)
    (s : f.σ) (t : g.σ) (d : Bool) (arg : Int) (w : World) :
    ∃ evf, let o := (mergeW (probe a f) (probe b g)).call (s, t) d arg w
      let r := (probe a f).call s d arg w
      let tf := Ev.ret a r.res :: (evf ++ .call a :: w.trace)
      match r.res with
      | .panic p => o.w.trace = tf ∧ o.res = .panic p ∧ o.st.2 = t
      | .ret _ e =>
        if e ≠ [] then o.w.trace = tf ∧ o.res = .ret 0 e ∧ o.st.2 = t
        else if done d r.w then o.w.trace = tf ∧ o.res = .zero ∧ o.st.2 = t
        else ∃ evg, o.w.trace = .ret b o.res :: (evg ++ .call b :: tf) := by
  obtain ⟨evf, hr⟩ := probe_call a f hf s d arg w
  obtain ⟨evg, hq⟩ := probe_call b g hg t d arg ((probe a f).call s d arg w).w
  refine ⟨evf, ?_⟩
  -- with `tf` read as the trace the first part left, each branch ends in its world or in the second part's
  simp only [mergeW, ← hr]
  cases ((probe a f).call s d arg w).res with
  | panic p => exact ⟨rfl, rfl, rfl⟩
  | ret v e =>
    dsimp only
    by_cases he : e ≠ []
    · rw [if_pos he, if_pos he]; exact ⟨rfl, rfl, rfl⟩
    · by_cases hd : done d ((probe a f).call s d arg w).w = true
      · rw [if_neg he, if_neg he, if_pos hd, if_pos hd]; exact ⟨rfl, rfl, rfl⟩
      · rw [if_neg he, if_neg he, if_neg hd, if_neg hd]; exact ⟨evg, hq⟩

/-- `Operation.Join`: the next operation runs after the previous one unless the context is done at
    that moment. -/
theorem hook_order_join_operation (f g : Mach) (hf : f.Extends) (hg : g.Extends) (a b : Nat)
    (s : f.σ) (t : g.σ) (d : Bool) (arg : Int) (w : World) :
    ∃ evf, let o := (mergeO (probe a f) (probe b g)).call (s, t) d arg w
      let r := (probe a f).call s d arg w
      let tf := Ev.ret a r.res :: (evf ++ .call a :: w.trace)
      match r.res with
      | .panic p => o.w.trace = tf ∧ o.res = .panic p ∧ o.st.2 = t
      | .ret _ _ =>
        if done d r.w then o.w.trace = tf ∧ o.res = .zero ∧ o.st.2 = t
        else ∃ evg rg, o.w.trace = .ret b rg :: (evg ++ .call b :: tf) := by
  obtain ⟨evf, hr⟩ := probe_call a f hf s d arg w
  obtain ⟨evg, hq⟩ := probe_call b g hg t d arg ((probe a f).call s d arg w).w
  refine ⟨evf, ?_⟩
  simp only [mergeO, ← hr]
  cases ((probe a f).call s d arg w).res with
  | panic p => exact ⟨rfl, rfl, rfl⟩
  | ret v e =>
    dsimp only
    split
    · exact ⟨rfl, rfl, rfl⟩
    · exact ⟨evg, _, by split <;> exact hq⟩

/-- `Handler.Join` (and `Handler.PreHook(prev) = prev.Join(of)`): both handlers run, in order, unless
    the first panics. -/
theorem hook_order_join_handler (f g : Mach) (hf : f.Extends) (hg : g.Extends) (a b : Nat)
    (s : f.σ) (t : g.σ) (d : Bool) (arg : Int) (w : World) :
    ∃ evf, let o := (mergeH (probe a f) (probe b g)).call (s, t) d arg w
      let r := (probe a f).call s d arg w
      let tf := Ev.ret a r.res :: (evf ++ .call a :: w.trace)
      match r.res with
      | .panic p => o.w.trace = tf ∧ o.res = .panic p
      | .ret _ _ => ∃ evg rg, o.w.trace = .ret b rg :: (evg ++ .call b :: tf) := by
  obtain ⟨evf, hr⟩ := probe_call a f hf s d arg w
  obtain ⟨evg, hq⟩ := probe_call b g hg t d arg ((probe a f).call s d arg w).w
  refine ⟨evf, ?_⟩
  simp only [mergeH, ← hr]
  cases ((probe a f).call s d arg w).res with
  | panic p => exact ⟨rfl, rfl⟩
  | ret v e => exact ⟨evg, _, by dsimp only; split <;> exact hq⟩

/-- `Future.Join(merge, ops...)`: each step evaluates the accumulated future first, then the next one. -/
theorem hook_order_join_future (f g : Mach) (hf : f.Extends) (hg : g.Extends) (a b : Nat)
    (s : f.σ) (t : g.σ) (d : Bool) (arg : Int) (w : World) :
    ∃ evf, let o := (mergeF (probe a f) (probe b g)).call (s, t) d arg w
      let r := (probe a f).call s d arg w
      let tf := Ev.ret a r.res :: (evf ++ .call a :: w.trace)
      match r.res with
      | .panic p => o.w.trace = tf ∧ o.res = .panic p
      | .ret _ _ => ∃ evg rg, o.w.trace = .ret b rg :: (evg ++ .call b :: tf) := by
  obtain ⟨evf, hr⟩ := probe_call a f hf s d arg w
  obtain ⟨evg, hq⟩ := probe_call b g hg t d arg ((probe a f).call s d arg w).w
  refine ⟨evf, ?_⟩
  simp only [mergeF, ← hr]
  cases ((probe a f).call s d arg w).res with
  | panic p => exact ⟨rfl, rfl⟩
  | ret v e => exact ⟨evg, _, by dsimp only; split <;> exact hq⟩

/-- `Producer.Join(next)`: once the first producer is finished with (it returned io.EOF or failed: any
    stage but "run first") a call does not touch it. (One call; that the stage does not come back to "run
    first" is `pjoinSecond_stage`.) -/
theorem hook_order_join_producer (f g : Mach) (j : PJoinSt) (s : f.σ) (t : g.σ) (d : Bool) (arg : Int) (w : World)
    (h : j.stage ≠ 0) : ((joinP f g).call (j, s, t) d arg w).st.2.1 = s := by
  by_cases h3 : j.stage = 3
  · simp [joinP, h3]
  · by_cases h1 : j.stage = 1
    · simp [joinP, h1]
    · by_cases h2 : j.stage = 2
      · simp [joinP, h2]
      · simp [joinP, h, h1, h2, h3]

/-- non-vacuity: first producer yields 1 then io.EOF, second 7 then io.EOF; afterwards io.EOF for ever,
    and neither producer is invoked again -/
example : ((run (joinP (base .producer 0) (base .producer 11))
    [{ res := .ret 1 [] }, { res := .ret 0 [.eof] }, { res := .ret 7 [] }, { res := .ret 0 [.eof] }, { res := .ret 9 [] }]
    [.call 0, .call 0, .call 0, .call 0]).1,
    (run (joinP (base .producer 0) (base .producer 11))
    [{ res := .ret 1 [] }, { res := .ret 0 [.eof] }, { res := .ret 7 [] }, { res := .ret 0 [.eof] }, { res := .ret 9 [] }]
    [.call 0, .call 0, .call 0, .call 0]).2.2.script.length)
    = ([.ret 1 [], .ret 7 [], .ret 0 [.eof], .ret 0 [.eof]], 1) := by decide

/-- non-vacuity (the hypotheses `Extends` hold for the scripted functions) and the abort: the first
    part cancels the context, the second does not run -/
example : (base .worker 0).Extends ∧ (base .operation 11).Extends := ⟨base_extends _ _, base_extends _ _⟩

example : ((run (mergeW (probe 0 (base .worker 0)) (probe 1 (base .worker 11)))
    [{ res := .ret 0 [], cancel := true }, { res := .ret 0 [.user 1] }] [.call 0]).1,
    invocations 11 (run (mergeW (probe 0 (base .worker 0)) (probe 1 (base .worker 11)))
    [{ res := .ret 0 [], cancel := true }, { res := .ret 0 [.user 1] }] [.call 0]).2.2.trace) = ([.zero], 0) := by decide

/-! ## the outcome predicates evaluated by the driver on the implementation's observations (T-out)

    An observation lists, for each quiescent point of the real run, (callers returned, executions
    inside the function), then the results, the invocation count and the concurrency high-water
    mark. Each theorem says: the pair read off *any* reachable state of the model passes the
    per-point test of its `allowed…` predicate, and (Once, `limitExec`, `Operation.Limit`, Lock) the
    final part read off any terminal state passes the final test. So an observation rejected on
    these grounds cannot come from any schedule of the model. For Once and `limitExec` the tests are
    the model's own `…PhaseOK` / `…FinalOK`; for the others the theorem states what the predicate
    tests (`allowedOpLimit`, `allowedLock`, `allowedBg`, `allowedSg`) on the fields of the state that
    `olSim` … `sgSim` report as (returned, inside). -/

theorem once_observation_allowed (k : Kind) (callers : Nat) (script : List Step) (s : OnceS)
    (h : onceM.Reachable (onceInit k callers script) s) :
    oncePhaseOK (s.rets.length, if s.runner = .inFn then 1 else 0) = true ∧
    (s.rets.length = callers → onceFinalOK k callers script (s.rets.map (·.res)) s.execs = true) := by
  have hex := once_exactly_one_exec k callers script s h
  have hsame := once_same_result k callers script s h
  constructor
  · cases (onceInv_reachable h).2 <;> rfl
  · intro hall
    simp only [onceFinalOK, List.length_map, hall, beq_self_eq_true, Bool.true_and, Bool.and_eq_true, decide_eq_true_eq,
      Bool.or_eq_true, beq_iff_eq, List.all_eq_true, List.mem_map, forall_exists_index, and_imp]
    refine ⟨⟨hex.1, ?_⟩, ?_⟩
    · by_cases hc : callers = 0
      · exact .inl hc
      · exact .inr (hex.2 fun hnil => hc (hall.symm.trans (congrArg List.length hnil))).1
    · intro x r hr hx
      subst hx
      rcases hsame r hr with hs | ⟨p, hp, hs⟩
      · left; rw [hs]; unfold onceExpected firstOutcome; cases k.proj (popStep script).1.res <;> rfl
      · right; unfold firstOutcome at hp; rw [hp, hs]; simp [isPanicB]

theorem limit_observation_allowed (k : Kind) (n callers : Nat) (script : List Step) (hn : 0 < n) (s : LimS)
    (h : limM.Reachable (limInit k n callers script) s) :
    limPhaseOK (s.finished + s.panics) (s.rets.length, insideFn s.holder) = true ∧
    (s.terminal → limFinalOK n callers (s.rets.map (·.res)) s.execs = true) := by
  have hi := limInv_reachable hn h
  constructor
  · simp only [limPhaseOK, Bool.and_eq_true, decide_eq_true_eq, Bool.or_eq_true, beq_iff_eq]
    exact ⟨insideFn_le s.holder, Decidable.or_iff_not_imp_left.2 (limInv_inside hi)⟩
  · intro ht
    obtain ⟨_, he, hl, hf⟩ := limInv_terminal hi ht
    simp only [limFinalOK, hi.rets_pan, List.length_map, Bool.and_eq_true, beq_iff_eq, decide_eq_true_eq]
    exact ⟨⟨hl, he ▸ Nat.le_add_left ..⟩, by rw [he, Nat.add_sub_cancel]; exact hf⟩

/-- `Operation.Limit`: never more than n executions inside; when all have returned, every caller is
    accounted for and the operation ran `min n calls` times -/
theorem oplimit_observation_allowed (n callers : Nat) (script : List Step) (s : OLS)
    (h : olM.Reachable (olInit n callers script) s) :
    s.inFn ≤ n ∧ (s.terminal → s.retExec + s.retPanic + s.retSkip = callers ∧ s.execs = min n callers) := by
  have hi := olInv_reachable h
  refine ⟨?_, olInv_terminal hi⟩
  have := hi.execs_le; have := hi.execs_eq; omega

/-- `Lock`: when all callers have returned, each call was exactly one execution -/
theorem lock_observation_allowed (k : Kind) (callers : Nat) (script : List Step) (s : LkS)
    (h : lkM.Reachable (lkInit k callers script) s) :
    s.active ≤ 1 ∧ (s.rets.length = callers → s.execs = callers) := by
  have hi := lkInv_reachable h
  have := hi.callers_eq; have := hi.execs_eq
  exact ⟨(no_two_executions_overlap k callers script s h).1, fun hall => by omega⟩

/-- Signal / Launch / Background: while the background function has not returned, no waiter has -/
theorem background_observation_allowed (worker : Bool) (waiters : Nat) (script : List Step) (s : BgS)
    (h : bgM.Reachable (bgInit worker false waiters script) s) : s.fnFinished = false → s.rets = [] :=
  (bgInv_reachable h).none_early

/-- StartGroup: while any of the n executions is inside the function, no waiter has returned -/
theorem startgroup_observation_allowed (n waiters : Nat) (script : List Step) (s : SgS)
    (h : sgM.Reachable (sgInit n waiters script) s) : s.inFn ≤ n ∧ (s.inFn > 0 → s.rets = []) := by
  have hi := sgInv_reachable h
  have := hi.fin_eq
  refine ⟨by omega, fun hin => List.eq_nil_iff_forall_not_mem.2 fun r hr => ?_⟩
  have := (hi.rets_fin r hr).2
  omega

end FunModel.C15
