import FunProofs.GenTieErr

/-! C12 — T-gen obligations. tools/go2lean (errshapes.go) re-reads `ers/merged.go`, `ers/ers.go`, `ers/panic.go`
    and `internal/wrap.go` on every run and rewrites lean/FunGen/ErrShapes.lean:

      * the type switches of `(*Stack).Push`, `internal.Unwind`, `ers.ParsePanic`, `ers.Ok` as ordered tables
        (`pushSwitch`, `unwindSwitch`, `parsePanicSwitch`, `okSwitch`: one row per `case`, in source order, with the
        types it lists and what its body does, plus the `default` arm), and the method set of `*Stack`;
      * the pointer/field code of `(*Stack).Resolve/Len/Ok/Unwrap/Is/As` and of the `default` clause of `Push`
        (`stackResolve`, …, `stackLink`) statement by statement over the cell chain of FunModel/ErrShapes.lean;
      * the glue `Add`, `Join`, `Wrap`, and the functions all of this denotes on the error trees of
        FunModel/Err.lean (`push`, `pushAll`, `add`, `join`, `unwind`, `ok`, `wrap`, `parsePanic`).

    The theorems say that the hand-written model the C12 theorems (FunProps/C12.lean) are about — `Err.push`,
    `ErrList.pushAll`, `flatten`, `resolve`, `join`, `Err.unwind`, `Err.okStack`, `wrapAnnot`, `parsePanicErr`,
    `lenAfter`, the `stack` cases of `Err.is`/`Err.as` — is what the regenerated definitions compute, on every
    error tree and every item list, and that every regenerated switch dispatches every dynamic type that can
    exist in Go (also foreign types implementing several of the interfaces, which the model's six node kinds
    do not include) the way the model's documented precedence says. Reordering two clauses that some type can
    both match, dropping a clause, or changing what a clause does changes the table and one of these stops
    proving; reordering clauses no value can both match (nil / *Stack, error / string / []error) does not. -/
namespace FunModel.C12Gen
open FunModel FunModel.ErrShapes FunGen.ErrShapes FunProofs.GenTieErr

/-- `Stack.Push`: nil returns; a `*Stack` is walked node by node; `Unwind() []error` before `Unwrap() []error`;
    everything else is linked as one item — for every dynamic type -/
theorem gen_push_dispatch (d : Dyn) (h : d.valid = true) : pushSwitch.select d = pushArmOf d := by
  revert d
  refine forall_dyn ?_
  decide +kernel

/-- `internal.Unwind`: `Unwind() []T` before `Unwrap() T` before `Unwrap() []T`, nil ends the walk, else a leaf -/
theorem gen_unwind_dispatch (d : Dyn) (h : d.valid = true) : unwindSwitch.select d = unwindArmOf d := by
  revert d
  refine forall_dyn ?_
  decide +kernel

/-- `ers.ParsePanic`: nil ↦ nil; an error is joined with ErrRecoveredPanic; a string, a `[]error` and anything
    else are converted first -/
theorem gen_parsePanic_dispatch (d : Dyn) (h : d.valid = true) : parsePanicSwitch.select d = panicArmOf d := by
  revert d
  refine forall_dyn ?_
  decide +kernel

/-- `ers.Ok`: nil is ok, a value with an `Ok() bool` method is asked, anything else is an error -/
theorem gen_ok_dispatch (d : Dyn) (h : d.valid = true) : okSwitch.select d = okArmOf d := by
  revert d
  refine forall_dyn ?_
  decide +kernel

/-- the dynamic type the mapping table gives a `stack` node is the method set `*Stack` has in the source -/
theorem gen_stack_methods (p : Pat) : Dyn.stack.has p = (p == .stackPtr || stackMethods.contains p) := by
  cases p <;> decide

/-- the mapping table only produces dynamic types that can exist -/
theorem gen_table_valid (e : Option Err) : (Dyn.ofOpt e).valid = true := by
  cases e with
  | none => rfl
  | some e => exact ofErr_valid e

theorem gen_push (acc : List Err) (e : Err) : e.push acc = push acc e :=
  (runPush_model gen_push_dispatch acc e).symm

/-- pushing a slice of errors, nil entries included -/
theorem gen_pushAll (acc : List Err) (es : ErrList) : es.pushAll acc = pushAll acc es :=
  (runPushAll_model gen_push_dispatch acc es).symm

/-- `Stack.Add` on an empty stack -/
theorem gen_flatten (es : ErrList) : flatten es = add [] es := gen_pushAll [] es

/-- the `default` clause of `Push` (`e.next = &Stack{next: e.next, err: e.err}; e.err = err; e.count++`): one `link`
    arm is one `cons` on the model's item list -/
theorem gen_link (xs : List Err) (x : Err) : stackLink (ofItems xs) (some x) = some (ofItems (x :: xs)) := by
  cases xs with
  | nil => rfl
  | cons y r =>
    simp only [ofItems_cons]
    simp [stackLink, ldErr, ldNext, ldCount, stNext, stErr, stCount, mkNode, tailCells, bind, Option.bind]

/-- `Stack.Resolve` on the chain of `xs` -/
theorem gen_resolve (xs : List Err) : (stackResolve (ofItems xs)).map StackRet.toErr = some (resolve xs) := by
  match xs with
  | [] => rfl
  | [x] => rfl
  | x :: y :: r =>
    -- `count` is neither 0 (nil) nor 1 (the single item): the stack itself is returned
    have h0 : ¬ ((r.length : Int) + 1 + 1 = 0) := by omega
    have h1 : ¬ ((r.length : Int) + 1 + 1 = 1) := by omega
    simp [ofItems_cons, stackResolve, ptrIsNil, orP, cmpP, ldCount, ldErr, bind, Option.bind, h0, h1, StackRet.toErr,
      resolve, items, tailCells, items_tailCells]

/-- … and nil on a nil receiver -/
theorem gen_resolve_nilptr : stackResolve [] = some StackRet.nil := rfl

/-- `ers.Join` = zero Stack, Add, Resolve -/
theorem gen_join (es : ErrList) : FunGen.ErrShapes.join es = some (FunModel.join es) := by
  show (stackResolve (ofItems (add [] es))).map StackRet.toErr = _
  rw [← gen_flatten, gen_resolve]; rfl

/-- `Stack.Len` counts the links -/
theorem gen_len (es : ErrList) : stackLen (ofItems (flatten es)) = some (lenAfter es : Int) := by
  unfold lenAfter; cases flatten es <;> rfl

theorem gen_len_nilptr : stackLen [] = some 0 := rfl

/-- `internal.Unwind` (= `ers.Unwind`) on a non-nil error -/
theorem gen_unwind (e : Err) : e.unwind = unwind e :=
  (List.nil_append _).symm.trans (runUnwind_model gen_unwind_dispatch e []).symm

/-- `(*Stack).Ok` on the chain of `xs` -/
theorem gen_stackOk (xs : List Err) : stackOk (ofItems xs) = some xs.isEmpty := by
  cases xs <;> rfl

/-- `ers.Ok`: nil and an empty `*Stack` are ok, nothing else -/
theorem gen_ok (e : Option Err) : ok e = some (match e with | none => true | some e => e.okStack) := by
  unfold ok runOk
  rw [gen_ok_dispatch _ (gen_table_valid e)]
  cases e with
  | none => rfl
  | some e =>
    cases e with
    | stack cs => simp [Dyn.ofOpt, Dyn.ofErr, okArmOf, Dyn.stack, gen_stackOk, Err.okStack]
    | _ => simp [Dyn.ofOpt, Dyn.ofErr, okArmOf, Err.okStack]

theorem gen_wrap (e : Option Err) (a : Nat) : wrap e a = some (wrapAnnot e a) := by
  unfold wrap
  rw [gen_ok]
  cases e with
  | none => rfl
  | some e =>
    by_cases h : e.okStack = true
    · simp [h, runRet, wrapAnnot, bind, Option.bind]
    · simp [h, runRet, wrapAnnot, joinArgs, gen_join, bind, Option.bind]

/-- `ers.ParsePanic` for a nil or error payload -/
theorem gen_parsePanic (r : Option Err) : parsePanic r = some (parsePanicErr r) := by
  unfold parsePanic runPanic
  rw [gen_parsePanic_dispatch _ (gen_table_valid r)]
  cases r with
  | none => rfl
  | some e =>
    have : (Dyn.ofOpt (some e)).isNil = false ∧ (Dyn.ofOpt (some e)).error = true := by
      cases e <;> exact ⟨rfl, rfl⟩
    simp [panicArmOf, this.1, this.2, runRet, joinArgs, gen_join, parsePanicErr]

/-- the standard library's `errors.Is` loop on a `*Stack`, run with the regenerated `Is` and `Unwrap` methods
    (fuel = number of nodes), is the `stack` case of the model's `Err.is` -/
theorem gen_stack_is (xs : List Err) (t : Nat) :
    errorsIsStack stackIs stackUnwrap (xs.length + 1) (ofItems xs) t
      = some ((Err.stack (ErrList.ofErrs xs)).is t) := by
  cases xs with
  | nil => rfl
  | cons x r => simp [ofItems_cons, is_chain t r _ _ (Nat.lt_succ_of_lt (Nat.lt_succ_self _)), Err.is]

/-- `errors.As` likewise -/
theorem gen_stack_as (xs : List Err) (ty : Nat) :
    errorsAsStack stackAs stackUnwrap (xs.length + 1) (ofItems xs) ty
      = some ((Err.stack (ErrList.ofErrs xs)).as ty) := by
  cases xs with
  | nil => rfl
  | cons x r =>
    simp [ofItems_cons, as_chain ty r _ _ (Nat.lt_succ_of_lt (Nat.lt_succ_self _)), Err.as, ErrList.asFirst_ofErrs,
      findSome?_cons_or]

/-- the helpers the model relies on without translating them (`sparse`, `buffer`, `grow`, `Stack.Unwind`,
    `ers.Unwind`, `Stack.Future/Handler`) still have the recorded syntax tree -/
theorem gen_helpers : helpers = allHelpers := rfl

/-! ### non-vacuity, kernel-checked through the *generated* definitions -/

/-- a foreign type implementing both `Unwind() []error` and `Unwrap() []error` is a valid dynamic type the
    dispatch theorems speak about: `Push` opens it through `Unwind` -/
example : ({ error := true, unwindMany := true, unwrapMany := true } : Dyn).valid = true ∧
    pushSwitch.select { error := true, unwindMany := true, unwrapMany := true } = .pushEach .unwindMany := by decide +kernel

/-- a `*Stack` is walked as a chain by `Push` and listed through `Unwind()` by `internal.Unwind` -/
example : pushSwitch.select Dyn.stack = .walkChain ∧ unwindSwitch.select Dyn.stack = .retSparse .unwindMany := by
  decide +kernel

def sample : ErrList :=
  .cons (.leaf 1) (.skip (.cons (.multi 10 (.cons (.wrap 11 (.leaf 2)) (.skip (.cons
    (.stack (.cons (.typed 7 3) (.cons (.leaf 4) .nil))) .nil)))) (.cons (.unwinder 12 (.cons (.leaf 5) .nil)) .nil)))

example : (add [] sample).map Err.label = ["L5", "L4", "T7.3", "W11", "L1"] := by decide +kernel
example : ((FunGen.ErrShapes.join sample).map (fun o => (unwindOpt o).map Err.label))
    = some ["L5", "L4", "T7.3", "W11", "L1"] := by decide +kernel
example : (unwind (.wrap 1 (.wrap 2 (.stack (.cons (.leaf 3) (.skip (.cons (.leaf 4) .nil))))))).map Err.label
    = ["W1", "W2", "L3", "L4"] := by decide +kernel
example : (do let p ← stackLink (ofItems []) (some (.leaf 1)); let p ← stackLink p (some (.leaf 2));
              let r ← stackResolve p; pure ((unwindOpt r.toErr).map Err.label, (← stackLen p)))
    = some (["L2", "L1"], 2) := by decide +kernel
example : (parsePanic (some (.leaf 1))).map (fun o => (unwindOpt o).map Err.label) = some ["L1000", "L1"] := by decide +kernel
example : (wrap (some (.stack .nil)) 5).map Option.isNone = some true := by decide +kernel
example : (wrap (some (.leaf 1)) 5).map (fun o => (unwindOpt o).map Err.label) = some ["L5", "L1"] := by decide +kernel
example : errorsIsStack stackIs stackUnwrap 3 (ofItems [.leaf 1, .wrap 2 (.leaf 3)]) 3 = some true := by decide +kernel

end FunModel.C12Gen
