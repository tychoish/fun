import FunProofs.QueuePtr
import FunProofs.DequePtr
import FunProofs.Conc

/-! C20 — pointer-level obligations for the non-destructive iterators. The iterator models follow
    `St.linkOf` (Queue) and `St.nbr` (Deque) from a cursor that may stand on an element that has been
    removed in the meantime. These theorems say that in every reachable state those functions are the
    `link` / `next` / `prev` fields of a heap produced by the *generated* link updates of
    queue.go / deque.go (lean/FunGen/QueuePtr.lean, DequePtr.lean), for every element ever allocated —
    in particular that a removed element keeps the links it had (`pop` does not reset them, `popFront`
    does not touch `e.link`). -/
namespace FunModel.C20Ptr
open FunModel.Conc

/-- Queue: in every reachable state there is a heap, produced from `makeQueue`'s by the generated
    `doAdd`/`popFront`, whose `link` field is the model's `linkOf` for *every* address (sentinel, linked and
    removed entries), whose `back` is the model's, and whose items are the model's `valOf` -/
theorem queue_iterator_follows_heap {q0 : FunModel.Queue.St} (h0 : FunModel.Queue.InitQ q0)
    {programs : List (List FunModel.Queue.Op)} {log : List (FunModel.ConcSubj.Ev FunModel.Queue.St FunModel.Queue.Op)}
    {s : Sys FunModel.Queue.St FunModel.Queue.Op}
    (h : FunModel.ConcSubj.Reach' FunModel.Queue.subject (initSys q0 programs) log s) :
    ∃ hp, FunProofs.QueuePtr.PReach hp ∧ (∀ c, hp.link c = s.subj.linkOf c) ∧ hp.back = some s.subj.back ∧
      hp.front = some 0 ∧ (∀ c, c ≠ 0 → c < hp.nn → hp.item c = s.subj.valOf c) := by
  obtain ⟨hp, h1, h2⟩ := FunProofs.QueuePtr.run_rep h0 h
  exact ⟨hp, h1, h2.links, h2.back, h2.front, h2.vals⟩

/-- Deque: in every reachable state there is a heap, produced from `makeDeque`'s by the generated
    `addAfter`/`pop`, whose `next` / `prev` fields are the model's `nbr .front` / `nbr .back` for every
    element ever allocated (root, linked, removed), and whose items are the model's `valOf` -/
theorem deque_iterator_follows_heap (dq : Nat) {x0 : FunModel.Deque.St} (hq : x0.q = []) (hid : x0.nextId = 1)
    (programs : List (List FunModel.Deque.Op)) {s : Sys FunModel.Deque.St FunModel.Deque.Op}
    (hr : Reach FunModel.Deque.subject (initSys x0 programs) s) :
    ∃ hp, FunProofs.DequePtr.PReach dq hp ∧
      (∀ c, c < hp.nn → (hp.node c).next = some (s.subj.nbr .front c) ∧ (hp.node c).prev = some (s.subj.nbr .back c)) ∧
      (∀ c, c ≠ 0 → c < hp.nn → (hp.node c).item = s.subj.valOf c) := by
  have h0 : FunProofs.DequePtr.Rep dq (initSys x0 programs).subj := ⟨_, .init, FunProofs.DequePtr.R.init dq hq hid⟩
  obtain ⟨hp, h1, h2⟩ := FunProofs.DequePtr.reach_rep dq (initSys_wf x0 programs) h0 hr
  exact ⟨hp, h1, fun c hc => h2.links_eq hc, h2.vals⟩

/-! non-vacuity: the hypotheses hold for the initial systems -/
example : FunModel.Queue.InitQ FunModel.Queue.mkUnlimited := Or.inl rfl
example : ({ tracker := .hard 2 0 } : FunModel.Deque.St).q = [] ∧ ({ tracker := .hard 2 0 } : FunModel.Deque.St).nextId = 1 :=
  ⟨rfl, rfl⟩

end FunModel.C20Ptr
