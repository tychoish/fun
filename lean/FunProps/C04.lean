import FunProofs.PipeFeeder
import FunProofs.PipeFanIn
import FunProofs.PipeFanOut
import FunProofs.PipeSplit
import FunProofs.PipeOutcome
import FunProps.C01

/-! # C04 — pipelines terminate: no stuck consumer, no leaked goroutine

Statement (properties.jsonl): every goroutine started on behalf of an iterator or worker group exits
once the consumer is done in any of the documented ways (input exhausted, Close on the output, the
context of the first advance cancelled) regardless of how many items were consumed before; a consumer
blocked in Next/ReadOne returns promptly after Close or cancellation; Close is idempotent and never
blocks; a finite input always leads to io.EOF (no deadlock).

Liveness is stated as safety (DESIGN §3), per process model of `FunModel/Pipe.lean`:
* `*_no_deadlock` — in every reachable state that is not terminal (all goroutines exited and the
  consumer's drain loop ended) some *internal* action (goroutine or consumer, not an environment
  close/cancel) is enabled: no schedule gets stuck, whatever was closed or cancelled and whenever;
* `*_no_deadlock_after_stop` — once the output was closed or its context cancelled (at any cut point:
  `close`/`cancel` are enabled in every state), as long as some goroutine is alive some *goroutine*
  action is enabled: the goroutines unwind without any help from the consumer (it may have stopped
  reading, or been abandoned after Close);
* `*_measure_decreases`, `*_schedules_finite` — a natural-number measure strictly decreases with every
  action, so every schedule is finite; with no_deadlock every maximal run ends in a terminal state:
  `*_maximal_run_terminal`, and in a failure-free run the consumer's last ReadOne is io.EOF
  (`*_allowed`: the outcome of every terminal state satisfies the decidable predicate the driver
  evaluates on the implementation's outcomes);
* `*_close_idempotent`, `*_close_never_blocks`, `*_blocked_consumer_released`.
"Promptly" is "in its next own action" — wall-clock time is not expressible.

The abandoned-Split-output case is FALSE (finding D25, open): `split_abandoned_first_output_leaks`
gives the kernel-checked schedule and proves the leak permanent. -/
namespace FunModel.C04
open FunModel.Pipe

theorem feeder_no_deadlock {c : Feeder.Cfg} {input : List Nat} {k1 k2 : Nat} {s : Feeder.St}
    (h : Feeder.Reachable c input k1 k2 s) (hnt : s.terminal = false) :
    ∃ a, a.isEnv = false ∧ (Feeder.step c s a).isSome = true :=
  Feeder.no_deadlock_internal (Feeder.reachable_inv h) hnt

theorem feeder_no_deadlock_after_stop {c : Feeder.Cfg} {input : List Nat} {k1 k2 : Nat} {s : Feeder.St}
    (h : Feeder.Reachable c input k1 k2 s) (hstop : s.closed = true ∨ s.ucancel = true) (hne : s.allExited = false) :
    ∃ a, a.isGoroutine = true ∧ (Feeder.step c s a).isSome = true :=
  Feeder.no_deadlock_stopped (Feeder.reachable_inv h) (by rcases hstop with h | h <;> simp [Feeder.St.wdone, h]) hne

theorem feeder_measure_decreases {c : Feeder.Cfg} {s s' : Feeder.St} {a : Feeder.Act}
    (hs : Feeder.step c s a = some s') : Feeder.measure s' < Feeder.measure s :=
  Feeder.measure_step (Feeder.step_sound hs)

theorem feeder_schedules_finite {c : Feeder.Cfg} {s s' : Feeder.St} {as : List Feeder.Act}
    (hr : Feeder.run c s as = some s') : as.length ≤ Feeder.measure s := by
  have := List.foldlM_option_length_le _ (fun _ _ _ => feeder_measure_decreases) as hr; omega

theorem feeder_maximal_run_terminal {c : Feeder.Cfg} {input : List Nat} {k1 k2 : Nat} {s : Feeder.St}
    (h : Feeder.Reachable c input k1 k2 s) (hmax : ∀ a, a.isEnv = false → Feeder.step c s a = none) :
    s.terminal = true :=
  Feeder.stuck_terminal (Feeder.reachable_inv h) hmax

theorem feeder_allowed {c : Feeder.Cfg} {input : List Nat} {k1 k2 : Nat} {s : Feeder.St}
    (h : Feeder.Reachable c input k1 k2 s) (ht : s.terminal = true) :
    allowed true input (Feeder.outcome s) = true := by
  obtain ⟨hall, hdone⟩ : s.allExited = true ∧ s.cons = .done := by simpa [Feeder.St.terminal] using ht
  have hpre := C01.buffer_order h
  refine allowed_of (Feeder.leaked_eq_zero_iff.mpr hall) (fun x => hpre.sublist.count_le x) (fun hf => ?_) (fun _ => hpre)
  have he : s.envStopped = false := by simpa [Feeder.outcome] using hf
  obtain ⟨hgot, heof⟩ := Feeder.terminal_clean (Feeder.reachable_inv h) he hdone
  exact ⟨by simp [Feeder.outcome, hdone, heof], by simp [Feeder.outcome, hgot]⟩

theorem feeder_close_idempotent {c : Feeder.Cfg} {s s1 s2 : Feeder.St}
    (h1 : Feeder.step c s .close = some s1) (h2 : Feeder.step c s1 .close = some s2) :
    s2 = { s1 with closeBudget := s1.closeBudget - 1 } := by
  cases Feeder.step_sound h1
  cases Feeder.step_sound h2
  rfl

/-- Close is enabled, and one step, in every state; `closeBudget` only bounds how often the environment acts in a schedule -/
theorem feeder_close_never_blocks {c : Feeder.Cfg} {s : Feeder.St} (hb : 0 < s.closeBudget) :
    (Feeder.step c s .close).isSome = true := by
  rw [Feeder.step_complete (.close hb)]; rfl

theorem feeder_blocked_consumer_released {c : Feeder.Cfg} {s s1 : Feeder.St} {a : Feeder.Act}
    (hp : s.cons = .parked) (ha : a = .close ∨ a = .cancel) (h1 : Feeder.step c s a = some s1) :
    ∃ s2, Feeder.step c s1 .cCtx = some s2 ∧ s2.cons = .done := by
  rcases ha with rfl | rfl <;> cases Feeder.step_sound h1 <;>
    exact ⟨_, Feeder.step_complete (.cCtx hp (by simp [Feeder.St.wdone])), rfl⟩

theorem fanin_no_deadlock {c : FanIn.Cfg} {privs : List (List Nat)} {shared : List Nat} {k1 k2 : Nat} {s : FanIn.St}
    (h : FanIn.Reachable c privs shared k1 k2 s) (hnt : s.terminal = false) :
    ∃ a, a.isEnv = false ∧ (FanIn.step c s a).isSome = true :=
  FanIn.no_deadlock_internal (FanIn.reachable_good h).inv hnt

theorem fanin_no_deadlock_after_stop {c : FanIn.Cfg} {s : FanIn.St}
    (hstop : s.closed = true ∨ s.ucancel = true) (hne : s.allExited = false) :
    ∃ a, a.isGoroutine = true ∧ (FanIn.step c s a).isSome = true :=
  FanIn.no_deadlock_stopped (by rcases hstop with h | h <;> simp [FanIn.St.wdone2, h]) hne

theorem fanin_measure_decreases {c : FanIn.Cfg} {s s' : FanIn.St} {a : FanIn.Act}
    (hs : FanIn.step c s a = some s') : FanIn.measure s' < FanIn.measure s :=
  FanIn.measure_step (FanIn.step_sound hs)

theorem fanin_schedules_finite {c : FanIn.Cfg} {s s' : FanIn.St} {as : List FanIn.Act}
    (hr : FanIn.run c s as = some s') : as.length ≤ FanIn.measure s := by
  have := List.foldlM_option_length_le _ (fun _ _ _ => fanin_measure_decreases) as hr; omega

theorem fanin_maximal_run_terminal {c : FanIn.Cfg} {privs : List (List Nat)} {shared : List Nat} {k1 k2 : Nat}
    {s : FanIn.St} (h : FanIn.Reachable c privs shared k1 k2 s)
    (hmax : ∀ a, a.isEnv = false → FanIn.step c s a = none) : s.terminal = true :=
  FanIn.stuck_terminal (FanIn.reachable_good h).inv hmax

/-- the order clause of `allowed` applies to a single producer -/
theorem fanin_allowed {c : FanIn.Cfg} {privs : List (List Nat)} {shared : List Nat} {k1 k2 : Nat} {s : FanIn.St}
    (hn : 0 < privs.length) (h : FanIn.Reachable c privs shared k1 k2 s) (ht : s.terminal = true) :
    allowed (decide (privs.length = 1)) (privs.flatten ++ shared) (FanIn.outcome c s) = true := by
  obtain ⟨hall, hdone⟩ : s.allExited = true ∧ s.cons = .done := by simpa [FanIn.St.terminal] using ht
  refine allowed_of (FanIn.leaked_eq_zero_iff.mpr hall) (C01.fanin_no_invention h) (fun hf => ?_) (fun hl => ?_)
  · obtain ⟨he, hv⟩ : s.envStopped = false ∧ c.invalid = false := by simpa [FanIn.outcome] using hf
    have heof := (FanIn.terminal_clean (FanIn.reachable_good h)
      (by rw [FanIn.reachable_prods_length h]; exact hn) hv he ht).2
    exact ⟨by simp [FanIn.outcome, hdone, heof], C01.fanin_terminal_multiset_eq hn hv h he ht⟩
  · match privs, of_decide_eq_true hl with
    | [l], _ =>
      show s.got <+: _
      exact ⟨_, by simpa [List.append_assoc] using (C01.fanin_single_producer_order h).1⟩

theorem fanin_close_idempotent {c : FanIn.Cfg} {s s1 s2 : FanIn.St}
    (h1 : FanIn.step c s .close = some s1) (h2 : FanIn.step c s1 .close = some s2) :
    s2 = { s1 with closeBudget := s1.closeBudget - 1 } := by
  cases FanIn.step_sound h1
  cases FanIn.step_sound h2
  rfl

theorem fanin_close_never_blocks {c : FanIn.Cfg} {s : FanIn.St} (hb : 0 < s.closeBudget) :
    (FanIn.step c s .close).isSome = true := by
  rw [FanIn.step_complete (.close hb)]; rfl

theorem fanin_blocked_consumer_released {c : FanIn.Cfg} {s s1 : FanIn.St} {a : FanIn.Act}
    (hp : s.cons = .parked) (ha : a = .close ∨ a = .cancel) (h1 : FanIn.step c s a = some s1) :
    ∃ s2, FanIn.step c s1 .cCtx = some s2 ∧ s2.cons = .done := by
  rcases ha with rfl | rfl <;> cases FanIn.step_sound h1 <;>
    exact ⟨_, FanIn.step_complete (.cCtx hp (by simp [FanIn.St.wdone])), rfl⟩

theorem fanout_no_deadlock {c : FanOut.Cfg} {input : List Nat} {k1 k2 : Nat} {s : FanOut.St}
    (hwf : c.wf) (h : FanOut.Reachable c input k1 k2 s) (hnt : s.terminal c = false) :
    ∃ a, a.isEnv = false ∧ (FanOut.step c s a).isSome = true :=
  FanOut.no_deadlock_internal (FanOut.reachable_good h).inv hwf hnt

theorem fanout_no_deadlock_after_stop {c : FanOut.Cfg} {input : List Nat} {k1 k2 : Nat} {s : FanOut.St}
    (hwf : c.wf) (h : FanOut.Reachable c input k1 k2 s) (hstop : s.closed = true ∨ s.ucancel = true)
    (hne : s.allExited c = false) : ∃ a, a.isGoroutine = true ∧ (FanOut.step c s a).isSome = true :=
  FanOut.no_deadlock_stopped (FanOut.reachable_good h).inv hwf
    (by rcases hstop with h | h <;> simp [FanOut.St.wdone2, h]) hne

theorem fanout_measure_decreases {c : FanOut.Cfg} {s s' : FanOut.St} {a : FanOut.Act}
    (hs : FanOut.step c s a = some s') : FanOut.measure s' < FanOut.measure s :=
  FanOut.measure_step (FanOut.step_sound hs)

theorem fanout_schedules_finite {c : FanOut.Cfg} {s s' : FanOut.St} {as : List FanOut.Act}
    (hr : FanOut.run c s as = some s') : as.length ≤ FanOut.measure s := by
  have := List.foldlM_option_length_le _ (fun _ _ _ => fanout_measure_decreases) as hr; omega

theorem fanout_maximal_run_terminal {c : FanOut.Cfg} {input : List Nat} {k1 k2 : Nat} {s : FanOut.St}
    (hwf : c.wf) (h : FanOut.Reachable c input k1 k2 s)
    (hmax : ∀ a, a.isEnv = false → FanOut.step c s a = none) : s.terminal c = true :=
  FanOut.stuck_terminal (FanOut.reachable_good h).inv hwf hmax

/-- the order clause of `allowed` applies to a single worker -/
theorem fanout_allowed {c : FanOut.Cfg} {input : List Nat} {k1 k2 : Nat} {s : FanOut.St}
    (hwf : c.wf) (h : FanOut.Reachable c input k1 k2 s) (ht : s.terminal c = true) :
    allowed (decide (c.n = 1)) input (FanOut.outcome c s) = true := by
  obtain ⟨hall, hdone⟩ : s.allExited c = true ∧ s.cons = .done := by simpa [FanOut.St.terminal] using ht
  refine allowed_of (FanOut.leaked_eq_zero_iff.mpr hall) (C01.fanout_no_invention h) (fun hf => ?_) (fun hl => ?_)
  · obtain ⟨he, hv⟩ : s.envStopped = false ∧ c.invalid = false := by simpa [FanOut.outcome] using hf
    have heof := (FanOut.terminal_clean (FanOut.reachable_good h) hwf hv he ht).2
    exact ⟨by simp [FanOut.outcome, hdone, heof], C01.fanout_terminal_multiset_eq hwf hv h he ht⟩
  · show s.got ++ s.seen <+: input
    exact ⟨_, by simpa [List.append_assoc] using (C01.fanout_single_worker_order h (of_decide_eq_true hl)).1⟩

theorem fanout_close_idempotent {c : FanOut.Cfg} {s s1 s2 : FanOut.St}
    (h1 : FanOut.step c s .close = some s1) (h2 : FanOut.step c s1 .close = some s2) :
    s2 = { s1 with closeBudget := s1.closeBudget - 1 } := by
  cases FanOut.step_sound h1
  cases FanOut.step_sound h2
  rfl

theorem fanout_close_never_blocks {c : FanOut.Cfg} {s : FanOut.St} (hb : 0 < s.closeBudget) :
    (FanOut.step c s .close).isSome = true := by
  rw [FanOut.step_complete (.close hb)]; rfl

theorem fanout_blocked_consumer_released {c : FanOut.Cfg} {s s1 : FanOut.St} {a : FanOut.Act}
    (hp : s.cons = .parked) (ha : a = .close ∨ a = .cancel) (h1 : FanOut.step c s a = some s1) :
    ∃ s2, FanOut.step c s1 .cCtx = some s2 ∧ s2.cons = .done := by
  rcases ha with rfl | rfl <;> cases FanOut.step_sound h1 <;>
    exact ⟨_, FanOut.step_complete (.cCtx hp (by simp [FanOut.St.wdone])), rfl⟩

/-! ## Rejected option sets (`Cfg.invalid`)

A constructor given options the library rejects still hands out an iterator / worker (table in
`FunModel/Pipe.lean`): Map and GenerateParallel close their output channel at construction and still start
their goroutines on the first advance; ProcessParallel cancels its own context before it starts the workers.
Termination and absence of leaks are the theorems above, which hold for every `Cfg`, `invalid` included.
What is specific to the path: -/

theorem fanout_invalid_nothing_delivered {c : FanOut.Cfg} {input : List Nat} {k1 k2 : Nat} {s : FanOut.St}
    (hwf : c.wf) (hv : c.invalid = true) (h : FanOut.Reachable c input k1 k2 s) : s.got ++ s.seen = [] := by
  have hi := (FanOut.reachable_good h).inv
  cases ho : c.hasOut with
  | true => simp [(hi.invalid_out hv ho).2.1, hi.hasout ho]
  | false => simp [(hi.noout ho).2.1, (hi.invalid_noout hv ho).2.2.2.1]

/-- the consumer's first ReadOne returns io.EOF: parked, its `cEof` is enabled (the output is closed and empty) -/
theorem fanout_invalid_eof_at_once {c : FanOut.Cfg} {input : List Nat} {k1 k2 : Nat} {s : FanOut.St}
    (hv : c.invalid = true) (ho : c.hasOut = true) (h : FanOut.Reachable c input k1 k2 s) (hp : s.cons = .parked) :
    ∃ s', FanOut.step c s .cEof = some s' ∧ s'.cons = .done := by
  obtain ⟨i1, _, i3⟩ := (FanOut.reachable_good h).inv.invalid_out hv ho
  exact ⟨_, FanOut.step_complete (.cEof hp i3 i1), rfl⟩

/-- without an output (ProcessParallel): no worker advances its split output, the reader goroutine is never
    started, no item reaches the user function -/
theorem fanout_invalid_no_worker_advances {c : FanOut.Cfg} {input : List Nat} {k1 k2 : Nat} {s : FanOut.St}
    (hv : c.invalid = true) (ho : c.hasOut = false) (h : FanOut.Reachable c input k1 k2 s) :
    s.rd = .notStarted ∧ s.idle = 0 ∧ s.hold = [] ∧ s.seen = [] ∧ s.src = input := by
  have hg := FanOut.reachable_good h
  obtain ⟨_, i2, i3, i4, i5⟩ := hg.inv.invalid_noout hv ho
  exact ⟨i5, i2, i3, i4, hg.inv.src_untouched i5⟩

theorem fanin_invalid_nothing_delivered {c : FanIn.Cfg} {privs : List (List Nat)} {shared : List Nat} {k1 k2 : Nat}
    {s : FanIn.St} (hv : c.invalid = true) (h : FanIn.Reachable c privs shared k1 k2 s) : s.got = [] :=
  ((FanIn.reachable_good h).inv.invalid_closed hv).2.1

theorem fanin_invalid_eof_at_once {c : FanIn.Cfg} {privs : List (List Nat)} {shared : List Nat} {k1 k2 : Nat}
    {s : FanIn.St} (hv : c.invalid = true) (h : FanIn.Reachable c privs shared k1 k2 s) (hp : s.cons = .parked) :
    ∃ s', FanIn.step c s .cEof = some s' ∧ s'.cons = .done := by
  obtain ⟨i1, _, i3⟩ := (FanIn.reachable_good h).inv.invalid_closed hv
  exact ⟨_, FanIn.step_complete (.cEof hp i3 i1), rfl⟩

/-- The false part of C04 (D25) as a kernel-checked counter-example: Split(2) over 1 2 3; output 0 is advanced
    first, both outputs take one item, output 1 is closed, output 0 is abandoned. The reader goroutine is then alive
    with none of its actions enabled, under *every* continuation that neither touches output 0 nor cancels the
    caller's context: it is leaked. -/
theorem split_abandoned_first_output_leaks :
    Split.run (Split.init [1, 2, 3] 2) Split.leakSchedule = some Split.leakState ∧
    ∀ as s', (∀ a ∈ as, a.touches 0 = false ∧ a ≠ .cancel) → Split.run Split.leakState as = some s' →
      s'.rd = .running (some 3) ∧ s'.readerStuck = true := by
  refine ⟨Split.leak_reached, fun as s' hall hr => ?_⟩
  have hl := Split.leaked_run as Split.leaked_leakState hall hr
  exact ⟨hl.1, Split.leaked_stuck hl⟩

/-- the reader is released as soon as the output that was advanced first is closed (or the caller's
    context cancelled): its `rCtx` action is enabled -/
theorem split_reader_released_by_first_output {s : Split.St} {h : Option Nat} {i : Nat}
    (hrd : s.rd = .running h) (hctx : s.rdCtx = some i) (hdone : s.ctxDone i = true) :
    (Split.step s .rCtx).isSome = true := by
  simp [Split.step, hrd, Split.St.rdDone, hctx, hdone]

/-- with per-output contexts too: one reader goroutine, started by the first advance under that output's
    context, whatever the schedule -/
theorem split_setup_once {input : List Nat} {n : Nat} {as : List Split.Act} {s : Split.St}
    (hr : Split.run (Split.init input n) as = some s) :
    (s.rd = .notStarted ∧ s.spawned = 0 ∧ s.rdCtx = none) ∨ (s.rd ≠ .notStarted ∧ s.spawned = 1 ∧ s.rdCtx ≠ none) :=
  Split.once_run as (Or.inl ⟨rfl, rfl, rfl⟩) hr

/-- Buffer(1) over 1 2 3: Close after one item while the feeder is blocked sending; the run ends
    with every goroutine (feeder and the once.Do waiter) exited -/
example :
    let c : Feeder.Cfg := { cap := 1, onceGo := true, srcChecksCtx := true, eager := false }
    ∃ s, Feeder.run c (Feeder.init c [1, 2, 3] 2 0)
      [.cStart, .fRead, .fHandoff, .fRead, .fSend, .fRead, .cStart, .close, .close, .cCtx, .fCtx, .wExit] = some s ∧
      s.terminal = true ∧ s.got = [1] ∧ s.dropped = [3] ∧ s.pipe = [2] := by
  refine ⟨_, rfl, ?_, ?_, ?_, ?_⟩ <;> decide

/-- Map with 2 workers over 1 2 3, cancelled while one worker holds an item and the consumer is parked:
    a non-terminal stopped state (the hypotheses of `fanout_no_deadlock_after_stop`) -/
example :
    let c : FanOut.Cfg := { n := 2, hasOut := true, outCap := 0, hasCloser := true, closerCtx := true, onceGo := false, lazy := true, workerCancels := true }
    ∃ s, FanOut.run c (FanOut.init c [1, 2, 3] 0 1) [.cStart, .wAdvance, .wAdvance, .rRead, .rHandoff, .rRead, .cancel] = some s ∧
      s.ucancel = true ∧ s.allExited c = false ∧ s.cons = .parked ∧ c.wf := by
  refine ⟨_, rfl, ?_, ?_, ?_, ?_⟩ <;> decide

/-- Map with 2 workers over 1 2 with a rejected option set: the output is closed from the start; a worker
    still takes an item, meets the closed output (`wSendClosed`, which cancels the group) and everything
    unwinds; the consumer saw io.EOF at its first ReadOne and received nothing -/
example :
    let c : FanOut.Cfg := { n := 2, hasOut := true, outCap := 0, hasCloser := true, closerCtx := true, onceGo := false,
                            lazy := true, workerCancels := true, invalid := true }
    ∃ s, FanOut.run c (FanOut.init c [1, 2] 0 0)
      [.cStart, .wAdvance, .rRead, .rHandoff, .cEof, .wSendClosed 0, .wCtxFresh, .rCtx, .kCancel, .kClose] = some s ∧
      s.terminal c = true ∧ s.got = [] ∧ s.droppedW = [1] ∧ s.envStopped = false ∧ c.wf := by
  refine ⟨_, rfl, ?_, ?_, ?_, ?_, ?_⟩ <;> decide

end FunModel.C04
