import FunProofs.GenTieSegsQueue

/-! C05 (and C07, which is about the same `Conc.Subject`) — T-gen obligations for the *control structure* of
    `pubsub.Queue`. tools/go2lean (segs.go) re-reads pubsub/queue.go on every run of `./check` and rewrites
    lean/FunGen/SegsQueue.lean: for `Add`, `BlockingAdd`, `Remove`, `Wait` (with `unsafeWaitWhileEmpty` executed
    in place), `Len` and `Close` the critical section from `q.mu.Lock()` to the first return or `cond.Wait()`
    (`…_start`), and for `BlockingAdd` and `Wait` the section from the wake-up to the next return or
    `cond.Wait()` (`…_resume`): which tests are made in which order (`closed`, `tracker.cap() > tracker.len()`,
    `tracker.len() == 0`, the context), what is returned, on which condition variable the call parks, which
    condition variables are signalled/broadcast, when the context-watcher goroutine is started. `q.doAdd`,
    `q.popFront` and the tracker getters are mapped to the model's own functions (whose effects are tied by
    FunProps/C05Gen.lean and C05Ptr.lean).

    These theorems say that the hand-written `FunModel.Queue.subject` has, for every state, thread, argument
    and cancellation flag, exactly the generated `start`/`resume` on these six operations. `Subject.start` is
    the segment of a call whose context is live, hence `cancelled := false` there. Not regenerated: `recv`
    (shown below to be the composition of the generated `Remove` and `Wait`) and `next` (the iterator). -/
namespace FunModel.C05Segs
open FunModel.Conc FunModel.Queue FunProofs.GenTieSegsQueue

theorem gen_Add (s : St) (t : Nat) (v : Int) (cancelled : Bool) :
    FunGen.SegsQueue.Add_start s v cancelled = start s t (.add v) := rfl

theorem gen_Len (s : St) (t : Nat) (cancelled : Bool) :
    FunGen.SegsQueue.Len_start s cancelled = start s t .len := rfl

/-- `Close`: sets the flag, broadcasts `nupdates` then `nempty` -/
theorem gen_Close (s : St) (t : Nat) (cancelled : Bool) :
    FunGen.SegsQueue.Close_start s cancelled = start s t .close := rfl

/-- `Remove`: "none" iff `tracker.len() == 0`, else `popFront` -/
theorem gen_Remove (s : St) (t : Nat) (cancelled : Bool) :
    FunGen.SegsQueue.Remove_start s cancelled = start s t .remove := by
  unfold FunGen.SegsQueue.Remove_start start
  by_cases h : s.tracker.len = 0 <;> simp [h]

/-- `BlockingAdd`, entry: closed → error; room → `doAdd`; else helper on `nupdates`, then the loop once -/
theorem gen_BlockingAdd_start (s : St) (t : Nat) (v : Int) :
    FunGen.SegsQueue.BlockingAdd_start s v false = start s t (.badd v) := by
  unfold FunGen.SegsQueue.BlockingAdd_start start baddLoop
  rw [capGt_hasRoom]
  cases hc : s.closed <;> cases hr : s.tracker.hasRoom <;> simp

/-- `BlockingAdd`, woken: while there is no room — closed → error, context done → its error, else park on
    `nupdates` again —, else `doAdd` -/
theorem gen_BlockingAdd_resume (s : St) (t : Nat) (v : Int) (cancelled : Bool) :
    FunGen.SegsQueue.BlockingAdd_resume s v cancelled = resume s t (.badd v) cancelled := by
  unfold FunGen.SegsQueue.BlockingAdd_resume resume baddLoop
  rw [capGt_hasRoom]
  cases hc : s.closed <;> cases hr : s.tracker.hasRoom <;> cases cancelled <;> simp

/-- `Wait`, entry: helper on `nempty`; while empty — closed → error, else park on `nempty` —, else `popFront` -/
theorem gen_Wait_start (s : St) (t : Nat) :
    FunGen.SegsQueue.Wait_start s false = start s t .wait := by
  unfold FunGen.SegsQueue.Wait_start start waitLoop
  by_cases h : s.tracker.len = 0 <;> cases hc : s.closed <;> simp [h]

theorem gen_Wait_resume (s : St) (t : Nat) (cancelled : Bool) :
    FunGen.SegsQueue.Wait_resume s cancelled = resume s t .wait cancelled := by
  unfold FunGen.SegsQueue.Wait_resume resume waitLoop
  by_cases h : s.tracker.len = 0 <;> cases hc : s.closed <;> cases cancelled <;> simp [h]

/-- the subject's `start` is the generated dispatch on every regenerated operation -/
theorem gen_subject_start (s : St) (t : Nat) (op : Op) (h : regenerated op = true) :
    FunGen.SegsQueue.start s t op false = some (subject.start s t op) := by
  cases op with
  | badd v => exact congrArg some (gen_BlockingAdd_start s t v)
  | remove => exact congrArg some (gen_Remove s t false)
  | wait => exact congrArg some (gen_Wait_start s t)
  | recv => cases h
  | next k => cases h
  | _ => rfl

/-- the subject's `resume` is the generated one on the two regenerated blocking operations -/
theorem gen_subject_resume (s : St) (t : Nat) (op : Op) (cancelled : Bool) (h : blocking op = true) :
    FunGen.SegsQueue.resume s t op cancelled = some (subject.resume s t op cancelled) := by
  cases op with
  | badd v => exact congrArg some (gen_BlockingAdd_resume s t v cancelled)
  | wait => exact congrArg some (gen_Wait_resume s t cancelled)
  | _ => cases h

/-- the other regenerated operations contain no `cond.Wait()`: no generated `resume`, and their single
    segment always ends in a return (the model's `"bad-resume"` branch is unreachable for them) -/
theorem gen_nonblocking (s : St) (t : Nat) (op : Op) (cancelled : Bool) (h : blocking op = false) :
    FunGen.SegsQueue.resume s t op cancelled = none ∧
    ∀ c' o, FunGen.SegsQueue.start s t op c' = some o → ∃ r, o.fin = .ret r := by
  constructor
  · cases op <;> first | rfl | cases h
  · intro c' o ho
    cases op with
    | remove =>
      cases ho
      unfold FunGen.SegsQueue.Remove_start
      split <;> exact ⟨_, rfl⟩
    | badd v => cases h
    | wait => cases h
    | _ => cases ho <;> exact ⟨_, rfl⟩

/-- `BlockingAdd` entered with a context that is already done: as with a live one, except that where it
    would have parked it returns the context's error (the helper goroutine has been started by then) -/
theorem gen_BlockingAdd_dead_ctx (s : St) (v : Int) :
    FunGen.SegsQueue.BlockingAdd_start s v true =
      if s.closed then { st := s, sigs := [], fin := .ret "closed" }
      else if s.tracker.hasRoom then FunGen.SegsQueue.Add_start s v true
      else { st := s, sigs := [.spawn 1], fin := .ret "ctx" } := by
  unfold FunGen.SegsQueue.BlockingAdd_start FunGen.SegsQueue.Add_start
  rw [capGt_hasRoom]
  cases hc : s.closed <;> cases hr : s.tracker.hasRoom <;> simp

/-- `recv` (Distributor.Receive), not regenerated, is in the model `Remove` when the queue is not empty
    and `Wait` when it is -/
theorem recv_is_remove_else_wait (s : St) (t : Nat) (cancelled : Bool) :
    (start s t .recv = if s.tracker.len = 0 then start s t .wait else start s t .remove) ∧
    resume s t .recv cancelled = resume s t .wait cancelled := by
  refine ⟨?_, rfl⟩
  unfold start
  by_cases h : s.tracker.len = 0 <;> simp [h]

/-- non-vacuity: on a full bounded queue the generated `BlockingAdd` spawns its helper and parks on
    `nupdates`; on an empty one the generated `Wait` parks on `nempty`; the hypotheses of the dispatch
    theorems are satisfiable -/
example : (FunGen.SegsQueue.BlockingAdd_start { tracker := .soft 1 1 1 0 } 7 false).fin = .park 1 ∧
    (FunGen.SegsQueue.BlockingAdd_start { tracker := .soft 1 1 1 0 } 7 false).sigs = [.spawn 1] ∧
    (FunGen.SegsQueue.Wait_start { tracker := .noLimit 0 } false).fin = .park 0 ∧
    regenerated (.badd 7) = true ∧ blocking (.badd 7) = true ∧ blocking .close = false := by
  refine ⟨?_, ?_, ?_, rfl, rfl, rfl⟩ <;> simp [FunGen.SegsQueue.BlockingAdd_start, FunGen.SegsQueue.Wait_start,
    FunGen.SegsQueue.capGt, Tracker.cap, Tracker.len]

end FunModel.C05Segs
