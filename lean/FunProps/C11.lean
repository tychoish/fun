import FunProofs.OrchMain

/-! # C11 — Orchestrator and service wrappers run all submitted work and collect all errors

    Property theorems about the assume/guarantee machines of `FunModel/Orch.lean` (the orchestrator's
    Run loop, `srv.Group`, `WorkerPool` / `HandlerWorkerPool`, `srv.Cleanup`; Service = its C10
    contract, Queue = its C05 contract, ParallelForEach = its C03 contract).  Every theorem is about
    every reachable state — any number of services / jobs, any outcome per unit (ok / error / panic /
    blocks until its context ends, each released by the environment at any time), any placement of
    `Add`, `Start`, cancellation and release, every interleaving of the goroutines' steps.  A `Start`
    by another goroutine is one step of the model; handed to `Add` while that `Start` is half done, the
    real orchestrator neither starts nor awaits the service (open finding `orchestrator:add-during-start`).

    The hypotheses `legacy… = false` select the code as it is after the four `fix:` commits; with a
    switch on, the machine is the code before the fix, and the kernel-checked witnesses next to the
    theorems show that the property then fails (on the real code: `replays/C11/defect-witnesses.txt`).
    The tie to the Go code is T-out: the observation of every run of the
    real constructs is judged by the `allowed…` predicates, which the `…_allowed` theorems prove for
    every reachable state of the model. -/

namespace FunProps.C11
open FunModel FunModel.Orch

/-- No service's Run function is ever entered twice; and once the orchestrator's Run has returned, every
    service that was handed to `Add` before the orchestrator's context ended — not yet started, running
    or finished at that moment, before or after the orchestrator was started — has been started exactly
    once (by whomever) and the complete result of its `Wait` has been collected. -/
theorem orchestrator_starts_at_most_once_and_awaits_all (c : Orc.Cfg) (hfix : c.legacyWaitFor = false) (s : Orc.St)
    (h : Orc.Reachable c s) :
    (∀ i, s.runs i ≤ 1) ∧
    (s.orch = .returned → ∀ i, s.addSt i = .live → s.runs i = 1 ∧ Orc.Entry.wait i true ∈ s.coll) := by
  have hi := Orc.reachable_inv hfix h
  refine ⟨hi.once.le, fun hret i hl => ?_⟩
  obtain ⟨hf, hm⟩ := hi.done_fin i (hi.live_done hret hl)
  exact ⟨hi.once.one (by simp [hf]), hm⟩

/-- The step in which the orchestrator's Run returns (and its Wait with it) is enabled only when every
    service handed over before the context ended has returned; hence, in every state after it, each of
    them had returned when Wait returned (`retAtW` is the snapshot taken in that step) — and so had
    every service the orchestrator started itself. -/
theorem orchestrator_wait_after_all_returned (c : Orc.Cfg) (hfix : c.legacyWaitFor = false) (s : Orc.St)
    (h : Orc.Reachable c s) :
    ((Orc.step c s .orchReturn).isSome = true → ∀ i, s.addSt i = .live → s.phase i = .finished) ∧
    (s.orch = .returned → ∀ i, (s.addSt i = .live ∨ s.byOrch i = true) → s.retAtW i = true ∧ s.phase i = .finished) := by
  have hi := Orc.reachable_inv hfix h
  refine ⟨fun hen i hl => hi.return_enabled hen hl, fun hret i hli => ?_⟩
  have hd : s.task i = .done := by
    rcases hli with hl | hb
    · exact hi.live_done hret hl
    · exact hi.ret_done hret i (hi.byOrch_task i hb)
  exact ⟨hi.ret_snap hret i hd, (hi.done_fin i hd).1⟩

/-- When Wait has returned, for every service handed over before the context ended: whatever `errors.Is`
    finds in the error its Run returned (or in the recovered panic) — other than the identity of a
    multi-error wrapper that `Stack.Push` opens — it finds in the error Wait returned; and a panic is
    found as ErrRecoveredPanic. -/
theorem orchestrator_error_complete (c : Orc.Cfg) (hfix : c.legacyWaitFor = false) (s : Orc.St)
    (h : Orc.Reachable c s) (hret : s.orch = .returned) (i : Nat) (hl : s.addSt i = .live) :
    (∀ e, (c.outcome i).result = some e → ∀ t, e.is t = true → t ∉ e.shellIds →
        isOpt (Orc.waitResult c s.coll) t = true) ∧
    (∀ p, c.outcome i = .panic p → isOpt (Orc.waitResult c s.coll) idRecoveredPanic = true) :=
  nested_complete _ _ (Or.inr ((Orc.reachable_inv hfix h).live_collected hret hl))

theorem orchestrator_allowed (c : Orc.Cfg) (hfix : c.legacyWaitFor = false) (s : Orc.St) (h : Orc.Reachable c s)
    (ident : Nat → Nat) (hid : Identifies c.outcome ident) (n : Nat) :
    allowedOrch c.outcome (Orc.obsOf c ident n s) = true :=
  Orc.allowed_of_inv (Orc.reachable_inv hfix h) ident hid n

/-! non-vacuity: service 0 (ok) is added before Start, 1 (fails) after, 2 (blocks until cancel) is
    started from outside and added while running, 3 (panics) is added last; the context is cancelled,
    the loop drains, Wait returns. -/

def orcSample : Orc.Cfg :=
  { outcome := fun i => if i = 1 then .err (.leaf 101) else if i = 2 then .block else if i = 3 then .panic (.leaf 103) else .ok }

def orcSampleRun : List Orc.Act :=
  [.add 0, .startOrch, .add 1, .loopTake, .taskStart 0, .release 0, .svcReturn 0, .taskCollect 0, .loopTake, .taskStart 1,
   .extStart 2, .add 2, .loopTake, .add 3, .loopTake, .taskStart 3, .release 1, .svcReturn 1, .taskCollect 1, .release 3,
   .svcReturn 3, .taskCollect 3, .cancel, .release 2, .endOwn 2, .svcReturn 2, .taskCollect 2, .loopExit, .orchReturn]

example :
    (Orc.run orcSample Orc.init orcSampleRun).map (fun s =>
      (s.orch, [0, 1, 2, 3].map s.runs, [0, 1, 2, 3].map s.retAtW, [0, 1, 2, 3].map (fun i => decide (s.addSt i = .live)))) =
      some (.returned, [1, 1, 1, 1], [true, true, true, true], [true, true, true, true]) := by
  decide +kernel

example :
    (Orc.run orcSample Orc.init orcSampleRun).map (fun s =>
      (isOpt (Orc.waitResult orcSample s.coll) 101, isOpt (Orc.waitResult orcSample s.coll) idRecoveredPanic,
       allowedOrch orcSample.outcome (Orc.obsOf orcSample (fun i => 100 + i) 4 s))) = some (true, true, true) := by
  decide +kernel

/-- the identification hypothesis of the `…_allowed` theorems holds of the sample, whose outcomes are built as
    the driver builds them: the error of unit `i` is the leaf `100 + i` -/
example : Identifies orcSample.outcome (fun i => 100 + i) := by
  intro i e hf he
  simp only [orcSample] at hf he
  split at he
  · cases he; subst_vars; decide
  · split at he
    · simp [Outcome.result] at he
    · split at he <;> simp_all [Outcome.fails]

/-- the code before the fix (`waitFor(ctx)` for a service that is running when it is dispatched): the
    orchestrator's Wait returns while service 0 — handed over before the cancellation — is still
    running (kernel-checked witness; on the real code: `replays/C11`, key orch:not-awaited). -/
example :
    (Orc.run { outcome := fun _ => .block, legacyWaitFor := true } Orc.init
        [.extStart 0, .add 0, .startOrch, .loopTake, .cancel, .taskCollect 0, .loopExit, .orchReturn]).map
      (fun s => (s.orch, decide (s.addSt 0 = .live), decide (s.phase 0 = .running), s.retAtW 0)) =
      some (.returned, true, true, false) := by
  decide +kernel

/-- In every reachable state, a member that is running (started and not yet returned) has a live context
    unless the group's own context has ended: the group's Run does not return — which is what cancels
    the members' context — while a member is running. In particular no member ever sees its context end
    while the group's context is live. -/
theorem group_members_run_until_done_or_ctx (c : Grp.Cfg) (hf1 : c.legacyRun = false) (hf2 : c.legacyStarters = false)
    (s : Grp.St) (h : Grp.Reachable c s) :
    (∀ i, s.phase i = .running → s.memberCtxEnded = true → s.cancelled = true) ∧
    (∀ i, s.sawEndLive i = false) := by
  have hi := Grp.reachable_inv hf1 hf2 h
  refine ⟨fun i hr he => ?_, hi.saw⟩
  have := hi.running_live i hr
  simpa [Grp.St.memberCtxEnded, this] using he

/-- No member is started twice, a member the iterator did not yield is not started; the step in which the
    group's Wait returns is enabled only when every member taken from the iterator has returned, and
    once it is done each of them has run exactly once and had returned. -/
theorem group_awaits_all (c : Grp.Cfg) (hf1 : c.legacyRun = false) (hf2 : c.legacyStarters = false)
    (s : Grp.St) (h : Grp.Reachable c s) :
    (∀ i, s.runs i ≤ 1) ∧ (∀ i, ¬ i < s.next → s.runs i = 0) ∧
    ((Grp.step c s .cleanupDone).isSome = true → ∀ i, i < s.next → s.phase i = .finished) ∧
    (s.gphase = .done → ∀ i, i < s.next → s.runs i = 1 ∧ s.retAtW i = true ∧ s.phase i = .finished) := by
  have hi := Grp.reachable_inv hf1 hf2 h
  refine ⟨hi.once.le, fun i hlt => hi.untaken hlt, fun hen i hlt => hi.cleanup_enabled hen hlt, fun hd i hlt => ?_⟩
  obtain ⟨_, hf, hr, hs⟩ := hi.done_member hd hlt
  exact ⟨hr, hs, hf⟩

/-- Unless the group's context ended while it was still iterating, the group took every one of the `n`
    members from the iterator — so (`group_awaits_all`) each ran once. -/
theorem group_starts_every_member (c : Grp.Cfg) (hf1 : c.legacyRun = false) (hf2 : c.legacyStarters = false)
    (s : Grp.St) (h : Grp.Reachable c s) (hd : s.gphase = .done) (hcut : s.cut = false) :
    s.next = c.n ∧ ∀ i, i < c.n → s.runs i = 1 := by
  have hi := Grp.reachable_inv hf1 hf2 h
  have hn := hi.full (by simp [hd]) hcut
  exact ⟨hn, fun i hlt => (hi.done_member hd (by omega)).2.2.1⟩

/-- The group's Wait error finds every failure of every member it started. -/
theorem group_error_complete (c : Grp.Cfg) (hf1 : c.legacyRun = false) (hf2 : c.legacyStarters = false)
    (s : Grp.St) (h : Grp.Reachable c s) (hd : s.gphase = .done) (i : Nat) (hlt : i < s.next) :
    (∀ e, (c.outcome i).result = some e → ∀ t, e.is t = true → t ∉ e.shellIds →
        isOpt (Grp.waitResult c s) t = true) ∧
    (∀ p, c.outcome i = .panic p → isOpt (Grp.waitResult c s) idRecoveredPanic = true) :=
  nested_complete _ _ (Or.inr (Grp.mem_adds ((Grp.reachable_inv hf1 hf2 h).done_member hd hlt).1))

theorem group_allowed (c : Grp.Cfg) (hf1 : c.legacyRun = false) (hf2 : c.legacyStarters = false) (s : Grp.St)
    (h : Grp.Reachable c s) (ident : Nat → Nat) (hid : Identifies c.outcome ident) (n : Nat) :
    allowedGroup c.outcome (Grp.obsOf c ident n s) = true :=
  Grp.allowed_of_inv (Grp.reachable_inv hf1 hf2 h) ident hid n

def grpSample (legacyRun legacyStarters : Bool) : Grp.Cfg :=
  { n := 2, outcome := fun i => if i = 0 then .block else .err (.leaf 101), legacyRun := legacyRun,
    legacyStarters := legacyStarters }

/-- non-vacuity: two members (one blocks until cancel, one fails); the failing one returns, the group
    keeps running until its context is cancelled, then awaits both -/
example :
    (Grp.run (grpSample false false) Grp.init
        [.startGroup, .iterNext, .iterNext, .starterStart 0, .starterStart 1, .starterQueue 1, .starterQueue 0, .iterNext,
         .startersDone, .release 1, .svcReturn 1, .release 0, .cancel, .svcReturn 0, .membersDone, .cleanupDone]).map
      (fun s => ((s.gphase, s.next, [0, 1].map s.runs, [0, 1].map s.retAtW), ([0, 1].map s.sawEndLive,
                 isOpt (Grp.waitResult (grpSample false false) s) 101,
                 allowedGroup (grpSample false false).outcome (Grp.obsOf (grpSample false false) (fun i => 100 + i) 2 s)))) =
      some ((.done, 2, [1, 1], [true, true]), ([false, false], true, true)) := by
  decide +kernel

/-- D21, the code before the fix (Run returns once the members are started): member 0, which blocks
    until its context ends, finds it ended although nobody cancelled the group (kernel-checked witness;
    on the real code: key group:members-cancelled-early). -/
example :
    (Grp.run (grpSample true false) Grp.init
        [.startGroup, .iterNext, .iterNext, .starterStart 0, .starterStart 1, .starterQueue 1, .starterQueue 0, .iterNext,
         .startersDone, .membersDone, .release 0, .svcReturn 0]).map
      (fun s => (s.cancelled, s.sawEndLive 0)) = some (false, true) := by
  decide +kernel

/-- the second defect (`wg.Wait(ctx)` before `waiters.Close()`): the context ends while member 0 is
    being started; its `Wait` cannot be queued any more, and the group's Wait returns while member 0
    is still running (kernel-checked witness; on the real code: key group:not-awaited). -/
example :
    (Grp.run (grpSample false true) Grp.init
        [.startGroup, .iterNext, .cancel, .iterStop, .startersDone, .starterStart 0, .starterQueue 0, .membersDone,
         .cleanupDone]).map
      (fun s => (s.gphase, s.runs 0, decide (s.phase 0 = .running), s.retAtW 0, s.failed)) =
      some (.done, 1, true, false, [0]) := by
  decide +kernel

/-- In every reachable state every job has been run at most once, and a job that was rejected by the
    queue or never added has not been run. -/
theorem pool_at_most_once (c : Pool.Cfg) (s : Pool.St) (h : Pool.Reachable c s) :
    (∀ j, s.runs j ≤ 1) ∧ (∀ j, s.addSt j ≠ .accepted → s.runs j = 0) := by
  have hi := Pool.reachable_inv h
  exact ⟨hi.runs_le, fun j hna => Decidable.byContradiction fun h0 => hna (hi.runs_accepted j h0)⟩

/-- Whenever the pool is at rest (no goroutine of the pool can take a step) while it keeps running — it
    was started, neither its context nor the worker group's context has ended — and some worker is
    idle, every accepted job has been run exactly once. -/
theorem pool_exactly_once_while_running (c : Pool.Cfg) (s : Pool.St) (h : Pool.Reachable c s)
    (hq : Pool.Quiescent c s) (hst : s.started = true) (hlive : s.wctxEnded = false)
    (w : Nat) (hw : s.ws[w]? = some .idle) :
    ∀ j, s.addSt j = .accepted → s.runs j = 1 :=
  Pool.rest_all_started (Pool.reachable_inv h) hq hlive w hw

/-- the rest-point predicate of the correspondence run: `busy < n` is how the harness knows that a worker is
    idle; here the idle worker is the hypothesis `hw` and `busy` is left free (that fewer than `n` busy workers at
    a rest point of a running pool leave one idle in the model is not proved) -/
theorem pool_rest_allowed (c : Pool.Cfg) (s : Pool.St) (h : Pool.Reachable c s)
    (hq : Pool.Quiescent c s) (hst : s.started = true) (w : Nat) (hw : s.ws[w]? = some .idle)
    (pending : List Nat) (hp : ∀ j ∈ pending, s.addSt j = .accepted ∧ s.runs j = 0) (busy : Nat) :
    allowedRest c.n busy pending.length (!s.wctxEnded) = true := by
  cases hl : s.wctxEnded with
  | true => simp [allowedRest]
  | false =>
    have : pending = [] := List.eq_nil_iff_forall_not_mem.mpr fun j hj => by
      have := pool_exactly_once_while_running c s h hq hst hl w hw j (hp j hj).1
      have := (hp j hj).2
      omega
    simp [allowedRest, this]

/-- When the pool's Wait has returned every job that was started had returned; the error of a failed job
    was given to the handler (HandlerWorkerPool) or is found in Wait's error when it is reportable
    (WorkerPool: not io.EOF / skip / a context error); a panic is found as ErrRecoveredPanic in Wait's
    error in both. -/
theorem pool_awaits_and_surfaces_errors (c : Pool.Cfg) (s : Pool.St) (h : Pool.Reachable c s) (hd : s.svcDone = true)
    (j : Nat) (hr : s.runs j = 1) :
    s.finAtW j = true ∧
    (c.handles j = true → j ∈ s.handled) ∧
    (c.viaCollector j = true → (c.cls j).reportable c.conf = true →
        ∀ e, (c.outcome j).result = some e → ∀ t, e.is t = true → t ∉ e.shellIds →
          isOpt (Pool.waitResult c s.coll) t = true) ∧
    (∀ p, c.outcome j = .panic p → isOpt (Pool.waitResult c s.coll) idRecoveredPanic = true) := by
  have hi := Pool.reachable_inv h
  obtain ⟨hrr, hsnap⟩ := hi.svc hd
  have hspec := hi.coll_spec j (hi.fin_of_returned hrr hr)
  have hcoll := fun hj => nested_complete _ (c.outcome j) (Or.inl (mem_results (hspec.1 hj)))
  exact ⟨hsnap j hr, hspec.2, fun hv hrep => (hcoll (Pool.reports_of_reportable c j hv hrep)).1,
    fun p hp => (hcoll (Pool.reports_of_panic c j (by simp [hp, Outcome.isPanic]))).2 p hp⟩

theorem pool_allowed (c : Pool.Cfg) (s : Pool.St) (h : Pool.Reachable c s) (ident : Nat → Nat)
    (hid : Identifies c.outcome ident)
    (hrep : ∀ i, (c.outcome i).fails = true → (c.cls i).reportable c.conf = true) (n : Nat) :
    allowedPool c.handler c.outcome (Pool.obsOf c ident n s) = true :=
  Pool.allowed_of_inv (Pool.reachable_inv h) ident hid hrep n

def poolSample : Pool.Cfg :=
  { n := 2, conf := ⟨true, true, false⟩, handler := false,
    outcome := fun j => if j = 1 then .err (.leaf 101) else if j = 2 then .panic (.leaf 102) else .ok }

def poolSampleRun : List Pool.Act :=
  [.add 0 true, .startPool, .add 1 true, .add 2 true, .add 3 false, .read, .handoff 0, .wstart 0, .read, .handoff 1, .wstart 1,
   .release 0, .release 1, .release 2, .wfinish 1, .read, .handoff 1, .wstart 1, .wfinish 1, .wfinish 0]

/-- non-vacuity: a rest point of a running pool with both workers idle — every accepted job ran once,
    the rejected one did not — … -/
example :
    (Pool.run poolSample Pool.init poolSampleRun).map
      (fun s => (s.started, s.wctxEnded, s.ws, s.queue.length + s.rd.toList.length)) =
      some (true, false, [.idle, .idle], 0) := by
  decide +kernel

example :
    (Pool.run poolSample Pool.init poolSampleRun).map (fun s => ([0, 1, 2, 3].map s.runs, s.coll)) =
      some ([1, 1, 1, 0], [2, 1]) := by
  decide +kernel

/-- the hypotheses of `pool_exactly_once_while_running` are satisfiable: the sample run ends in a rest point -/
example : ∃ s, Pool.run poolSample Pool.init poolSampleRun = some s ∧ Pool.Quiescent poolSample s ∧
    s.started = true ∧ s.wctxEnded = false ∧ s.ws[0]? = some .idle := by
  refine ⟨_, rfl, ?_, rfl, rfl, rfl⟩
  intro a ha
  cases a with
  | startPool | cancel | add _ _ | release _ => cases ha
  | shutdown | read | handoff w | drop | rdExit | runReturn | svcReturn => rfl
  | wstart w | wfinish w | wexit w =>
    match w with
    | 0 => rfl
    | 1 => rfl
    | _ + 2 => rfl

/-- … and the shutdown after it: the context is cancelled, the queue closed, the workers return, Wait
    returns with both failures -/
example :
    (Pool.run poolSample Pool.init (poolSampleRun ++ [.cancel, .shutdown, .rdExit, .wexit 0, .wexit 1, .runReturn, .svcReturn])).map
      (fun s => (s.svcDone, [0, 1, 2].map s.finAtW, isOpt (Pool.waitResult poolSample s.coll) 101,
                 isOpt (Pool.waitResult poolSample s.coll) idRecoveredPanic,
                 allowedPool false poolSample.outcome (Pool.obsOf poolSample (fun i => 100 + i) 4 s))) =
      some (true, [true, true, true], true, true, true) := by
  decide +kernel

/-- "at most once" cannot be improved to "exactly once" for a job accepted while the pool is shutting
    down: the reader drops the job it holds when the context ends (kernel-checked witness) -/
example :
    (Pool.run poolSample Pool.init [.startPool, .add 0 true, .read, .cancel, .drop, .wexit 0, .wexit 1, .shutdown,
        .runReturn, .svcReturn]).map (fun s => (s.svcDone, decide (s.addSt 0 = .accepted), s.runs 0, s.dropped)) =
      some (true, true, 0, [0]) := by
  decide +kernel

/-- No cleanup function is run twice, none that the pipe rejected is run, none is run before the shutdown
    began (the context has ended whenever one has run); and when the service is done every function the
    pipe accepted has been run exactly once. -/
theorem cleanup_runs_every_accepted_job_once (c : Cln.Cfg) (hfix : c.legacyNoSweep = false) (s : Cln.St)
    (h : Cln.Reachable c s) :
    (∀ j, s.runs j ≤ 1) ∧ (∀ j, s.addSt j ≠ .accepted → s.runs j = 0) ∧
    (∀ j, s.runs j ≠ 0 → s.cancelled = true) ∧ (∀ j, s.ranEarly j = false) ∧
    (s.cphase = .done → ∀ j, s.addSt j = .accepted → s.runs j = 1) := by
  have hi := Cln.reachable_inv hfix h
  refine ⟨hi.runs_le, fun j hna => Decidable.byContradiction fun h0 => hna (hi.ran h0).2, fun j hr => ?_,
    hi.early, fun hd j ha => (hi.done_ran hd ha).1⟩
  rcases (hi.ran hr).1 with h1 | h1
  · exact hi.ended (Or.inr (Or.inl h1))
  · exact hi.ended (Or.inr (Or.inr (Or.inl h1)))

/-- `cleanup_runs_every_accepted_job_once` needs no hypothesis about the outcomes — and the sweep cannot
    get stuck on one: while functions remain, running any of them is enabled whatever the others did
    (fail, panic), and when none remains the service finishes. -/
theorem cleanup_failures_isolated (c : Cln.Cfg) (hfix : c.legacyNoSweep = false) (s : Cln.St)
    (h : Cln.Reachable c s) (hs : s.cphase = .sweeping) :
    (∀ j ∈ s.todo, (Cln.step c s (.runJob j)).isSome = true) ∧
    (s.todo = [] → (Cln.step c s .finish).isSome = true) ∧
    (∀ j, s.addSt j = .accepted → s.runs j = 1 ∨ j ∈ s.todo) := by
  have hi := Cln.reachable_inv hfix h
  refine ⟨fun j hj => by simp [Cln.step, hs, hj], fun ht => by simp [Cln.step, hs, ht], fun j ha => ?_⟩
  by_cases ht : j ∈ s.todo
  · exact Or.inr ht
  · exact Or.inl (hi.swept_ran (Or.inl hs) ha ht).1

/-- When the service is done, the error every accepted cleanup function returned is found in Wait's
    error, and a panic as ErrRecoveredPanic. -/
theorem cleanup_errors_surfaced (c : Cln.Cfg) (hfix : c.legacyNoSweep = false) (s : Cln.St)
    (h : Cln.Reachable c s) (hd : s.cphase = .done) (j : Nat) (ha : s.addSt j = .accepted) :
    (∀ e, (c.outcome j).result = some e → ∀ t, e.is t = true → t ∉ e.shellIds →
        isOpt (Cln.waitResult c s.coll) t = true) ∧
    (∀ p, c.outcome j = .panic p → isOpt (Cln.waitResult c s.coll) idRecoveredPanic = true) :=
  nested_complete _ _ (Or.inl (mem_results ((Cln.reachable_inv hfix h).done_ran hd ha).2))

theorem cleanup_allowed (c : Cln.Cfg) (hfix : c.legacyNoSweep = false) (s : Cln.St) (h : Cln.Reachable c s)
    (ident : Nat → Nat) (hid : Identifies c.outcome ident) (n : Nat) :
    allowedCleanup c.outcome (Cln.obsOf c ident n s) = true :=
  Cln.allowed_of_inv (Cln.reachable_inv hfix h) ident hid n

def clnSample (legacy : Bool) : Cln.Cfg :=
  { outcome := fun j => if j = 1 then .err (.leaf 101) else if j = 2 then .panic (.leaf 102) else .ok,
    legacyNoSweep := legacy }

/-- non-vacuity: job 0 is moved into the cache by Run, jobs 1 (fails) and 2 (panics) are accepted when
    Run has already seen the cancellation; all three are run during the sweep, job 3 is rejected -/
example :
    (Cln.run (clnSample false) Cln.init
        [.start, .add 0 true, .drain, .add 1 true, .cancel, .runExit, .add 2 true, .shutdown, .add 3 false, .beginSweep,
         .runJob 2, .runJob 0, .runJob 1, .finish]).map
      (fun s => (s.cphase, [0, 1, 2, 3].map s.runs, isOpt (Cln.waitResult (clnSample false) s.coll) 101,
                 isOpt (Cln.waitResult (clnSample false) s.coll) idRecoveredPanic,
                 allowedCleanup (clnSample false).outcome (Cln.obsOf (clnSample false) (fun i => 100 + i) 4 s))) =
      some (.done, [1, 1, 1, 0], true, true, true) := by
  decide +kernel

/-- D22, the code before the fix: the same schedule leaves the two functions that were still in the
    pipe unrun (kernel-checked witness; on the real code: key cleanup:accepted-not-run). -/
example :
    (Cln.run (clnSample true) Cln.init
        [.start, .add 0 true, .drain, .add 1 true, .cancel, .runExit, .add 2 true, .shutdown, .beginSweep,
         .runJob 0, .finish]).map
      (fun s => (s.cphase, [0, 1, 2].map s.runs, [1, 2].map (fun j => decide (s.addSt j = .accepted)))) =
      some (.done, [1, 0, 0], [true, true]) := by
  decide +kernel

end FunProps.C11
