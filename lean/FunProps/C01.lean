import FunProofs.PipeFeeder
import FunProofs.PipeFanIn
import FunProofs.PipeFanOut

/-! # C01 — parallel iterator stages deliver every item exactly once

Statement (properties.jsonl): when an iterator is fanned out to concurrent workers or fanned in from
several sources and nothing aborts the run, the output multiset equals the input multiset (nothing
lost, duplicated or invented); order is unconstrained for more than one worker and equal to input
order for Buffer and for a single worker.

The theorems are about the process models of `FunModel/Pipe.lean` (FanOut(n), FanIn(n), Feeder; the
table there says which construct instantiates which model with which parameters) and quantify over
*every* schedule (`Reachable` = any action list from the initial state), every input, every worker
count, every buffer capacity and every configuration of the model (for FanOut's terminal states: every
one that occurs, `Cfg.wf`; for FanIn's: at least one producer, who is the one to see the shared source empty). "Nothing aborts the run" is `c.invalid = false` (the option set was accepted:
a rejected one closes the output at construction) and `envStopped = false` (no environment `close` /
`cancel` action was taken); `Reachable c input 0 0` (no close/cancel budget) is the special case in which
none can be taken.

The tie to the Go code is T-out: behavioural at the boundary (see checks/c01.py). -/
namespace FunModel.C01
open FunModel.Pipe

/-! ## FanOut(n): Split, ProcessParallel / ParallelForEach / Worker, Map, ParallelBuffer -/

/-- delivered ++ in flight ++ given up (by the workers, by the reader) ++ unread ≈ input, also after Close / cancellation -/
theorem fanout_conservation {c : FanOut.Cfg} {input : List Nat} {k1 k2 : Nat} {s : FanOut.St}
    (h : FanOut.Reachable c input k1 k2 s) :
    (s.got ++ s.seen ++ s.out ++ s.hold ++ s.droppedW ++ s.rd.held ++ s.droppedR ++ s.src).Perm input :=
  List.perm_iff_count.mpr (FanOut.reachable_good h).conserved

theorem fanout_no_invention {c : FanOut.Cfg} {input : List Nat} {k1 k2 : Nat} {s : FanOut.St}
    (h : FanOut.Reachable c input k1 k2 s) (a : Nat) : (s.got ++ s.seen).count a ≤ input.count a := by
  have := (FanOut.reachable_good h).conserved a
  simp only [FanOut.St.items, List.count_append] at this ⊢
  omega

theorem fanout_terminal_multiset_eq {c : FanOut.Cfg} {input : List Nat} {k1 k2 : Nat} {s : FanOut.St}
    (hwf : c.wf) (hv : c.invalid = false) (h : FanOut.Reachable c input k1 k2 s) (hclean : s.envStopped = false)
    (ht : s.terminal c = true) : (s.got ++ s.seen).Perm input := by
  have hg := FanOut.reachable_good h
  exact (FanOut.terminal_clean hg hwf hv hclean ht).1 ▸ List.perm_iff_count.mpr hg.conserved

/-- the same with no close/cancel budget: every terminal state of an exhaust run -/
theorem fanout_exhaust_multiset_eq {c : FanOut.Cfg} {input : List Nat} {s : FanOut.St}
    (hwf : c.wf) (hv : c.invalid = false) (h : FanOut.Reachable c input 0 0 s) (ht : s.terminal c = true) :
    (s.got ++ s.seen).Perm input := by
  obtain ⟨as, hr⟩ := h
  have := FanOut.run_nostop as (s := FanOut.init c input 0 0) (by simp [FanOut.init]) hr
  exact fanout_terminal_multiset_eq hwf hv ⟨as, hr⟩ this.1 ht

/-- with one worker the input order is kept at every moment of **every** run (also after Close / cancellation),
    the given-up items staying in their places; in a failure-free run nothing is given up -/
theorem fanout_single_worker_order {c : FanOut.Cfg} {input : List Nat} {k1 k2 : Nat} {s : FanOut.St}
    (h : FanOut.Reachable c input k1 k2 s) (hn : c.n = 1) :
    s.got ++ s.seen ++ s.out ++ s.hold ++ s.droppedW ++ s.rd.held ++ s.droppedR ++ s.src = input ∧
    (c.invalid = false → s.envStopped = false → s.droppedW = [] ∧ s.droppedR = []) :=
  ⟨((FanOut.reachable_good h).ord1 hn).order, fun hv hc => ((FanOut.reachable_good h).clean hv hc).dropped⟩

/-- however many outputs are advanced, at most one reader goroutine is ever started, and exactly one
    while a worker that has advanced its output is still there (receiving or holding an item) -/
theorem fanout_setup_once {c : FanOut.Cfg} {input : List Nat} {k1 k2 : Nat} {s : FanOut.St}
    (h : FanOut.Reachable c input k1 k2 s) :
    s.spawned ≤ 1 ∧ (0 < s.idle + s.hold.length → s.spawned = 1) :=
  FanOut.setup_once (FanOut.reachable_good h).inv

/-! ## FanIn(n): MergeIterators, GenerateParallel -/

theorem fanin_conservation {c : FanIn.Cfg} {privs : List (List Nat)} {shared : List Nat} {k1 k2 : Nat} {s : FanIn.St}
    (h : FanIn.Reachable c privs shared k1 k2 s) :
    (s.got ++ s.pipe ++ s.prods.flatMap (fun p => p.held.toList) ++ s.dropped ++ s.prods.flatMap (·.src) ++ s.shared).Perm
      (privs.flatten ++ shared) :=
  List.perm_iff_count.mpr (FanIn.reachable_good h).conserved

theorem fanin_no_invention {c : FanIn.Cfg} {privs : List (List Nat)} {shared : List Nat} {k1 k2 : Nat} {s : FanIn.St}
    (h : FanIn.Reachable c privs shared k1 k2 s) (a : Nat) : s.got.count a ≤ (privs.flatten ++ shared).count a := by
  have := (FanIn.reachable_good h).conserved a
  simp only [FanIn.St.items, List.count_append] at this ⊢
  omega

theorem fanin_terminal_multiset_eq {c : FanIn.Cfg} {privs : List (List Nat)} {shared : List Nat} {k1 k2 : Nat}
    {s : FanIn.St} (hn : 0 < privs.length) (hv : c.invalid = false) (h : FanIn.Reachable c privs shared k1 k2 s)
    (hclean : s.envStopped = false) (ht : s.terminal = true) : s.got.Perm (privs.flatten ++ shared) := by
  have hg := FanIn.reachable_good h
  have hlen : s.prods.length = privs.length := FanIn.reachable_prods_length h
  exact (FanIn.terminal_clean hg (by omega) hv hclean ht).1 ▸ List.perm_iff_count.mpr hg.conserved

/-- a single producer keeps the order of its source in **every** run (MergeIterators of one iterator,
    GenerateParallel with one worker); in a failure-free run nothing is given up -/
theorem fanin_single_producer_order {c : FanIn.Cfg} {l shared : List Nat} {k1 k2 : Nat} {s : FanIn.St}
    (h : FanIn.Reachable c [l] shared k1 k2 s) :
    s.got ++ s.pipe ++ s.prods.flatMap (fun p => p.held.toList) ++ s.dropped ++ s.prods.flatMap (·.src) ++ s.shared
      = l ++ shared ∧ (c.invalid = false → s.envStopped = false → s.dropped = []) := by
  have hg := FanIn.reachable_good h
  have hlen : s.prods.length = 1 := by simpa using FanIn.reachable_prods_length h
  have := (hg.order1 hlen).1
  exact ⟨by simpa using this, fun hv hc => (hg.clean hv hc).dropped⟩

/-! ## Feeder: Buffer, Chain, MergeSlices, MergeSliceIterators, BufferedChannel, dt.Map / adt.Map iterators -/

theorem feeder_order {c : Feeder.Cfg} {input : List Nat} {k1 k2 : Nat} {s : Feeder.St}
    (h : Feeder.Reachable c input k1 k2 s) :
    s.got ++ s.pipe ++ s.fd.held ++ s.dropped ++ s.src = input :=
  (Feeder.reachable_inv h).order

theorem feeder_conservation {c : Feeder.Cfg} {input : List Nat} {k1 k2 : Nat} {s : Feeder.St}
    (h : Feeder.Reachable c input k1 k2 s) :
    (s.got ++ s.pipe ++ s.fd.held ++ s.dropped ++ s.src).Perm input := by
  rw [feeder_order h]

/-- what the consumer of Buffer (of any Feeder construct) has received is always a prefix of the input -/
theorem buffer_order {c : Feeder.Cfg} {input : List Nat} {k1 k2 : Nat} {s : Feeder.St}
    (h : Feeder.Reachable c input k1 k2 s) : s.got <+: input :=
  ⟨s.pipe ++ s.fd.held ++ s.dropped ++ s.src, by simpa [List.append_assoc] using feeder_order h⟩

theorem feeder_terminal_eq {c : Feeder.Cfg} {input : List Nat} {k1 k2 : Nat} {s : Feeder.St}
    (h : Feeder.Reachable c input k1 k2 s) (hclean : s.envStopped = false) (hdone : s.cons = .done) :
    s.got = input :=
  (Feeder.terminal_clean (Feeder.reachable_inv h) hclean hdone).1

/-! ## Non-vacuity: concrete schedules (kernel-evaluated) that satisfy the hypotheses -/

/-- Map with 2 workers over [7, 8, 9]: a complete failure-free schedule ending in a terminal state
    that delivered 8, 7, 9 -/
example :
    let c : FanOut.Cfg := { n := 2, hasOut := true, outCap := 0, hasCloser := true, closerCtx := true, onceGo := false, lazy := true, workerCancels := true }
    ∃ s, FanOut.run c (FanOut.init c [7, 8, 9] 0 0)
      [.cStart, .wAdvance, .wAdvance, .rRead, .rHandoff, .rRead, .rHandoff, .wHandoff 1, .cStart, .wHandoff 0, .rRead,
       .rHandoff, .cStart, .wHandoff 0, .rEof, .wEof, .wEof, .kCancel, .kClose, .cStart, .cEof] = some s ∧
      s.terminal c = true ∧ s.envStopped = false ∧ s.got = [8, 7, 9] ∧ c.wf := by
  refine ⟨_, rfl, ?_, ?_, ?_, ?_⟩ <;> decide

/-- Buffer(1) over [1, 2]: reachable non-terminal state with an item in the buffer -/
example :
    let c : Feeder.Cfg := { cap := 1, onceGo := true, srcChecksCtx := true, eager := false }
    ∃ s, Feeder.run c (Feeder.init c [1, 2] 1 0) [.cStart, .fRead, .fSend, .fRead] = some s ∧
      s.pipe = [1] ∧ s.fd = .running (some 2) ∧ s.envStopped = false := by
  refine ⟨_, rfl, ?_, ?_, ?_⟩ <;> decide

/-- MergeIterators of [1, 3] and [2]: complete failure-free schedule -/
example :
    let c : FanIn.Cfg := { cap := 0, srcChecksCtx := true, closerCtx := true }
    ∃ s, FanIn.run c (FanIn.init c [[1, 3], [2]] [] 0 0)
      [.cStart, .pRead 1, .pRead 0, .pHandoff 1, .cStart, .pHandoff 0, .pRead 0, .pEof 1, .cStart, .pHandoff 0, .pEof 0,
       .kCancel, .kClose, .cStart, .cEof] = some s ∧ s.terminal = true ∧ s.got = [2, 1, 3] := by
  refine ⟨_, rfl, ?_, ?_⟩ <;> decide

end FunModel.C01
