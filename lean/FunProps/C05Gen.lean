import FunProofs.GenTieTracker

/-! C05 — T-gen obligations: the limit trackers the Queue model uses (FunModel/Queue.lean `Tracker`) are
    equal to the definitions tools/go2lean regenerates from pubsub/tracker.go on every run
    (lean/FunGen/Tracker.lean). -/
namespace FunModel.C05Gen
open FunModel.Queue FunGen.Tracker FunProofs.GenTie

theorem gen_soft_len (sq hl l : Nat) (cr : Float) :
    (genSoft sq hl l cr).len = ((Tracker.soft sq hl l cr).len : Int) := rfl

theorem gen_soft_cap (sq hl l : Nat) (cr : Float) :
    some (genSoft sq hl l cr).cap = ((Tracker.soft sq hl l cr).cap).map (fun (n : Nat) => (n : Int)) := rfl

/-- `queueLimitTrackerImpl.add`: same decision (ok / ErrQueueFull / ErrQueueNoCredit) and same new state -/
theorem gen_soft_add (sq hl l : Nat) (cr : Float) :
    (genSoft sq hl l cr).add = (genOfSoft (Tracker.soft sq hl l cr).add.1, errOf (Tracker.soft sq hl l cr).add.2) := by
  unfold queueLimitTrackerImpl.add Queue.Tracker.add genSoft
  by_cases h1 : l ≥ sq
  · have h1' : (l : Int) ≥ (sq : Int) := by omega
    by_cases h2 : l = hl
    · subst h2; simp [h1, h1', genOfSoft, genSoft, errOf]
    · have h2' : ¬ ((l : Int) = (hl : Int)) := by omega
      by_cases h3 : cr < 1
      · simp [h1, h1', h2, h2', h3, genOfSoft, genSoft, errOf]
      · simp [h1, h1', h2, h2', h3, genOfSoft, genSoft, errOf]
  · have h1' : ¬ ((l : Int) ≥ (sq : Int)) := by omega
    simp [h1, h1', genOfSoft, genSoft, errOf]

/-- `queueLimitTrackerImpl.remove`, for the states the queue calls it in (`length > 0`, tracker invariant) -/
theorem gen_soft_remove (sq hl l : Nat) (cr : Float) (hl0 : 0 < l) (hsq : 1 ≤ sq) (hh : sq ≤ hl) :
    (genSoft sq hl l cr).remove = genOfSoft (Tracker.soft sq hl l cr).remove := by
  unfold queueLimitTrackerImpl.remove Queue.Tracker.remove genSoft
  have e1 : ((l : Int) - 1) = ((l - 1 : Nat) : Int) := by omega
  by_cases h1 : l - 1 < sq
  · have h1' : ((l : Int) - 1) < (sq : Int) := by omega
    by_cases h2 : sq > 1 ∧ l - 1 < sq / 2
    · have h2a : (sq : Int) > 1 := by omega
      have h2b : ((l : Int) - 1) < Int.tdiv (sq : Int) 2 := by
        rw [Int.tdiv_eq_ediv_of_nonneg (by omega)]; omega
      have e2 : ((sq : Int) - 1) = ((sq - 1 : Nat) : Int) := by omega
      have k1 : l - 1 ≤ sq - 1 := by omega
      have k2 : sq - 1 ≤ hl := by omega
      simp only [h1, h1', h2.1, h2.2, h2a, h2b, genOfSoft, genSoft, decide_true, Bool.and_self, if_true,
        gt_iff_lt]
      rw [e1, e2, float_ofInt_sub _ _ k1, float_ofInt_sub _ _ k2, float_ofInt_nat]
      simp only [decide_eq_true_eq]
      split <;> rfl
    · have h2' : ¬ ((sq : Int) > 1 ∧ ((l : Int) - 1) < Int.tdiv (sq : Int) 2) := by
        rw [Int.tdiv_eq_ediv_of_nonneg (by omega)]; omega
      have k1 : l - 1 ≤ sq := by omega
      have hb : (decide (sq > 1) && decide (l - 1 < sq / 2)) = false := by simpa using h2
      have hb' : (decide ((sq : Int) > 1) && decide (((l : Int) - 1) < Int.tdiv (sq : Int) 2)) = false := by
        simpa using h2'
      simp only [h1, h1', hb, hb', genOfSoft, genSoft, decide_true, if_true, Bool.false_eq_true, if_false]
      rw [e1, float_ofInt_sub _ _ k1, float_ofInt_sub _ _ hh, float_ofInt_nat]
      simp only [decide_eq_true_eq]
      split <;> rfl
  · have h1' : ¬ (((l : Int) - 1) < (sq : Int)) := by omega
    simp [h1, genOfSoft, genSoft, e1]

theorem gen_noLimit_len (l : Nat) : (genNoLimit l).len = ((Tracker.noLimit l).len : Int) := rfl
theorem gen_noLimit_cap (l : Nat) : (genNoLimit l).cap = maxInt ∧ (Tracker.noLimit l).cap = none := ⟨rfl, rfl⟩
theorem gen_noLimit_add (l : Nat) :
    (genNoLimit l).add = (genNoLimit (Tracker.noLimit l).add.1.len, errOf (Tracker.noLimit l).add.2) := by
  simp [queueNoLimitTrackerImpl.add, Queue.Tracker.add, genNoLimit, errOf, Queue.Tracker.len]
theorem gen_noLimit_remove (l : Nat) :
    (genNoLimit l).remove = genNoLimit (Tracker.noLimit l).remove.len := by
  unfold queueNoLimitTrackerImpl.remove Queue.Tracker.remove genNoLimit Queue.Tracker.len
  by_cases h : l = 0
  · subst h; simp
  · have : ¬ ((l : Int) = 0) := by omega
    have e : ((l : Int) - 1) = ((l - 1 : Nat) : Int) := by omega
    simp [e]; intro h0; exact absurd h0 h

end FunModel.C05Gen
