import FunProofs.DllRun

/-! C16 — `dt.List` / `dt.Element` (circular doubly linked list with a sentinel), pointer level.

    Every operation of `Op` (the mutating operations of `dt.List` / `dt.Element` other than `Swap`;
    `reachable_wf` names them) keeps ALL lists of the heap well-formed (`WF h g`, for any number
    of lists of any length) and acts on the ghost sequences `g l` (the element addresses held by
    list `l`, front to back) exactly like the corresponding operation on a plain sequence; no
    operation panics on allocated arguments (`l.Extend(l)`, which does not return on a
    list of two or more elements, is excluded by `Op.valid`); `ok`/`item` of untouched elements do
    not change (`Frame`), so the value sequences `vals h g l = (g l).map item` evolve like plain
    slices.
    `Element.Swap` as written does NOT keep the invariant (`swap_breaks_wf`).
    The invariant is defined in `FunProofs/Dll.lean`, the operations' run relation and the witnesses in
    `FunProofs/DllRun.lean`. -/

namespace FunModel.C16
open FunModel.Dll

variable {h : Heap} {g : Nat → List Nat}

theorem wf_empty : WF {} (fun _ => []) := WF.empty

theorem wf_no_root (hw : WF h g) {l : Nat} (hr : (h.hdr l).root = none) :
    g l = [] ∧ (h.hdr l).length = 0 := by
  have h1 := (hw.lwf l).empty hr
  exact ⟨h1, hw.len_eq_zero.2 h1⟩

theorem wf_unallocated (hw : WF h g) {l : Nat} (hl : h.nl ≤ l) : h.hdr l = {} ∧ g l = [] :=
  ⟨hw.hdr_unalloc hl, hw.ghost_unalloc hl⟩

theorem wf_root (hw : WF h g) {l r : Nat} (hr : (h.hdr l).root = some r) :
    l < h.nl ∧ r < h.nn ∧ (h.node r).ok = false ∧ (h.node r).list = some l ∧ Chain h r (g l) r ∧
      (∀ l', r ∉ g l') ∧ (∀ l', (h.hdr l').root = some r → l' = l) := by
  obtain ⟨h1, h2, h3, h4⟩ := (hw.lwf l).root r hr
  exact ⟨hw.lt_nl_of_root hr, h1, h2, h3, h4, fun _ => hw.root_not_mem hr, fun _ hr' =>
    Option.some.inj ((hw.root_list hr').symm.trans (hw.root_list hr))⟩

/-- `Chain` spelled out -/
theorem wf_links (hw : WF h g) {l r : Nat} (hr : (h.hdr l).root = some r) :
    (h.node r).next = some ((g l).headD r) ∧ (h.node r).prev = some (lastOr r (g l)) ∧
      ∀ pre e post, g l = pre ++ e :: post →
        (h.node e).next = some (post.headD r) ∧ (h.node e).prev = some (lastOr r pre) := by
  have h4 := hw.chain hr
  refine ⟨h4.next_first, h4.prev_last, ?_⟩
  intro pre e post hg
  rw [hg] at h4
  exact ⟨h4.next_mid, h4.prev_mid⟩

theorem wf_length (hw : WF h g) (l : Nat) : (h.hdr l).length = (g l).length := (hw.lwf l).len

theorem wf_nodup (hw : WF h g) (l : Nat) : (g l).Nodup := (hw.lwf l).nodup

theorem wf_elem (hw : WF h g) {l x : Nat} (hx : x ∈ g l) :
    x < h.nn ∧ (h.node x).ok = true ∧ (h.node x).list = some l ∧ ∀ l', (h.hdr l').root ≠ some x := by
  obtain ⟨h1, h2, h3⟩ := (hw.lwf l).elem x hx
  exact ⟨h1, h2, h3, fun l' hr => hw.root_not_mem hr hx⟩

theorem wf_disjoint (hw : WF h g) {l l' x : Nat} (hne : l ≠ l') (hx : x ∈ g l) : x ∉ g l' :=
  fun hx' => hne (hw.disjoint hx hx')

theorem wf_detached (hw : WF h g) {a : Nat} (hr : ∀ l, (h.hdr l).root ≠ some a) (hm : ∀ l, a ∉ g l) :
    (h.node a).list = none := hw.detached hr hm

theorem wf_unallocated_elem (hw : WF h g) {a : Nat} (ha : h.nn ≤ a) : (h.node a).list = none :=
  hw.list_none_of_ge ha

theorem allocList_spec (hw : WF h g) :
    h.allocList.2 = h.nl ∧ WF h.allocList.1 g ∧ g h.nl = [] ∧ (h.allocList.1.hdr h.nl).root = none ∧
      h.allocList.1.nl = h.nl + 1 ∧ Frame h h.allocList.1 :=
  ⟨rfl, hw.allocList, hw.ghost_unalloc (Nat.le_refl _), by simp, rfl, Frame.allocList hw⟩

/-- `NewElement v` -/
theorem makeElem_spec (hw : WF h g) (v : Int) :
    (h.makeElem v).2 = h.nn ∧ WF (h.makeElem v).1 g ∧
      (h.makeElem v).1.node h.nn = { ok := true, item := v } ∧ (h.makeElem v).1.nn = h.nn + 1 ∧
      Frame h (h.makeElem v).1 :=
  ⟨rfl, hw.alloc rfl, by simp [Heap.makeElem], rfl, Frame.alloc h _⟩

theorem lazySetup_spec (hw : WF h g) {l : Nat} (hl : l < h.nl) :
    WF (h.lazySetup l) g ∧ Frame h (h.lazySetup l) ∧ ∃ r, ((h.lazySetup l).hdr l).root = some r :=
  hw.lazySetup hl

theorem lazySetup_idem {l r : Nat} (hr : (h.hdr l).root = some r) : h.lazySetup l = h :=
  Heap.lazySetup_some hr

theorem pushBack_spec (hw : WF h g) {l : Nat} (hl : l < h.nl) (v : Int) :
    ∃ h' n, h.pushBack l v = some h' ∧ h.nn ≤ n ∧ WF h' (upd g l (g l ++ [n])) ∧
      (h'.node n).item = v ∧ Frame h h' :=
  hw.pushBack hl v

theorem pushFront_spec (hw : WF h g) {l : Nat} (hl : l < h.nl) (v : Int) :
    ∃ h' n, h.pushFront l v = some h' ∧ h.nn ≤ n ∧ WF h' (upd g l (n :: g l)) ∧
      (h'.node n).item = v ∧ Frame h h' :=
  hw.pushFront hl v

theorem pushBack_vals (hw : WF h g) {l : Nat} (hl : l < h.nl) (v : Int) :
    ∃ h' g', h.pushBack l v = some h' ∧ WF h' g' ∧ vals h' g' l = vals h g l ++ [v] ∧
      ∀ l', l' ≠ l → vals h' g' l' = vals h g l' := by
  obtain ⟨h', n, h1, h4, h2, h5, h3⟩ := hw.pushBack hl v
  refine ⟨h', _, h1, h2, ?_, fun l' hl' => h3.vals hw (upd_other g _ hl')⟩
  simp only [vals, upd_same, List.map_append, List.map_cons, List.map_nil, h5]
  rw [h3.map_item (fun x hx => hw.elem_lt hx)]

theorem pushFront_vals (hw : WF h g) {l : Nat} (hl : l < h.nl) (v : Int) :
    ∃ h' g', h.pushFront l v = some h' ∧ WF h' g' ∧ vals h' g' l = v :: vals h g l ∧
      ∀ l', l' ≠ l → vals h' g' l' = vals h g l' := by
  obtain ⟨h', n, h1, h4, h2, h5, h3⟩ := hw.pushFront hl v
  refine ⟨h', _, h1, h2, ?_, fun l' hl' => h3.vals hw (upd_other g _ hl')⟩
  simp only [vals, upd_same, List.map_cons, h5]
  rw [h3.map_item (fun x hx => hw.elem_lt hx)]

theorem popFront_nonempty (hw : WF h g) {l x : Nat} {xs : List Nat} (hg : g l = x :: xs) :
    ∃ h', h.popFront l = some (h', x) ∧ WF h' (upd g l xs) ∧ (h'.node x).list = none ∧
      (h'.node x).ok = true ∧ (h'.node x).item = (h.node x).item ∧ Frame h h' :=
  hw.popFront_cons hg

theorem popBack_nonempty (hw : WF h g) {l x : Nat} {xs : List Nat} (hg : g l = xs ++ [x]) :
    ∃ h', h.popBack l = some (h', x) ∧ WF h' (upd g l xs) ∧ (h'.node x).list = none ∧
      (h'.node x).ok = true ∧ (h'.node x).item = (h.node x).item ∧ Frame h h' :=
  hw.popBack_snoc hg

/-- empty list: a fresh zero-value element (`&Element[T]{}`, not ok) comes back -/
theorem popFront_empty (hw : WF h g) {l : Nat} (hl : l < h.nl) (hg : g l = []) :
    ∃ h' z, h.popFront l = some (h', z) ∧ WF h' g ∧ h.nn ≤ z ∧ z < h'.nn ∧ h'.node z = {} ∧
      Frame h h' := by
  obtain ⟨h', z, h1, _, rest⟩ := hw.pop_empty hl hg
  exact ⟨h', z, h1, rest⟩

theorem popBack_empty (hw : WF h g) {l : Nat} (hl : l < h.nl) (hg : g l = []) :
    ∃ h' z, h.popBack l = some (h', z) ∧ WF h' g ∧ h.nn ≤ z ∧ z < h'.nn ∧ h'.node z = {} ∧
      Frame h h' := by
  obtain ⟨h', z, _, h2, rest⟩ := hw.pop_empty hl hg
  exact ⟨h', z, h2, rest⟩

/-- accepted: `n` is inserted right after `e` (at the front when `e` is the sentinel) and returned -/
theorem elemAppend_accepted (hw : WF h g) {l e n : Nat} (he : (h.node e).list = some l)
    (hn : n < h.nn) (hok : (h.node n).ok = true) (hdet : (h.node n).list = none) :
    ∃ h', h.elemAppend e (some n) = some (h', n) ∧
      WF h' (upd g l (if (h.hdr l).root = some e then n :: g l else insertAfter e n (g l))) ∧
      Frame h h' ∧ h'.nn = h.nn ∧ h'.nl = h.nl :=
  hw.elemAppend_accept he hn hok hdet

theorem insertAfter_spec {e n : Nat} {pre post : List Nat} (he : e ∉ pre) :
    insertAfter e n (pre ++ e :: post) = pre ++ e :: n :: post := insertAfter_split he

theorem elemAppend_rejected {e : Nat} {new : Option Nat}
    (hrej : new = none ∨ ∃ n, new = some n ∧
      ((h.node n).ok = false ∨ (h.node e).list = none ∨ (h.node n).list ≠ none)) :
    h.elemAppend e new = some (h, e) := by
  apply Heap.elemAppend_reject
  rcases hrej with rfl | ⟨n, rfl, hc⟩
  · rfl
  · rcases hc with hc | hc | hc
    · simp [Heap.appendable, hc]
    · simp [Heap.appendable, hc]
    · cases hl : (h.node n).list with
      | none => exact absurd hl hc
      | some _ => simp [Heap.appendable, hl]

/-- the same two theorems with the side conditions phrased on the ghost state -/
theorem elemAppend_accepted_ghost (hw : WF h g) {l e n : Nat}
    (he : (h.hdr l).root = some e ∨ e ∈ g l) (hn : n < h.nn) (hok : (h.node n).ok = true)
    (hnr : ∀ l', (h.hdr l').root ≠ some n) (hnm : ∀ l', n ∉ g l') :
    ∃ h', h.elemAppend e (some n) = some (h', n) ∧
      WF h' (upd g l (if (h.hdr l).root = some e then n :: g l else insertAfter e n (g l))) ∧
      Frame h h' ∧ h'.nn = h.nn ∧ h'.nl = h.nl :=
  hw.elemAppend_accept (he.elim hw.root_list hw.elem_list) hn hok (hw.detached hnr hnm)

theorem elemAppend_rejected_ghost (hw : WF h g) {e : Nat} {new : Option Nat}
    (hrej : new = none ∨ ∃ n, new = some n ∧
      ((h.node n).ok = false ∨ ((∀ l, (h.hdr l).root ≠ some e) ∧ ∀ l, e ∉ g l) ∨
        ∃ l, (h.hdr l).root = some n ∨ n ∈ g l)) :
    h.elemAppend e new = some (h, e) := by
  apply elemAppend_rejected
  rcases hrej with rfl | ⟨n, rfl, hc⟩
  · exact Or.inl rfl
  · refine Or.inr ⟨n, rfl, ?_⟩
    rcases hc with hc | ⟨h1, h2⟩ | ⟨l, hc⟩
    · exact Or.inl hc
    · exact Or.inr (Or.inl (hw.detached h1 h2))
    · refine Or.inr (Or.inr ?_)
      rw [hc.elim hw.root_list hw.elem_list]; simp

/-- the two cases are exhaustive: `Append` never panics -/
theorem elemAppend_total (hw : WF h g) {e : Nat} {new : Option Nat} (hn : ∀ n, new = some n → n < h.nn) :
    ∃ h' g' x, h.elemAppend e new = some (h', x) ∧ WF h' g' ∧ Frame h h' :=
  hw.elemAppend_total hn

theorem elemRemove_attached (hw : WF h g) {l e : Nat} (hm : e ∈ g l) :
    ∃ h', h.elemRemove e = some (h', true) ∧ WF h' (upd g l ((g l).erase e)) ∧ Frame h h' ∧
      h'.nn = h.nn ∧ h'.nl = h.nl ∧ (h'.node e).list = none :=
  hw.elemRemove_mem hm

/-- sentinels and detached elements: `false`, nothing changes -/
theorem elemRemove_other (hw : WF h g) {e : Nat} (hm : ∀ l, e ∉ g l) : h.elemRemove e = some (h, false) :=
  hw.elemRemove_not hm

theorem elemDrop_attached (hw : WF h g) {l e : Nat} (hm : e ∈ g l) :
    ∃ h', h.elemDrop e = some h' ∧ WF h' (upd g l ((g l).erase e)) ∧ FrameExcept e h h' ∧
      h'.nn = h.nn ∧ h'.nl = h.nl ∧
      (h'.node e).list = none ∧ (h'.node e).ok = false ∧ (h'.node e).item = 0 :=
  hw.elemDrop_mem hm

theorem elemDrop_other (hw : WF h g) {e : Nat} (hm : ∀ l, e ∉ g l) : h.elemDrop e = some h :=
  hw.elemDrop_not hm

theorem elemSet_refuses_iff (hw : WF h g) (e : Nat) (v : Int) :
    (h.elemSet e v).2 = false ↔ ∃ l, (h.hdr l).root = some e := by
  by_cases hr : ∃ l, (h.hdr l).root = some e
  · obtain ⟨l, hr'⟩ := hr
    simp only [Heap.elemSet_root (hw.root_list hr') hr' v, true_iff]
    exact ⟨l, hr'⟩
  · obtain ⟨h', e1, _⟩ := hw.elemSet_nonroot (e := e) (fun l hx => hr ⟨l, hx⟩) v
    simp [e1, hr]

theorem elemSet_root (hw : WF h g) {l e : Nat} (hr : (h.hdr l).root = some e) (v : Int) :
    h.elemSet e v = (h, false) :=
  Heap.elemSet_root (hw.root_list hr) hr v

theorem elemSet_nonroot (hw : WF h g) {e : Nat} (hr : ∀ l, (h.hdr l).root ≠ some e) (v : Int) :
    ∃ h', h.elemSet e v = (h', true) ∧ WF h' g ∧ (h'.node e).ok = true ∧ (h'.node e).item = v ∧
      FrameExcept e h h' :=
  hw.elemSet_nonroot hr v

theorem set_keeps_headers (h : Heap) (e : Nat) (v : Int) : (h.elemSet e v).1.hdr = h.hdr := by
  unfold Heap.elemSet
  cases (h.node e).list with
  | none => rfl
  | some l => by_cases hr : (h.hdr l).root = some e <;> simp [hr]

theorem extend_spec (hw : WF h g) {l src : Nat} (hl : l < h.nl) (hs : src < h.nl) (hne : l ≠ src) :
    ∃ h', h.extend l src = some h' ∧ WF h' (upd (upd g l (g l ++ g src)) src []) ∧ Frame h h' :=
  hw.extend hl hs hne

theorem extend_vals (hw : WF h g) {l src : Nat} (hl : l < h.nl) (hs : src < h.nl) (hne : l ≠ src) :
    ∃ h' g', h.extend l src = some h' ∧ WF h' g' ∧ vals h' g' l = vals h g l ++ vals h g src ∧
      vals h' g' src = [] ∧ ∀ l', l' ≠ l → l' ≠ src → vals h' g' l' = vals h g l' := by
  obtain ⟨h', h1, h2, h3⟩ := hw.extend hl hs hne
  refine ⟨h', _, h1, h2, ?_, ?_, ?_⟩
  · simp only [vals, upd_other _ _ hne, upd_same, List.map_append]
    rw [h3.map_item (fun x hx => hw.elem_lt hx),
      h3.map_item (fun x hx => hw.elem_lt hx)]
  · simp [vals]
  · intro l' h4 h5
    exact h3.vals hw (by rw [upd_other _ _ h5, upd_other _ _ h4])

/-- `Copy`: a new list (address `h.nl`) of fresh elements carrying the same items in order -/
theorem copy_spec (hw : WF h g) {l : Nat} (hl : l < h.nl) :
    ∃ h' ns, h.copy l = some (h', h.nl) ∧ WF h' (upd g h.nl ns) ∧ (∀ n, n ∈ ns → h.nn ≤ n) ∧
      vals h' (upd g h.nl ns) h.nl = vals h g l ∧
      (∀ l', l' < h.nl → vals h' (upd g h.nl ns) l' = vals h g l') ∧ Frame h h' :=
  hw.copy hl

/-- `ProducerPop` called `fuel` times (or until EOF) -/
theorem popIterFront_spec (hw : WF h g) {l : Nat} (hl : l < h.nl) (fuel : Nat) (acc : List Nat) :
    ∃ h', h.popIterLoop l false fuel acc = some (h', acc.reverse ++ (g l).take fuel) ∧
      WF h' (upd g l ((g l).drop fuel)) ∧ Frame h h' :=
  hw.popIter false fuel hl

/-- `ProducerReversePop`: the same from the back -/
theorem popIterBack_spec (hw : WF h g) {l : Nat} (hl : l < h.nl) (fuel : Nat) (acc : List Nat) :
    ∃ h', h.popIterLoop l true fuel acc = some (h', acc.reverse ++ (g l).reverse.take fuel) ∧
      WF h' (upd g l ((g l).reverse.drop fuel).reverse) ∧ Frame h h' :=
  hw.popIter true fuel hl

theorem popIter_drains (hw : WF h g) {l : Nat} (hl : l < h.nl) {fuel : Nat} (hf : (g l).length < fuel)
    (fromBack : Bool) :
    ∃ h', h.popIterLoop l fromBack fuel [] = some (h', if fromBack then (g l).reverse else g l) ∧
      WF h' (upd g l []) ∧ Frame h h' := by
  obtain ⟨h', h1, h2, h3⟩ := hw.popIter fromBack fuel (acc := []) hl
  have hf' : (seen fromBack (g l)).length ≤ fuel := by cases fromBack <;> simpa [seen] using Nat.le_of_lt hf
  rw [List.take_of_length_le hf', List.drop_of_length_le hf'] at *
  exact ⟨h', by cases fromBack <;> simpa [seen] using h1, by simpa using h2, h3⟩

/-- the public forward traversal sees exactly the ghost sequence -/
theorem walkFwd_eq (hw : WF h g) {l : Nat} (hl : l < h.nl) {fuel : Nat} (hf : (g l).length < fuel) :
    (h.lazySetup l).walkFwd l fuel = (g l, "end") := by
  obtain ⟨hw', _, r, hr⟩ := hw.lazySetup hl
  exact hw'.walkFwd hr hf

theorem walkBwd_eq (hw : WF h g) {l : Nat} (hl : l < h.nl) {fuel : Nat} (hf : (g l).length < fuel) :
    (h.lazySetup l).walkBwd l fuel = ((g l).reverse, "end") := by
  obtain ⟨hw', _, r, hr⟩ := hw.lazySetup hl
  exact hw'.walkBwd hr hf

theorem len_eq (hw : WF h g) (l : Nat) : (h.hdr l).length = (g l).length := wf_length hw l

theorem in_iff (hw : WF h g) {a l : Nat} (hr : ∀ l, (h.hdr l).root ≠ some a) :
    (h.node a).list = some l ↔ a ∈ g l :=
  ⟨fun hl => (hw.owner a l hl).resolve_left (hr l), hw.elem_list⟩

/-- `In` on a nil handle is `false` (the documented answer), not a panic -/
theorem elemIn_nil (l : Nat) : h.elemIn none l = false := rfl

/-- `In` is membership in the ghost sequence, for every handle that is not a sentinel -/
theorem elemIn_iff (hw : WF h g) {e : Option Nat} {l : Nat} (hr : ∀ a, e = some a → ∀ l, (h.hdr l).root ≠ some a) :
    h.elemIn e l = true ↔ ∃ a, e = some a ∧ a ∈ g l := by
  cases e with
  | none => simp [Heap.elemIn]
  | some a =>
    have := in_iff hw (l := l) (hr a rfl)
    simp only [Heap.elemIn, Bool.and_eq_true, beq_iff_eq, Option.some.injEq, exists_eq_left']
    constructor
    · intro hh; exact this.mp hh.2
    · intro hm; have := this.mpr hm; exact ⟨by simp [this], this⟩

theorem elemIn_detached (hw : WF h g) {e : Option Nat} (hr : ∀ a, e = some a → ∀ l, (h.hdr l).root ≠ some a)
    (hm : ∀ a, e = some a → ∀ l, a ∉ g l) (l : Nat) : h.elemIn e l = false := by
  cases hb : h.elemIn e l with
  | false => rfl
  | true =>
    obtain ⟨a, ha, hin⟩ := (elemIn_iff hw hr).mp hb
    exact absurd hin (hm a ha l)

theorem elemSwap_nil (e : Nat) : h.elemSwap e none = some (h, false) := rfl

theorem elemSwap_detached {e w : Nat} (he : (h.node e).list = none) : h.elemSwap e (some w) = some (h, false) := by
  simp [Heap.elemSwap, he]

theorem elemSwap_other_list {e w : Nat} (he : (h.node e).list ≠ (h.node w).list) :
    h.elemSwap e (some w) = some (h, false) := by
  simp [Heap.elemSwap, he]

theorem elemSwap_self (e : Nat) : h.elemSwap e (some e) = some (h, false) := by
  simp [Heap.elemSwap]

theorem demo4_wf : ∃ h g, demo4 = some h ∧ WF h g ∧ g 0 = [1, 2, 3, 4] ∧ vals h g 0 = [1, 2, 3, 4] := by
  have hw0 : WF ({} : Heap).allocList.1 (fun _ => []) := WF.empty.allocList
  obtain ⟨h1, n1, e1, _, hw1, _, f1⟩ := hw0.pushBack (l := 0) (by decide) 1
  have l1 : 0 < h1.nl := Nat.lt_of_lt_of_le (by decide) f1.nl
  obtain ⟨h2, n2, e2, _, hw2, _, f2⟩ := hw1.pushBack l1 2
  have l2 : 0 < h2.nl := Nat.lt_of_lt_of_le l1 f2.nl
  obtain ⟨h3, n3, e3, _, hw3, _, f3⟩ := hw2.pushBack l2 3
  have l3 : 0 < h3.nl := Nat.lt_of_lt_of_le l2 f3.nl
  obtain ⟨h4, n4, e4, _, hw4, _⟩ := hw3.pushBack l3 4
  -- `pushBack` says of `n1 … n4` only that they are fresh: forget the symbolic ghost state and read the sequence
  -- off the evaluated forward walk (`ghost_of_walk`)
  obtain ⟨G, hw4⟩ : ∃ G, WF h4 G := ⟨_, hw4⟩
  have hd : demo4 = some h4 := by simp [demo4, e1, e2, e3, e4]
  have hev : (demo4.map fun h => (h.walkFwd 0 10, [1, 2, 3, 4].map fun a => (h.node a).item,
      (h.hdr 0).root, (h.hdr 0).length)) = some (([1, 2, 3, 4], "end"), [1, 2, 3, 4], some 0, 4) := by
    decide +kernel
  rw [hd] at hev
  simp only [Option.map_some, Option.some.injEq, Prod.mk.injEq] at hev
  obtain ⟨hwalk, hitems, hroot, hlen⟩ := hev
  have hg : G 0 = [1, 2, 3, 4] := hw4.ghost_of_walk hroot (fuel := 10) (by rw [hlen]; decide) hwalk
  refine ⟨h4, G, hd, hw4, hg, ?_⟩
  unfold vals
  rw [hg]
  exact hitems

/-- `Element.Swap` as written breaks the invariant: swapping the first and the last element of
    the well-formed list 1,2,3,4 reports success, but afterwards the forward traversal visits
    only three elements (4,2,3 — element 1 is lost) while `Len` still says 4, the backward
    traversal from the sentinel is still going round 2,4,1,5 after ten steps, and no ghost state
    makes the heap well-formed. -/
theorem swap_breaks_wf :
    ∃ h0 g0 h, demo4 = some h0 ∧ WF h0 g0 ∧ g0 0 = [1, 2, 3, 4] ∧
      h0.elemSwap 1 (some 4) = some (h, true) ∧
      h.walkFwd 0 10 = ([4, 2, 3], "end") ∧ (h.hdr 0).length = 4 ∧
      h.walkBwd 0 10 = ([3, 2, 4, 1, 5, 2, 4, 1, 5, 2], "cycle") ∧ ¬ ∃ g, WF h g := by
  obtain ⟨h0, g0, hd, hw0, hg0, _⟩ := demo4_wf
  have hs : demoSwap = h0.elemSwap 1 (some 4) := by simp [demoSwap, hd]
  have hev : (demoSwap.any fun p => p.2 && decide (p.1.walkFwd 0 10 = ([4, 2, 3], "end")) &&
      decide ((p.1.hdr 0).length = 4) &&
      decide (p.1.walkBwd 0 10 = ([3, 2, 4, 1, 5, 2, 4, 1, 5, 2], "cycle")) &&
      decide ((p.1.hdr 0).root = some 0)) = true := by decide +kernel
  obtain ⟨⟨h, b⟩, hsw, hev⟩ := (Option.any_eq_true _ _).1 hev
  simp only [Bool.and_eq_true, decide_eq_true_eq] at hev
  obtain ⟨⟨⟨⟨rfl, h2⟩, h3⟩, h4⟩, h5⟩ := hev
  refine ⟨h0, g0, h, hd, hw0, hg0, hs ▸ hsw, h2, h3, h4, ?_⟩
  rintro ⟨g, hw⟩
  have hl := (hw.lwf 0).len
  rw [hw.ghost_of_walk h5 (by rw [h3]; decide) h2, h3] at hl
  cases hl

/-- every state reachable from the empty heap by the operations of `Op` (AllocList, NewElement,
    lazySetup, PushFront/Back, PopFront/Back, Append, Remove, Drop, Set, Extend (src ≠ l), Copy,
    the pop iterators) with allocated but otherwise arbitrary arguments is well-formed -/
theorem reachable_wf {h : Heap} (hr : Reachable h) : ∃ g, WF h g := hr.wf

/-- … and from a reachable state no such operation panics -/
theorem reachable_no_panic {h : Heap} (hr : Reachable h) (op : Op) (hv : op.valid h) :
    ∃ h', op.run h = some h' ∧ Reachable h' := by
  obtain ⟨g, hw⟩ := hr.wf
  obtain ⟨h', _, e1, _⟩ := hw.step op hv
  exact ⟨h', e1, Reachable.step op hr hv e1⟩

theorem reachable_iff {h : Heap} : Reachable h ↔ ∃ ops, runOps ops {} = some h := by
  simp only [runOps_eq_foldlM]
  constructor
  · intro hr
    induction hr with
    | empty => exact ⟨[], rfl⟩
    | step op _ hv hrun ih => exact List.foldlM_option_reach_step (a := op) ih (by simp [hv, hrun])
  · exact List.foldlM_option_reach_induction Reachable .empty fun s a s' _ hs hf => by
      by_cases hv : a.valid s <;> simp [hv] at hf; exact .step a hs hv hf

/-- by `reachable_no_panic`, `runOps` returns `none` only where `Op.valid` fails -/
theorem runOps_wf {ops : List Op} {h : Heap} (he : runOps ops {} = some h) : ∃ g, WF h g :=
  (reachable_iff.2 ⟨ops, he⟩).wf

/-- in a reachable state forward and backward traversal of every allocated list are reverses of each other,
    end at the sentinel, and `Len` agrees -/
theorem reachable_walks {h : Heap} (hr : Reachable h) {l : Nat} (hl : l < h.nl) :
    ∃ xs : List Nat, (∀ fuel, xs.length < fuel →
        (h.lazySetup l).walkFwd l fuel = (xs, "end") ∧ (h.lazySetup l).walkBwd l fuel = (xs.reverse, "end")) ∧
      (h.hdr l).length = xs.length := by
  obtain ⟨g, hw⟩ := hr.wf
  exact ⟨g l, fun fuel hf => ⟨walkFwd_eq hw hl hf, walkBwd_eq hw hl hf⟩, wf_length hw l⟩

/-- non-vacuity: `demoOps` runs, so its final state is reachable and well-formed -/
example : ∃ h g, runOps demoOps {} = some h ∧ Reachable h ∧ WF h g ∧ h.nl = 3 ∧
    g 0 = [] ∧ g 1 = [5, 2] ∧ vals h g 1 = [40, 7] ∧ g 2 = [8, 9] ∧ vals h g 2 = [40, 10] := by
  have hev : ((runOps demoOps {}).any fun h =>
      decide ((h.nl, (h.hdr 0).root, (h.hdr 1).root, (h.hdr 2).root) = (3, some 0, some 3, some 7)) &&
      decide ((h.walkFwd 0 10, h.walkFwd 1 10, h.walkFwd 2 10) = (([], "end"), ([5, 2], "end"), ([8, 9], "end"))) &&
      decide (((h.hdr 0).length, (h.hdr 1).length, (h.hdr 2).length) = (0, 2, 2)) &&
      decide (([5, 2].map fun a => (h.node a).item, [8, 9].map fun a => (h.node a).item) =
        ([40, 7], [40, 10]))) = true := by decide +kernel
  obtain ⟨h, he, hev⟩ := (Option.any_eq_true _ _).1 hev
  simp only [Bool.and_eq_true, decide_eq_true_eq, Prod.mk.injEq] at hev
  obtain ⟨⟨⟨⟨n1, r0, r1, r2⟩, w0, w1, w2⟩, l0, l1, l2⟩, e2⟩ := hev
  have hr : Reachable h := reachable_iff.2 ⟨_, he⟩
  obtain ⟨g, hw⟩ := hr.wf
  have g0 : g 0 = [] := hw.ghost_of_walk r0 (by rw [l0]; decide) w0
  have g1 : g 1 = [5, 2] := hw.ghost_of_walk r1 (by rw [l1]; decide) w1
  have g2 : g 2 = [8, 9] := hw.ghost_of_walk r2 (by rw [l2]; decide) w2
  refine ⟨h, g, he, hr, hw, n1, g0, g1, ?_, g2, ?_⟩
  · unfold vals; rw [g1]; exact e2.1
  · unfold vals; rw [g2]; exact e2.2

/-- non-vacuity of the hypotheses of the one-step theorems: a well-formed heap with a non-empty
    list and a detached ok element exists -/
example : ∃ h g n, WF h g ∧ g 0 = [1, 2, 3, 4] ∧ n < h.nn ∧ (h.node n).ok = true ∧
    (h.node n).list = none := by
  obtain ⟨h, g, _, hw, hg, _⟩ := demo4_wf
  exact ⟨(h.makeElem 0).1, g, h.nn, hw.alloc rfl, hg, by simp [Heap.makeElem], by simp [Heap.makeElem],
    by simp [Heap.makeElem]⟩

end FunModel.C16
