import FunProofs.GenTieHdr

/-! C19 — T-gen obligations: the index arithmetic the C19 theorems are about (FunModel/Hdr.lean) is
    equal to the definitions tools/go2lean regenerates from dt/hdrhist/hdr.go on every run
    (lean/FunGen/Hdr.lean). Values are non-negative int64 (`< 2^63`). -/
namespace FunModel.C19Gen
open FunModel.Hdr FunGen.Hdr FunProofs.GenTie

/-- `bitLen` of hdr.go (its loop and four steps) is `⌊log2 x⌋ + 1` (0 for 0) -/
theorem gen_bitLen (x : Nat) (h : x < 2 ^ 63) : FunGen.Hdr.bitLen (x : Int) = (FunModel.Hdr.bitLen x : Int) := by
  rw [bitLen_tie, bitLenGo_eq_bitLen x h]

/-- `getBucketIndex`. The guard says that `v` AND the mask are below 2^63 (`bitLen_or`), i.e. that `v | mask` is a
    non-negative int64. The mask of `mkShape min max sig` is below 2^63 unless `sig = 5` and `min ≥ 2^46`, which
    `ValidArgs` admits: there the guard fails for every `v` and the theorems of this file say nothing. -/
theorem gen_getBucketIndex (s : Shape) (v : Nat) (hv : v ||| s.subBucketMask < 2 ^ 63) :
    (genHist s).getBucketIndex (v : Int) = (s.bucketIdx v : Int) := by
  unfold Histogram.getBucketIndex Shape.bucketIdx genHist
  simp only [Int.toNat_natCast]
  rw [gen_bitLen _ hv, bitLen_or, s.bitLen_mask]
  omega

theorem gen_getSubBucketIdx (s : Shape) (v b : Nat) :
    (genHist s).getSubBucketIdx (v : Int) (b : Int) = (s.subBucketIdx v b : Int) := by
  unfold Histogram.getSubBucketIdx Shape.subBucketIdx genHist
  dsimp only
  exact shr_int _ _ v (b + s.unitMag) rfl (by omega)

/-- the Go code subtracts before adding; no intermediate result is observable -/
theorem gen_countsIndex (s : Shape) (b sb : Nat) :
    (genHist s).countsIndex (b : Int) (sb : Int) = (s.countsIndex b sb : Int) := by
  unfold Histogram.countsIndex Shape.countsIndex genHist
  dsimp only
  rw [shl_int _ _ (b + 1) s.halfMag (by omega) (by omega)]
  have h1 : s.subBucketHalfCount ≤ (b + 1) <<< s.halfMag := by
    rw [s.subBucketHalfCount_eq, Nat.shiftLeft_eq]
    exact Nat.le_mul_of_pos_left _ (by omega)
  omega

theorem gen_countsIndexFor (s : Shape) (v : Nat) (hv : v ||| s.subBucketMask < 2 ^ 63) :
    (genHist s).countsIndexFor (v : Int) = (s.countsIndexFor v : Int) := by
  unfold Histogram.countsIndexFor Shape.countsIndexFor
  simp only [gen_getBucketIndex s v hv, gen_getSubBucketIdx, gen_countsIndex]

theorem gen_valueFromIndex (s : Shape) (b sb : Nat) :
    (genHist s).valueFromIndex (b : Int) (sb : Int) = (s.valueFromIndex b sb : Int) := by
  unfold Histogram.valueFromIndex Shape.valueFromIndex genHist
  dsimp only
  exact shl_int _ _ sb (b + s.unitMag) rfl (by omega)

/-- the `fun.Invariant.IsTrue` assertion of the Go function is not translated -/
theorem gen_sizeOfEquivalentValueRange (s : Shape) (v : Nat) (hv : v ||| s.subBucketMask < 2 ^ 63) :
    (genHist s).sizeOfEquivalentValueRange (v : Int) = (s.sizeOfRange v : Int) := by
  unfold Histogram.sizeOfEquivalentValueRange Shape.sizeOfRange
  simp only [gen_getBucketIndex s v hv]
  exact shl_int _ _ 1 (s.unitMag + s.bucketIdx v) rfl (by simp only [genHist]; omega)

theorem gen_lowestEquivalentValue (s : Shape) (v : Nat) (hv : v ||| s.subBucketMask < 2 ^ 63) :
    (genHist s).lowestEquivalentValue (v : Int) = (s.lowestEquiv v : Int) := by
  unfold Histogram.lowestEquivalentValue Shape.lowestEquiv
  simp only [gen_getBucketIndex s v hv, gen_getSubBucketIdx, gen_valueFromIndex]

theorem gen_nextNonEquivalentValue (s : Shape) (v : Nat) (hv : v ||| s.subBucketMask < 2 ^ 63) :
    (genHist s).nextNonEquivalentValue (v : Int) = (s.nextNonEquiv v : Int) := by
  unfold Histogram.nextNonEquivalentValue Shape.nextNonEquiv
  rw [gen_lowestEquivalentValue s v hv, gen_sizeOfEquivalentValueRange s v hv]; omega

theorem gen_highestEquivalentValue (s : Shape) (v : Nat) (hv : v ||| s.subBucketMask < 2 ^ 63) :
    (genHist s).highestEquivalentValue (v : Int) = (s.highestEquiv v : Int) := by
  unfold Histogram.highestEquivalentValue Shape.highestEquiv
  rw [gen_nextNonEquivalentValue s v hv]
  have := s.sizeOfRange_pos v
  unfold Shape.nextNonEquiv; omega

theorem gen_medianEquivalentValue (s : Shape) (v : Nat) (hv : v ||| s.subBucketMask < 2 ^ 63) :
    (genHist s).medianEquivalentValue (v : Int) = (s.medianEquiv v : Int) := by
  unfold Histogram.medianEquivalentValue Shape.medianEquiv
  rw [gen_lowestEquivalentValue s v hv, gen_sizeOfEquivalentValueRange s v hv]
  rw [shr_int _ 1 (s.sizeOfRange v) 1 rfl rfl]; omega

/-- non-vacuity: the guard holds for the largest recordable value of a real shape -/
example : (2048 ||| (mkShape 1 2048 3).subBucketMask) < 2 ^ 63 := by decide

end FunModel.C19Gen
