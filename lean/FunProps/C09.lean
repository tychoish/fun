import FunProofs.BrokerMeasure

/-! # C09 — the broker makes progress while subscribers read, and shuts down cleanly

    Property theorems about the process model `FunModel.Broker` (see FunProps/C08.lean for what
    the model covers). Liveness is stated as safety, as everywhere in this development:
    *no stuck state* (`broker_no_stuck`) plus a *strictly decreasing
    measure* for every internal action (`internal_step_decreases`), so every run of internal
    actions is finite and ends in a quiescent state; what quiescent states look like while the
    context is live and everybody receives (`quiescent_means_idle`) and after Stop / cancellation
    (`shutdown_all_exit`) is proved for every reachable state. "Promptly" = the return is enabled
    in the model; wall-clock time is not expressible.

    The back-end containers enter through the abstract distributor: that a blocked `Receive` is
    woken by a `Send` (and a blocked `Send` by a `Receive`) is what C05/C06/C07 prove of
    `pubsub.Queue` / `pubsub.Deque` (`wait_when_ready_returns`, D1–D4 repaired); in the model a
    worker in `Receive` is simply enabled whenever the buffer is not empty. -/

namespace FunProps.C09
open FunModel.Broker FunProofs.Broker

/-- **No stuck state.** Context live, every subscriber receiving: a reachable state in which
    something is left to do — the distributor holds a message, the event loop holds one, a
    Publish / Subscribe / Unsubscribe / Stats call is pending, a worker is busy, a send is in
    progress or a subscription channel is not empty — has an enabled internal action. For every
    distributor back-end with a limit its constructor accepts (`Cfg.valid`), every worker pool size, serial and
    parallel dispatch, every BufferSize, every burst size. -/
theorem broker_no_stuck (c : Cfg) (hv : Cfg.valid c) (s : St) (h : Reachable c s) (hl : s.live = true)
    (hopen : allOpen s = true)
    (hwork : s.buf ≠ [] ∨ s.loop ≠ .select ∨ pendingApi s.calls ≠ 0 ∨ (∃ w ∈ s.ws, w ≠ Worker.idle) ∨
      s.sends ≠ [] ∨ ∃ k, s.chan k ≠ []) :
    enabledInternal c s ≠ [] := by
  intro hne
  have hq : quiescent c s = true := by simp [quiescent, hne]
  have hi := idle_of_quiescent hv (wf_reachable h) hl hopen hq
  rcases hwork with h1 | h1 | h1 | ⟨w, hw, h1⟩ | h1 | ⟨k, h1⟩
  · exact h1 hi.buf
  · exact h1 hi.loop
  · exact h1 (pendingApi_zero hi)
  · exact h1 (hi.workers w hw)
  · exact h1 hi.sends
  · exact h1 (hi.chans k)

/-- The same read the other way: a quiescent state (context live, every subscriber receiving) is
    idle; in particular every Publish has returned. -/
theorem quiescent_means_idle (c : Cfg) (hv : Cfg.valid c) (s : St) (h : Reachable c s) (hl : s.live = true)
    (hopen : allOpen s = true) (hq : quiescent c s = true) :
    s.buf = [] ∧ s.loop = .select ∧ (∀ w ∈ s.ws, w = Worker.idle) ∧ s.sends = [] ∧ (∀ k, s.chan k = []) ∧
      pendingApi s.calls = 0 := by
  have hi := idle_of_quiescent hv (wf_reachable h) hl hopen hq
  exact ⟨hi.buf, hi.loop, hi.workers, hi.sends, hi.chans, pendingApi_zero hi⟩

/-- `quiescent` means what it should: no internal action (anything the broker, the pending calls
    or the receiving subscribers can do by themselves) is enabled. -/
theorem quiescent_iff_no_internal_action (c : Cfg) (s : St) (h : Reachable c s) :
    quiescent c s = true ↔ ∀ a, a.internal = true → step c s a = none := by
  constructor
  · intro hq a hi
    rw [step_eq_stepCore hi]
    exact none_of_quiescent hq a hi fun k _ => (wf_reachable h).chanLt k
  · intro hall
    simp only [quiescent, enabledInternal, List.isEmpty_iff, List.filter_eq_nil_iff]
    intro a ha
    have hi := internal_of_mem_candidates ha
    rw [← step_eq_stepCore hi, hall a hi]
    nofun

/-- **Decreasing measure.** Every internal action strictly decreases `mu` (a weighted count of
    what is left to do: pending calls, the event loop's hand, buffered messages — each weighted
    with the number of subscribers it may still have to visit —, workers' remaining keys, sends in
    progress, buffered deliveries): from any reachable state every sequence of internal actions is
    finite (at most `mu s` long), whatever the burst size, live or stopped. With `broker_no_stuck`
    a finite burst is drained; with `shutdown_all_exit` a stopped broker winds down. -/
theorem internal_step_decreases (c : Cfg) (s s' : St) (a : Act) (h : Reachable c s)
    (hs : step c s a = some s') (hi : a.internal = true) : mu s' < mu s :=
  mu_decreases (wf_reachable h) (step_sound hs) hi

theorem internal_run_bounded (c : Cfg) (s s' : St) (acts : List Act) (h : Reachable c s)
    (hall : ∀ a ∈ acts, a.internal = true) (hr : run c s acts = some s') : acts.length + mu s' ≤ mu s :=
  List.foldlM_option_length_le_mem (Reachable c) mu acts
    (fun a ha _ _ h hs => ⟨reachable_step h hs, internal_step_decreases c _ _ a h hs (hall a ha)⟩) h hr

/-- **Clean shutdown.** After Stop or cancellation of the broker's context (`live = false`), a
    reachable state in which no internal action is enabled — where every run of internal actions
    ends, by the measure — has the event loop and every dispatch worker exited, no send goroutine
    left, and no Wait call pending (it was enabled to return and did). -/
theorem shutdown_all_exit (c : Cfg) (s : St) (_h : Reachable c s) (hd : s.live = false)
    (hq : quiescent c s = true) :
    s.loop = .exited ∧ (∀ w ∈ s.ws, w = Worker.exited) ∧ s.sends = [] ∧ alive s = 0 ∧
      (∀ cl ∈ s.calls, cl.kind ≠ CallKind.wait) := by
  have hdn := down_of_quiescent hd hq
  exact ⟨hdn.loop, hdn.workers, hdn.sends, alive_zero hdn, hdn.waits⟩

/-- Wait returns as soon as the event loop and the workers have exited. -/
theorem wait_returns_when_exited (c : Cfg) (s : St) (i : Nat) (x : Bool)
    (hc : s.calls[i]? = some { kind := .wait, cancelled := x }) (hl : s.loop = .exited)
    (hw : ∀ w ∈ s.ws, w = Worker.exited) : (step c s (.waitRet i)).isSome = true := by
  have : allExited s.ws = true := by
    simp only [allExited, List.all_eq_true, beq_iff_eq]; exact hw
  rw [step_complete (.waitRet i x hc hl this)]; rfl

/-- After Stop every blocked broker goroutine is enabled to give up: nothing in the broker waits
    for anything but its context. -/
theorem stopped_goroutines_can_exit (c : Cfg) (s : St) (hd : s.live = false) :
    (s.loop = .select → (step c s .loopExit).isSome = true) ∧
    (∀ m, s.loop = .sending m → (step c s .loopSendAbort).isSome = true) ∧
    (∀ w, s.ws[w]? = some Worker.idle → (step c s (.wExit w)).isSome = true) ∧
    (∀ w m, s.ws[w]? = some (Worker.got m) → (step c s (.wAbandon w)).isSome = true) ∧
    (∀ w m st vi, s.ws[w]? = some (Worker.iter m st vi) → (step c s (.wAbandon w)).isSome = true) ∧
    (∀ k m, (k, m) ∈ s.sends → (step c s (.sendAbort k m)).isSome = true) := by
  exact ⟨fun h => step_complete (.loopExit h hd) ▸ rfl, fun m h => step_complete (.loopSendAbort m h hd) ▸ rfl,
    fun w h => step_complete (.wExit w hd h) ▸ rfl, fun w m h => step_complete (.wAbandonGot w m hd h) ▸ rfl,
    fun w m st vi h => step_complete (.wAbandonIter w m st vi hd h) ▸ rfl,
    fun k m h => step_complete (.sendAbort k m h hd) ▸ rfl⟩

/-- **API calls return on their own context.** A pending Publish, Subscribe, Unsubscribe, Stats or
    Wait call whose own context is done is enabled to return — in every state, whatever the broker
    is doing (stopped, wedged behind a slow subscriber, …) — and at a quiescent point none is left. -/
theorem api_returns_on_own_ctx (c : Cfg) (s : St) (i : Nat) (cl : Call) (hc : s.calls[i]? = some cl)
    (hx : cl.cancelled = true) : (step c s (.callAbort i)).isSome = true :=
  step_complete (.callAbort i cl hc hx) ▸ rfl

theorem no_cancelled_call_at_quiescence (c : Cfg) (s : St) (hq : quiescent c s = true) :
    ∀ cl ∈ s.calls, cl.cancelled = false :=
  no_zombie_of_quiescent hq

def cfgQ : Cfg := { backend := .fifo, workers := 2, parallel := true, bufSize := 1 }

/-- a burst of three publishes completes before any worker runs (the second `example` stops the broker with
    this backlog) -/
def runBurst : List Act :=
  [.subCall, .enqSub 0, .loopSubQ, .pubCall 0, .loopTake 0, .loopSend true, .pubCall 0, .loopTake 0,
   .loopSend true, .pubCall 0, .loopTake 0, .loopSend true]

example : ∃ s, run cfgQ (init cfgQ) runBurst = some s ∧ s.live = true ∧ allOpen s = true ∧
    s.buf = [(0, 0), (0, 1), (0, 2)] ∧ enabledInternal cfgQ s ≠ [] ∧ mu s = 24 := by
  refine ⟨_, rfl, ?_, ?_, ?_, ?_, ?_⟩ <;> decide

example : ∃ s, run cfgQ (init cfgQ) (runBurst ++ [.waitCall, .stop, .loopExit, .wExit 0, .wExit 1, .waitRet 0,
      .observeQuiet, .census]) = some s ∧
    s.live = false ∧ quiescent cfgQ s = true ∧ alive s = 0 ∧ s.buf = [(0, 0), (0, 1), (0, 2)] := by
  refine ⟨_, rfl, ?_, ?_, ?_, ?_⟩ <;> decide

example : Cfg.valid cfgQ := by simp [Cfg.valid, cfgQ]

end FunProps.C09
