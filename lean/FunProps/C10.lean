import FunProofs.ServiceLive
import FunProps.C12

/-! C10 — srv.Service lifecycle: each phase once, in order, errors complete.

    Everything is about `FunModel/Service.lean`, the small-step model of srv/service.go whose atomic steps are
    the yield points of the `verif` build; the log and its predicates (`before`, `evOk`, …) are defined there. The
    theorems that take `c.current` are for the current code (the three `fix:` commits applied), for every
    configuration `c` of phase outcomes ({absent, ok, err e, panic p}⁴ × Run blocking or not), every list of caller
    programs `ps` (any number of threads calling Start/Close/Wait/Running in any order, any parent contexts) and
    every state `s` reachable by any schedule (`Reachable c ps s`, including schedules in which parent contexts are
    cancelled at any point and Run finishes before Start returns); a theorem without `Reachable` holds in every
    state. -/

namespace FunModel.C10
open FunModel FunModel.Service

variable {c : Cfg} {ps : List (List Op)} {s : State}

theorem run_at_most_once (hc : c.current) (hr : Reachable c ps s) :
    countEv s.log (isBegin .run) ≤ 1 ∧ (c.run.present = false → countEv s.log (isBegin .run) = 0) :=
  (Inv.reachable hc hr).i2.run.phases.1.once

/-- At most one Start ever returns nil; and once no caller is inside a method any more, if Start was
    called at all then exactly one Start has returned nil. -/
theorem exactly_one_start_nil (hc : c.current) (hr : Reachable c ps s) :
    countEv s.log isStartNil ≤ 1 ∧
    ((∀ (t : Nat) (th : Thread), s.ths[t]? = some th → th.loc = .idle) → has s.log isStartCall = true →
      countEv s.log isStartNil = 1) :=
  start_nil_count (Inv.reachable_lock hc hr).1 (Inv.reachable_lock hc hr).2

/-- What a Start returns: nil, ErrServiceAlreadyStarted, or ErrServiceReturned — the last only when Run,
    Shutdown and Cleanup had all returned before. -/
theorem others_report_started_or_returned (hc : c.current) (hr : Reachable c ps s)
    {k t i p : Nat} {r : Ret} {th : Thread} (hx : (k, Ev.ret t i r) ∈ s.log) (hth : s.ths[t]? = some th)
    (hop : th.ops[i]? = some (.start p)) :
    r = .startNil ∨ r = .startAlready ∨ (r = .startReturned ∧ phasesDoneBefore c s.log k = true) := by
  have hI := Inv.reachable hc hr
  obtain ⟨op, ho, hm⟩ := hI.i2.book.rt _ hx t i r rfl th hth
  rw [hop] at ho; injection ho with ho; subst ho
  rcases hm with rfl | rfl | rfl
  · exact Or.inl rfl
  · exact Or.inr (Or.inl rfl)
  · exact Or.inr (Or.inr ⟨rfl, by simpa [evOk] using hI.evs _ hx⟩)

/-- A Start called on a finished service (its first check sees `isFinished`) reports ErrServiceReturned at once. -/
theorem start_after_finish_returned (hc : c.current) {t p : Nat} {th : Thread} (hth : s.ths[t]? = some th)
    (hop : th.ops[th.pc]? = some (.start p)) (hl : th.loc = .idle) (hf : s.isFinished = true) :
    step c s (.th t) = some (s.finish t th .startReturned [.call t th.pc (.start p)]) :=
  stepTh_complete hc hth hop (.startReturned p hl hf)

/-- The shutdown goroutine calls Shutdown only in a step taken while the service context has ended. -/
theorem shutdown_begins_only_when_ctx_done {s' : State} (h : step c s .sd = some s') (he : s.sd = .entry) :
    s.ctxDone = true := by
  have := stepSd_sound h
  cases this <;> simp_all

/-- Shutdown runs at most once (never when nil), and whenever it began, the service context had ended
    for a reason recorded earlier in the log: Run had returned (or is nil), Close had been called, or the
    parent context of a Start had been cancelled. -/
theorem shutdown_once_after_ctx_end (hc : c.current) (hr : Reachable c ps s) :
    countEv s.log (isBegin .shutdown) ≤ 1 ∧ (c.shutdown.present = false → countEv s.log (isBegin .shutdown) = 0) ∧
    ∀ k agg, (k, Ev.phBegin .shutdown agg) ∈ s.log → ctxEndBefore c s.log k = true := by
  have hI := Inv.reachable hc hr
  refine ⟨hI.i2.sd.phase.once.1, hI.i2.sd.phase.once.2, fun k agg hx => ?_⟩
  have := hI.evs _ hx
  simp only [evOk, Bool.and_eq_true] at this
  exact this.2

theorem cleanup_once_after_run_and_shutdown (hc : c.current) (hr : Reachable c ps s) :
    countEv s.log (isBegin .cleanup) ≤ 1 ∧ (c.cleanup.present = false → countEv s.log (isBegin .cleanup) = 0) ∧
    ∀ k agg, (k, Ev.phBegin .cleanup agg) ∈ s.log →
      endedBefore c s.log k .run = true ∧ endedBefore c s.log k .shutdown = true := by
  have hI := Inv.reachable hc hr
  refine ⟨hI.i2.run.phases.2.once.1, hI.i2.run.phases.2.once.2, fun k agg hx => ?_⟩
  have := hI.evs _ hx
  simp only [evOk, Bool.and_eq_true] at this
  exact ⟨this.1.2, this.2⟩

/-- "exactly once": by the time any Wait has returned a result, each configured phase among Run, Shutdown,
    Cleanup has run exactly once. -/
theorem phases_exactly_once_after_wait (hc : c.current) (hr : Reachable c ps s) (hw : has s.log isWaitRes = true) :
    (c.run.present = true → countEv s.log (isBegin .run) = 1) ∧
    (c.shutdown.present = true → countEv s.log (isBegin .shutdown) = 1) ∧
    (c.cleanup.present = true → countEv s.log (isBegin .cleanup) = 1) :=
  phases_once_of_finished (Inv.reachable hc hr) ((Inv.reachable hc hr).i2.th.wf hw)

/-- The ErrorHandler runs at most once (never when unset), with a non-nil aggregate, and only after Run,
    Shutdown and Cleanup have returned. -/
theorem handler_at_most_once_after_cleanup_nonnil (hc : c.current) (hr : Reachable c ps s) :
    countEv s.log (isBegin .handler) ≤ 1 ∧ (c.handler.present = false → countEv s.log (isBegin .handler) = 0) ∧
    ∀ k agg, (k, Ev.phBegin .handler agg) ∈ s.log → agg ≠ [] ∧ phasesDoneBefore c s.log k = true := by
  have hI := Inv.reachable hc hr
  refine ⟨hI.i2.eh.ehB1, hI.i2.eh.ehAbs, fun k agg hx => ?_⟩
  have := hI.evs _ hx
  simp only [evOk, Bool.and_eq_true, Bool.not_eq_true', List.isEmpty_eq_false_iff] at this
  exact ⟨this.1.2, this.2⟩

theorem wait_blocks_until_phases_done (hc : c.current) (hr : Reachable c ps s)
    {k t i : Nat} {ids : List Nat} (hx : (k, Ev.ret t i (.waitResult ids)) ∈ s.log) :
    phasesDoneBefore c s.log k = true := by
  have := (Inv.reachable hc hr).evs _ hx
  simp only [evOk, Bool.and_eq_true] at this
  exact this.1.1

/-- Wait's result: `errors.Is` finds every error returned by Run/Shutdown/Cleanup and ErrRecoveredPanic if one of
    them panicked (a nil Run counts as a panic of the Run goroutine); it is nil if none failed.
    (`ids` = the leaves of the collector's stack; see `resolve_is_iff_mem` for the link to the C12 model.) -/
theorem wait_result_complete (hc : c.current) (hr : Reachable c ps s)
    {k t i : Nat} {ids : List Nat} (hx : (k, Ev.ret t i (.waitResult ids)) ∈ s.log) :
    (∀ j ∈ mustIds c, j ∈ ids) ∧ (mustIds c = [] → ids = []) := by
  have := (Inv.reachable hc hr).evs _ hx
  simp only [evOk, Bool.and_eq_true, List.all_eq_true, List.contains_eq_mem, decide_eq_true_eq, Bool.or_eq_true,
    Bool.not_eq_true', List.isEmpty_iff] at this
  refine ⟨this.1.2, fun hm => ?_⟩
  rcases this.2 with h | h
  · simp [hm] at h
  · exact h

theorem mustIds_spec (c : Cfg) (j : Nat) :
    j ∈ mustIds c ↔
      (c.run = .err j ∨ c.shutdown = .err j ∨ c.cleanup = .err j) ∨
      (j = idPanic ∧ (c.run = .absent ∨ (∃ p, c.run = .panic p) ∨ (∃ p, c.shutdown = .panic p) ∨ (∃ p, c.cleanup = .panic p))) := by
  rw [mem_mustIds, runPanics]
  grind

/-- The collector as the C12 model sees it: pushing the leaves `ids` one by one (each `ec.Add` of a plain error,
    each half of a `ParsePanic` join) and resolving gives an error on which `errors.Is` finds exactly the ids
    in the list, and nil iff the list is empty. -/
theorem resolve_is_iff_mem (ids : List Nat) (j : Nat) :
    isOpt (collectorResolve (C12.collect (ids.map (fun i => some (Err.leaf i))))) j = true ↔ j ∈ ids := by
  rw [C12.collect, collector_is_parts]
  simp [List.flatMap_map, optParts, Err.parts, Err.is]

theorem resolve_nil_iff (ids : List Nat) :
    collectorResolve (C12.collect (ids.map (fun i => some (Err.leaf i)))) = none ↔ ids = [] := by
  rw [C12.collect, collector_eq_none, List.forall_mem_map, List.eq_nil_iff_forall_not_mem]
  exact forall₂_congr fun _ _ => by simp [optParts, Err.parts]

/-- Once a Wait has returned a result, `Running()` evaluated in any later state is false. -/
theorem not_running_after_wait (hc : c.current) (hr : Reachable c ps s) (hw : has s.log isWaitRes = true) :
    s.runningNow c = false := by
  have hf := (Inv.reachable hc hr).i2.th.wf hw
  simp [State.runningNow, hc.2.2, hf]

/-- The same for the `Running()` calls of the callers (which take two atomic loads): a call that returned true
    has its call event in the log, and no Wait had returned a result before that call began. -/
theorem running_true_only_before_wait_returns (hc : c.current) (hr : Reachable c ps s)
    {k t i : Nat} (hx : (k, Ev.ret t i (.running true)) ∈ s.log) :
    ∃ k0, (k0, Ev.call t i .running) ∈ s.log ∧
      ∀ kw t' i' ids, (kw, Ev.ret t' i' (.waitResult ids)) ∈ s.log → k0 ≤ kw := by
  have := (Inv.reachable hc hr).evs _ hx
  simp only [evOk, runningCallOk, List.any_eq_true, Bool.and_eq_true, beq_iff_eq, Bool.not_eq_true'] at this
  obtain ⟨y, hy, hy2, hb⟩ := this
  refine ⟨y.1, by rw [← hy2]; exact hy, fun kw t' i' ids hw => ?_⟩
  rcases Nat.lt_or_ge kw y.1 with hlt | hge
  · have : before s.log y.1 isWaitRes = true := by
      simp only [before, List.any_eq_true, Bool.and_eq_true, decide_eq_true_eq]
      exact ⟨_, hw, hlt, rfl⟩
    rw [hb] at this; exact absurd this (by simp)
  · exact hge

/-- Each operation of each caller is logged as called at most once (so "its call event" above is unique). -/
theorem call_events_unique (hc : c.current) (hr : Reachable c ps s) {x y : Nat × Ev} (hx : x ∈ s.log) (hy : y ∈ s.log)
    {t i : Nat} {op op' : Op} (h1 : x.2 = .call t i op) (h2 : y.2 = .call t i op') : x = y :=
  (CallU.reachable hc hr).uniq x hx y hy t i op op' h1 h2

/-- Every reachable log is accepted by `allowedLog` — the predicate the driver evaluates on the call logs recorded
    from the implementation (harness cases `svcmatrix`, `svcfree`). -/
theorem allowedLog_of_reachable (hc : c.current) (hr : Reachable c ps s) : allowedLog c s.log = true :=
  allowedLog_inv (Inv.reachable_lock hc hr).1 (Inv.reachable_lock hc hr).2

/-- No stuck state: in a reachable state in which no caller and no service goroutine can take a step, and in which
    the service context has ended or Run does not block on it: every caller has finished its program, and if the
    service was started all three service goroutines have exited. -/
theorem lifecycle_completes (hc : c.current) (hr : Reachable c ps s)
    (hq : ∀ a, (∀ p, a ≠ .cancelParent p) → step c s a = none)
    (hend : s.ctxDone = true ∨ c.runBlocks = false) :
    (∀ (t : Nat) (th : Thread), s.ths[t]? = some th → th.ops.length ≤ th.pc) ∧
    (s.once ≠ .fresh → s.rg = .gone ∧ s.sd = .gone ∧ s.eh = .gone ∧ s.wg = 0) :=
  no_stuck hc (Inv.reachable hc hr) (LocOp.reachable hc hr) hq hend

/-- …and if Run blocks and its context never ends, the only goroutines left are the ones waiting for that:
    Run itself, the shutdown goroutine at `<-ctx.Done()`, the handler goroutine at `<-mainSignal`; callers can only be
    blocked in `wg.Wait`. -/
theorem quiescent_shape (hc : c.current) (hr : Reachable c ps s)
    (hq : ∀ a, (∀ p, a ≠ .cancelParent p) → step c s a = none) (hl : s.once ≠ .fresh) (hg : s.rg ≠ .gone) :
    s.rg = .inRun ∧ s.sd = .entry ∧ s.eh = .entry ∧ s.ctxDone = false ∧ c.runBlocks = true ∧
    (∀ (t : Nat) (th : Thread), s.ths[t]? = some th → th.ops.length ≤ th.pc ∨ th.loc = .waitStarted) :=
  stuck_shape hc (Inv.reachable hc hr) (LocOp.reachable hc hr) hq hl hg

/-- Bounded progress: every step of a caller or of a service goroutine strictly decreases `measure`, and a parent
    cancellation does not increase it — so every schedule has finitely many non-cancel steps and (with
    `lifecycle_completes`) every maximal run ends with all service goroutines exited once the context has ended. -/
theorem step_decreases_measure {a : Act} {s' : State} (hc : c.current) (hr : Reachable c ps s) (h : step c s a = some s') :
    (∀ p, a ≠ .cancelParent p) → measure s' < measure s :=
  measure_decreases hc (Inv.reachable hc hr) h

theorem cancel_keeps_measure {p : Nat} {s' : State} (h : step c s (.cancelParent p) = some s') :
    measure s' = measure s := measure_cancel h

/-! ### witnesses about the code *before* the fixes: kernel-checked counter-schedules on the old variants of the model
    (the theorems above are about the current code) -/

def rep (n : Nat) (a : Act) : List Act := List.replicate n a

/-- the tree before the three fixes -/
def oldCfg : Cfg := { run := .ok, shutdown := .absent, cleanup := .absent, handler := .absent, runBlocks := false,
                      fixD19 := false, fixD20 := false, fixRunning := false }

def lastEv (s : State) : Option Ev := s.log.getLast?.map (·.2)

/-- the service goroutines run to completion: rg ×4 (Run … recovered), sd ×3, rg ×6, eh ×3 -/
def serviceRuns : List Act := rep 4 .rg ++ rep 3 .sd ++ rep 6 .rg ++ rep 3 .eh

/-- witness D19 (old code): the starter is parked at `Start.launched`; Run and its whole deferred chain finish
    (isFinished=true, isRunning=false); Start's deferred `isRunning.Store(true)` then runs; Wait returns; Running() is true. -/
example : (run oldCfg (init [[.start 0, .wait, .running]]) (rep 4 (.th 0) ++ serviceRuns ++ rep 4 (.th 0))).map
    (fun s => (lastEv s, allowedLog oldCfg s.log)) = some (some (.ret 0 2 (.running true)), false) := by decide

/-- …and with the D19 fix alone the same schedule ends with Running() = false -/
example : (run { oldCfg with fixD19 := true } (init [[.start 0, .wait, .running]])
    (rep 4 (.th 0) ++ serviceRuns ++ rep 4 (.th 0))).map lastEv = some (some (.ret 0 2 (.running false))) := by decide

/-- witness D20 (code with the D19 fix only): thread 1 is parked at `Start.checked`; thread 0 starts the service, it
    finishes, Wait returns; thread 1's `Swap(true)` succeeds: a second Start returns nil (and Running() is true). -/
example : (run { oldCfg with fixD19 := true } (init [[.start 0, .wait], [.start 0, .running]])
    ([.th 1] ++ rep 6 (.th 0) ++ serviceRuns ++ [.th 0] ++ rep 4 (.th 1))).map
    (fun s => (countEv s.log isStartNil, lastEv s, allowedLog { oldCfg with fixD19 := true } s.log))
    = some (2, some (.ret 1 1 (.running true)), false) := by decide

/-- witness (code with the D19 and D20 fixes, Running() = isRunning.Load()): Wait returns through the `isFinished` fast
    path while the Run goroutine is between `isFinished.Store(true)` and `isRunning.Store(false)`; Running() is true. -/
example : (run { oldCfg with fixD19 := true, fixD20 := true } (init [[.start 0, .wait], [.running]])
    (rep 6 (.th 0) ++ rep 4 .rg ++ rep 3 .sd ++ rep 3 .rg ++ [.th 0, .th 1])).map
    (fun s => (lastEv s, allowedLog { oldCfg with fixD19 := true, fixD20 := true } s.log))
    = some (some (.ret 1 0 (.running true)), false) := by decide

/-- witness (same code): the stale Start of thread 1 has swapped isRunning to true after the service finished and Wait
    returned; before it undoes the swap a third caller sees Running() = true. -/
example : (run { oldCfg with fixD19 := true, fixD20 := true } (init [[.start 0, .wait], [.start 0], [.running]])
    ([.th 1] ++ rep 6 (.th 0) ++ serviceRuns ++ [.th 0, .th 1, .th 2])).map lastEv
    = some (some (.ret 2 0 (.running true))) := by decide

/-! ### non-vacuity: a non-trivial reachable state of the current code -/

def curCfg : Cfg := { run := .err 11, shutdown := .panic 22, cleanup := .ok, handler := .ok, runBlocks := true }

/-- a complete run with a blocking Run ended by Close, two starters, a waiter: reachable, all goroutines gone -/
def sampleSched : List Act :=
  [.th 1] ++ rep 6 (.th 0) ++ [.th 2, .th 2] ++ [.th 0] ++ rep 4 .rg ++ rep 4 .sd ++ rep 7 .rg ++ rep 4 .eh ++ rep 3 (.th 1) ++ rep 2 (.th 2) ++ [.th 0]

def samplePrograms : List (List Op) := [[.start 0, .close, .wait], [.start 0], [.wait, .running]]

example : curCfg.current := by decide
/-- a reachable state in which a Wait has returned a result, the handler has run, and a stale Start has reported
    ErrServiceReturned -/
example : ∃ s, Reachable curCfg samplePrograms s ∧ has s.log isWaitRes = true ∧ countEv s.log (isBegin .handler) = 1
    ∧ (31, Ev.ret 1 0 .startReturned) ∈ s.log ∧ s.once ≠ .fresh := by
  refine ⟨(run curCfg (init samplePrograms) sampleSched).get (by decide), ⟨sampleSched, by simp⟩, ?_, ?_, ?_, ?_⟩ <;> decide
example : ((run curCfg (init samplePrograms) sampleSched).map (fun s => (s.rg, s.sd, s.eh, s.wg)))
    = some (.gone, .gone, .gone, 0) := by decide
example : ((run curCfg (init samplePrograms) sampleSched).map (fun s => (countEv s.log isStartNil, s.coll)))
    = some (1, [11, 22, 1000]) := by decide
example : ((run curCfg (init samplePrograms) sampleSched).map (fun s => allowedLog curCfg s.log)) = some true := by decide
example : mustIds curCfg = [11, 1000] := by decide

end FunModel.C10
