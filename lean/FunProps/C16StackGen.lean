import FunProofs.GenTieSll

/-! C16 (stack part) — T-gen obligations. tools/go2lean (stack.go) re-reads dt/stack.go on every run and
    rewrites lean/FunGen/Sll.lean: `makeItem`, `Item.Ok`, `Stack.lazyInit`, `Item.Set`, `Item.Append`,
    `Item.Remove` (guard, head branch, and the unlinking loop as a recursive function over `fuel`), `Stack.Pop`,
    `Stack.Push`, `Stack.Head`, statement by statement, over the heap of FunModel/Sll.lean. In the generated
    code every pointer is an `Option Nat` (`none` = nil), a nil dereference or `panic(…)` is `none`, and Go's
    short-circuit conditions are kept. These theorems say that the hand-written model functions the C16 stack
    theorems (FunProps/C16Stack.lean) are about — `lazyInit`, `itemSet`, `itemAppend`, `removeLoop`,
    `itemRemove`, `pop`, `push`, `head` — compute, on every heap and for every argument, what the generated
    definitions compute when called on a non-nil receiver (the model's standing assumption); the nil-receiver
    behaviour of the generated code is stated where the source tests for it.

    Where the source returns a pointer the generated function returns an `Option Nat`; the model returns the
    address, so the statements map `some` over the model's result. The model's `pop` has a `none` branch
    ("head still nil after lazyInit") that the generated code does not have: `gen_pop` shows it is dead. -/
namespace FunModel.C16StackGen
open FunModel.Sll FunModel.Sll.Heap FunGen.Sll FunProofs.GenTieSll

/-- what the model's `push` allocates -/
theorem gen_makeItem (h : Heap) (v : Int) :
    makeItem h v = some ((h.alloc { ok := true, value := v }).1, some (h.alloc { ok := true, value := v }).2) :=
  rfl

theorem gen_Ok (h : Heap) (a : Nat) : Item_Ok h (some a) = some (h.item a).ok := rfl

/-- `false`, not a panic, for nil: the model's loops stop at a nil pointer the same way -/
theorem gen_Ok_nil (h : Heap) : Item_Ok h none = some false := rfl

theorem gen_lazyInit (h : Heap) (s : Nat) : Stack_lazyInit h (some s) = some (h.lazyInit s) := by
  unfold Stack_lazyInit Heap.lazyInit
  simp only [ldS_some, eqP_some, Option.bind_eq_bind, Option.bind_some]
  cases (h.hdr s).head with
  | some a => rfl
  | none => simp [makeItem]

theorem gen_lazyInit_nil (h : Heap) : Stack_lazyInit h none = none := rfl

theorem gen_itemSet (h : Heap) (it : Nat) (v : Int) : Item_Set h (some it) v = some (h.itemSet it v) := by
  unfold Item_Set Heap.itemSet
  simp only [ldI_some, eqP_some, neP_some, andP_some, Option.bind_eq_bind, Option.bind_some]
  cases (h.item it).stack <;> cases (h.item it).next <;> simp

/-- `Item.Append`: the five-way guard and the four assignments after `lazyInit` are the model's `itemAppend`,
    for every argument including nil -/
theorem gen_itemAppend (h : Heap) (it : Nat) (n : Option Nat) :
    Item_Append h (some it) n = (h.itemAppend it n).map (fun p => (p.1, some p.2)) := by
  cases n with
  | none => rfl
  | some n =>
    unfold Item_Append Heap.itemAppend
    simp only [ldI_some, eqP_some, neP_some, notP_some, orP_some, Option.bind_eq_bind, Option.bind_some]
    cases hs : (h.item it).stack with
    | none => rfl
    | some s =>
      cases hns : (h.item n).stack with
      | some s' => simp
      | none =>
        cases hok : (h.item n).ok with
        | false => rfl
        | true =>
          have hne : it ≠ n := by rintro rfl; simp [hs] at hns
          simp [gen_lazyInit, hne, lazyInit_stack h s it hs]

/-- `Stack.Pop`: both early returns, `s.length--`, `out.stack = nil`, `s.head = s.head.next` are the model's `pop` -/
theorem gen_pop (h : Heap) (s : Nat) :
    Stack_Pop h (some s) = (h.pop s).map (fun p => (p.1, some p.2)) := by
  unfold Stack_Pop Heap.pop
  simp only [ldS_some, eqP_some, Option.bind_eq_bind, Option.bind_some]
  cases (h.hdr s).head with
  | none =>
    obtain ⟨a, ha⟩ := lazyInit_head h s
    simp [gen_lazyInit, ha]
  | some x => by_cases hl : (h.hdr s).length = 0 <;> simp [hl]

/-- the loop of `Item.Remove` is the model's `removeLoop`, for every fuel and every starting pointer:
    `some true` = the body returned, `none` = the loop was left -/
theorem gen_removeLoop (h : Heap) (it s : Nat) (hs : (h.item it).stack = some s) (fuel : Nat) (prev : Option Nat) :
    Item_Remove_loop1 fuel h (some it) prev =
      (h.removeLoop it s prev fuel).map (fun p => (p.1, if p.2 then some true else none)) := by
  induction fuel generalizing prev with
  | zero => rfl
  | succ fuel ih =>
    cases prev with
    | none => rfl
    | some p =>
      unfold Item_Remove_loop1 Heap.removeLoop
      simp only [Option.bind_eq_bind, Option.bind_some, gen_Ok, ldI_some, eqP_some]
      cases (h.item p).ok with
      | false => rfl
      | true =>
        by_cases hn : (h.item p).next = some it
        · -- `it.stack` is re-read after `prev.next = it.next`, and `prev` may be `it` itself
          have hst (n : Item) (e : n.stack = (h.item p).stack) : ((h.setItem p n).item it).stack = some s := by
            by_cases hp : it = p
            · rw [hp, setItem_item_same, e, ← hp, hs]
            · rw [setItem_item_ne _ _ _ _ hp, hs]
          simp [hn, hst]
        · simp [hn, ih]

/-- `Item.Remove` (guard, head-item branch, loop, final `return false`) is the model's `itemRemove`, with the
    fuel the model gives the loop (`length + 2` of the item's stack) -/
theorem gen_itemRemove (h : Heap) (it : Nat) :
    Item_Remove (removeFuel h it) h (some it) = h.itemRemove it := by
  unfold Item_Remove Heap.itemRemove removeFuel
  simp only [ldI_some, eqP_some, notP_some, orP_some, Option.bind_eq_bind, Option.bind_some]
  cases hs : (h.item it).stack with
  | none => rfl
  | some s =>
    cases (h.item it).ok with
    | false => rfl
    | true =>
      simp only [ldS_some, eqP_some, Option.bind_some]
      by_cases hh : (h.hdr s).head = some it
      · simp [hh]
      · simp [hh, gen_removeLoop h it s hs]
        generalize h.removeLoop it s (h.hdr s).head ((h.hdr s).length.toNat + 2) = r
        cases r with
        | none => rfl
        | some q => obtain ⟨h', b⟩ := q; cases b <;> rfl

theorem gen_itemRemove_nil (fuel : Nat) (h : Heap) : Item_Remove fuel h none = some (h, false) := rfl

theorem gen_push (h : Heap) (s : Nat) (v : Int) : Stack_Push h (some s) v = h.push s v := by
  obtain ⟨a, ha⟩ := lazyInit_head h s
  simp [Stack_Push, Heap.push, gen_lazyInit, gen_makeItem, ha, gen_itemAppend, Option.bind_map, Function.comp_def]

theorem gen_head (h : Heap) (s : Nat) : Stack_Head h (some s) = some ((h.head s).1, (h.head s).2) := by
  simp [Stack_Head, Heap.head, gen_lazyInit]

/-! non-vacuity, kernel-checked on concrete heaps through the *generated* functions: push 5, push 7, push 9;
    remove the middle item (7) — the loop unlinks it from 9; pop returns 9; the stack is then [5] -/
example :
    (do let (h, s) := ({} : Heap).allocStack
        let h ← Stack_Push h (some s) 5
        let h ← Stack_Push h (some s) 7
        let (h, top) ← Stack_Head h (some s)
        let h ← Stack_Push h (some s) 9
        let (h, r) ← Item_Remove (removeFuel h (top.getD 0)) h top
        let (h, out) ← Stack_Pop h (some s)
        let o ← out
        let (h, hd) ← Stack_Head h (some s)
        let a ← hd
        pure (r, (h.item o).value, (h.item o).stack, (h.hdr s).length, (h.item a).value,
              Item_Ok h (h.item a).next)) =
      some (true, 9, none, 1, 5, some false) := by
  rfl

/-- the hypothesis of `gen_removeLoop` is satisfiable and the loop does unlink: 7 out of 9 → 7 → 5 -/
example :
    ∃ h it s, (h.item it).stack = some s ∧
      (Item_Remove_loop1 5 h (some it) (h.hdr s).head).map (fun p => (p.2, (p.1.hdr s).length)) = some (some true, 2) :=
  ⟨(((({} : Heap).allocStack.1.push 0 5).bind (·.push 0 7)).bind (·.push 0 9)).getD {}, 2, 0, by decide, by rfl⟩

end FunModel.C16StackGen
