import FunProofs.Sll

/-! C16 (stack part) — `dt.Stack` / `dt.Item`: every modelled operation (`reachable_wf` names them; `Item.Detach`
and `Item.Attach` are not modelled) keeps all stacks well-formed and behaves like the same operation on a plain LIFO
sequence; `Item.Remove` of a top item does not (`remove_head_breaks_wf`).

Ghost state: `g s` = item addresses of stack `s`, top first; `sent s` = address of the sentinel of `s`
(`none` while the head pointer is still nil). `WF h g sent` is the invariant (FunProofs/Sll.lean).
`initSent h sent s` is `sent` with the sentinel of `s` set to the fresh address `h.ni` when the head of `s` is nil, and
`sent` otherwise. -/
namespace FunModel.C16Stack
open FunModel.Sll FunModel.Sll.Heap

variable {h : Heap} {g : Nat → List Nat} {sent : Nat → Option Nat}

/-- shape of an allocated stack: nil head and empty, or a `next`-chain through exactly `g s` ending in a sentinel -/
theorem wf_shape (hw : WF h g sent) {s : Nat} (hs : s < h.ns) :
    ((h.hdr s).head = none ∧ g s = [] ∧ (h.hdr s).length = 0 ∧ sent s = none) ∨
    (∃ a z, (h.hdr s).head = some a ∧ sent s = some z ∧ Seg h (some a) (g s) (some z) ∧
      z < h.ni ∧ (h.item z).ok = false ∧ (h.item z).next = none ∧ (h.item z).stack = some s) := hw.shape hs

theorem wf_items (hw : WF h g sent) (s : Nat) :
    (∀ x, x ∈ g s → x < h.ni ∧ (h.item x).ok = true ∧ (h.item x).stack = some s) ∧ (g s).Nodup :=
  ⟨fun _ hx => hw.item_of_mem hx, hw.nodup s⟩

theorem wf_disjoint (hw : WF h g sent) {s t : Nat} :
    (∀ x, x ∈ g s → x ∈ g t → s = t) ∧ (∀ z, sent s = some z → sent t = some z → s = t) ∧
    (∀ x, x ∈ g s → sent t ≠ some x) :=
  ⟨fun _ h1 h2 => hw.disjoint h1 h2, fun z => hw.sentInj s t z, fun _ hx => hw.not_sent_of_mem hx⟩

theorem wf_detached (hw : WF h g sent) {a : Nat} (ha : a < h.ni) (h1 : ∀ s, a ∉ g s)
    (h2 : ∀ s, sent s ≠ some a) : (h.item a).stack = none := hw.detached a ha h1 h2

/-- the traversal from the raw head pointer (`Producer`; `s.Head()` would run `lazyInit` first) lists exactly `g s` -/
theorem walk_spec (hw : WF h g sent) {s fuel : Nat} (hs : s < h.ns) (hf : (g s).length < fuel) :
    h.walk fuel (h.hdr s).head = (g s, if (h.hdr s).head = none then "nil" else "end") := hw.walk hs hf

theorem length_spec (hw : WF h g sent) {s : Nat} (hs : s < h.ns) : (h.hdr s).length = ((g s).length : Int) :=
  (hw.stk s hs).len

/-- `it.In(s)` is membership, for every allocated item that is not a sentinel -/
theorem stack_iff_mem (hw : WF h g sent) {a s : Nat} (ha : a < h.ni) (hns : ∀ t, sent t ≠ some a) :
    (h.item a).stack = some s ↔ a ∈ g s := hw.stack_iff_mem ha hns

/-- `&Stack{}`: a fresh empty stack -/
theorem allocStack_spec (hw : WF h g sent) :
    WF h.allocStack.1 g sent ∧ h.allocStack.2 = h.ns ∧ g h.ns = [] ∧ sent h.ns = none :=
  ⟨hw.allocStack, rfl, (hw.fresh _ (Nat.le_refl _)).1, (hw.fresh _ (Nat.le_refl _)).2⟩

/-- `NewItem(v)` / `&Item{}`: a fresh detached item -/
theorem alloc_spec (hw : WF h g sent) (n : Item) (hn : n.stack = none) :
    WF (h.alloc n).1 g sent ∧ (h.alloc n).2 = h.ni ∧ (h.alloc n).1.item h.ni = n ∧
    (∀ s, h.ni ∉ g s) ∧ (∀ s, sent s ≠ some h.ni) :=
  ⟨hw.alloc n hn, rfl, by simp,
   fun _ hx => Nat.lt_irrefl _ (hw.item_of_mem hx).1,
   fun _ hz => Nat.lt_irrefl _ (hw.sentinel_of_sent hz).1⟩

theorem lazyInit_spec (hw : WF h g sent) {s : Nat} (hs : s < h.ns) :
    WF (h.lazyInit s) g (initSent h sent s) ∧ ∃ a, ((h.lazyInit s).hdr s).head = some a :=
  ⟨hw.lazyInit hs, lazyInit_head h s⟩

/-- `Head()`: the top item, or the sentinel when the stack is empty -/
theorem head_spec (hw : WF h g sent) {s : Nat} (hs : s < h.ns) :
    WF (h.head s).1 g (initSent h sent s) ∧
    ∃ z, initSent h sent s s = some z ∧ (h.head s).2 = some ((g s).headD z) := hw.head hs

/-- `Push(v)`: the fresh item `n` is `h.ni`, or `h.ni + 1` when `lazyInit` had to allocate the sentinel first -/
theorem push_spec (hw : WF h g sent) {s : Nat} (hs : s < h.ns) (v : Int) :
    ∃ h' n, h.push s v = some h' ∧ n = (if (h.hdr s).head = none then h.ni + 1 else h.ni) ∧
      WF h' (upd g s (n :: g s)) (initSent h sent s) ∧
      (h'.item n).value = v ∧ (h'.item n).ok = true ∧ (h'.hdr s).length = (h.hdr s).length + 1 := hw.push hs v

theorem pop_nonempty_spec (hw : WF h g sent) {s x : Nat} {xs : List Nat} (hs : s < h.ns) (hg : g s = x :: xs) :
    ∃ h', h.pop s = some (h', x) ∧ WF h' (upd g s xs) sent ∧ (h'.item x).stack = none ∧
      (∀ t, x ∉ upd g s xs t) ∧ (h'.item x).value = (h.item x).value ∧ (h'.item x).ok = true :=
  hw.pop_nonempty hs hg

/-- `Pop()` on an empty stack behaves like `Head()`: it returns the sentinel, running `lazyInit` if the head was nil -/
theorem pop_empty_spec (hw : WF h g sent) {s : Nat} (hs : s < h.ns) (hg : g s = []) :
    ∃ z, h.pop s = some (h.lazyInit s, z) ∧ WF (h.lazyInit s) g (initSent h sent s) ∧
      initSent h sent s s = some z ∧ (h.head s).2 = some z ∧ ((h.lazyInit s).item z).ok = false ∧
      ((h.lazyInit s).item z).stack = some s ∧ ((h.lazyInit s).hdr s).length = 0 :=
  hw.pop_empty hs hg

theorem pop_empty_then_push (hw : WF h g sent) {s : Nat} (hs : s < h.ns) (hg : g s = []) (v : Int) :
    ∃ z h' n, h.pop s = some (h.lazyInit s, z) ∧ (h.lazyInit s).push s v = some h' ∧
      WF h' (upd g s [n]) (initSent h sent s) ∧ (h'.item n).value = v ∧ (h'.hdr s).length = 1 := hw.pop_empty_push hs hg v

/-- `it.Append(n)` accepted: `n` becomes the new top of `s`, wherever `it` sits -/
theorem itemAppend_accept_spec (hw : WF h g sent) {it n s : Nat} (hit : it < h.ni) (hn : n < h.ni)
    (hst : (h.item it).stack = some s) (hnst : (h.item n).stack = none) (hnok : (h.item n).ok = true) :
    ∃ h', h.itemAppend it (some n) = some (h', n) ∧ WF h' (upd g s (n :: g s)) sent ∧
      (h'.item n).value = (h.item n).value :=
  hw.itemAppend_accept hit hn hst hnst hnok

/-- in every other case `it.Append(n)` changes nothing and returns `it` -/
theorem itemAppend_reject_spec (h : Heap) (it : Nat) (n : Option Nat)
    (hrej : ¬ ∃ n' s, n = some n' ∧ (h.item it).stack = some s ∧ (h.item n').stack = none ∧
      (h.item n').ok = true) : h.itemAppend it n = some (h, it) := itemAppend_reject h it n hrej

theorem itemRemove_mid_spec (hw : WF h g sent) {s it : Nat} (hit : it ∈ g s) (hnh : (g s).head? ≠ some it) :
    ∃ h', h.itemRemove it = some (h', true) ∧ WF h' (upd g s ((g s).erase it)) sent ∧
      (h'.item it).stack = none ∧ (∀ t, it ∉ upd g s ((g s).erase it) t) ∧
      (h'.hdr s).length = (h.hdr s).length - 1 := hw.itemRemove_mid hit (hw.head_ne hit hnh)

theorem itemRemove_reject_spec (h : Heap) (it : Nat)
    (hrej : (h.item it).stack = none ∨ (h.item it).ok = false) : h.itemRemove it = some (h, false) :=
  itemRemove_reject h it hrej

theorem itemSet_spec (h : Heap) (it : Nat) (v : Int) :
    (((h.item it).stack.isSome = true ∧ (h.item it).next = none) → h.itemSet it v = (h, false)) ∧
    (¬ ((h.item it).stack.isSome = true ∧ (h.item it).next = none) →
      h.itemSet it v = (h.setItem it { h.item it with ok := true, value := v }, true)) := itemSet_eq h it v

theorem itemSet_refused_iff (hw : WF h g sent) {it : Nat} (hit : it < h.ni) :
    (h.itemSet it 0).2 = false ↔ ∃ s, sent s = some it := hw.itemSet_refused_iff hit 0

theorem itemSet_wf (hw : WF h g sent) {it : Nat} (hit : it < h.ni) (v : Int) (hns : ∀ t, sent t ≠ some it) :
    (h.itemSet it v).2 = true ∧ WF (h.itemSet it v).1 g sent ∧
      ((h.itemSet it v).1.item it).value = v ∧ ((h.itemSet it v).1.item it).ok = true := hw.itemSet hit v hns

theorem itemSet_preserves_wf (hw : WF h g sent) {it : Nat} (hit : it < h.ni) (v : Int) :
    WF (h.itemSet it v).1 g sent ∧ ((∃ s, sent s = some it) → h.itemSet it v = (h, false)) :=
  hw.itemSet_preserves hit v

/-- `PopIterator` run to EOF -/
theorem popIter_spec (hw : WF h g sent) {s fuel : Nat} (hs : s < h.ns) (hf : (g s).length < fuel) :
    ∃ h', h.popIterLoop s fuel [] = some (h', g s) ∧ WF h' (upd g s []) (initSent h sent s) ∧
      (∀ x, x ∈ g s → (h'.item x).stack = none) ∧ (h'.hdr s).length = 0 := hw.popIter hs hf

/-- every state reachable from the empty heap by `allocStack`, `alloc`, `push`, `pop`, `head`, `itemAppend`,
`itemRemove` (not on a top item), `itemSet` (any allocated item) and `popIterLoop` is well-formed -/
theorem reachable_wf {h : Heap} (hr : Reachable h) : ∃ g sent, WF h g sent := hr.wf

/-- a concrete non-trivial reachable state: two stacks; push 1, 2, 3 on the first, 7 on the second, pop the
first, remove its bottom item, set the remaining one to 9 -/
example : ∃ h, Reachable h ∧ h.walk 10 (h.hdr 0).head = ([2], "end") ∧ (h.hdr 0).length = 1 ∧
    (h.item 2).value = 9 ∧ h.walk 10 (h.hdr 1).head = ([5], "end") ∧ (h.item 5).value = 7 ∧
    (h.item 3).stack = none ∧ (h.item 1).stack = none ∧ h.ni = 6 ∧ h.ns = 2 := by
  have r0 : Reachable _ := Reachable.allocStack (Reachable.allocStack Reachable.empty)
  have r1 := Reachable.push (s := 0) (v := 1) r0 (by decide) rfl
  have r2 := Reachable.push (s := 0) (v := 2) r1 (by decide) rfl
  have r3 := Reachable.push (s := 0) (v := 3) r2 (by decide) rfl
  have r4 := Reachable.push (s := 1) (v := 7) r3 (by decide) rfl
  have r5 := Reachable.pop (s := 0) (x := 3) r4 (by decide) rfl
  have r6 := Reachable.itemRemove (it := 1) (b := true) r5 (by decide) (by intro s hs; cases hs; decide) rfl
  have r7 := Reachable.itemSet (it := 2) (v := 9) r6 (by decide)
  exact ⟨_, r7, rfl, rfl, rfl, rfl, rfl, rfl, rfl, rfl, rfl⟩

/-- the invariant is satisfiable on a non-trivial state, with the expected ghost sequences -/
example : ∃ h g sent, WF h g sent ∧ g 0 = [2, 1] ∧ g 1 = [] ∧ sent 0 = some 0 := by
  have r0 : Reachable _ := Reachable.allocStack (Reachable.allocStack Reachable.empty)
  have r1 := Reachable.push (s := 0) (v := 1) r0 (by decide) rfl
  have r2 := Reachable.push (s := 0) (v := 2) r1 (by decide) rfl
  obtain ⟨g, sent, hw⟩ := reachable_wf r2
  have hl0 := length_spec hw (s := 0) (by decide)
  have hl1 := length_spec hw (s := 1) (by decide)
  have hg0 : g 0 = [2, 1] := (congrArg Prod.fst (walk_spec hw (s := 0) (fuel := 10) (by decide)
    (by have : ((2 : Int)) = ((g 0).length : Int) := hl0; omega))).symm
  have hg1 : g 1 = [] := (congrArg Prod.fst (walk_spec hw (s := 1) (fuel := 10) (by decide)
    (by have : ((0 : Int)) = ((g 1).length : Int) := hl1; omega))).symm
  refine ⟨_, g, sent, hw, hg0, hg1, ?_⟩
  -- the chain through `[2, 1]` ends in the sentinel, and item 1 points to cell 0
  rcases wf_shape hw (s := 0) (by decide) with ⟨hn, _⟩ | ⟨a, z, _, hz, hseg, _⟩
  · cases hn
  · rw [hg0] at hseg
    obtain ⟨_, _, hz'⟩ := hseg
    rw [hz, ← hz']; rfl

/-- finding, by a concrete witness: after push 1; push 2; `Remove` of the top item the traversal from the head
still lists two items while `Len()` is 1, and no ghost state makes the heap well-formed -/
theorem remove_head_breaks_wf :
    ∃ h top h', Reachable h ∧ (h.hdr 0).head = some top ∧ h.itemRemove top = some (h', true) ∧
      h'.walk 10 (h'.hdr 0).head = ([2, 1], "end") ∧ (h'.hdr 0).length = 1 ∧
      (h'.item top).stack = none ∧ ¬ ∃ g sent, WF h' g sent := by
  have r0 : Reachable _ := Reachable.allocStack Reachable.empty
  have r1 := Reachable.push (s := 0) (v := 1) r0 (by decide) rfl
  have r2 := Reachable.push (s := 0) (v := 2) r1 (by decide) rfl
  refine ⟨_, 2, _, r2, rfl, rfl, rfl, rfl, rfl, ?_⟩
  rintro ⟨g, sent, hw⟩
  have hl := length_spec hw (s := 0) (by decide)
  have hl' : (1 : Int) = ((g 0).length : Int) := hl
  have hwk := walk_spec hw (s := 0) (fuel := 10) (by decide) (by omega)
  have hg : [2, 1] = g 0 := congrArg Prod.fst hwk
  rw [← hg] at hl'
  exact absurd hl' (by decide)

/-- consequence of the same defect: the stale head has a nil stack field, so the next `Push` is dropped -/
theorem remove_head_then_push_lost :
    ∃ h top h' h'', Reachable h ∧ (h.hdr 0).head = some top ∧ h.itemRemove top = some (h', true) ∧
      h'.push 0 3 = some h'' ∧ h''.walk 10 (h''.hdr 0).head = ([2, 1], "end") ∧ (h''.hdr 0).length = 1 := by
  have r0 : Reachable _ := Reachable.allocStack Reachable.empty
  have r1 := Reachable.push (s := 0) (v := 1) r0 (by decide) rfl
  have r2 := Reachable.push (s := 0) (v := 2) r1 (by decide) rfl
  exact ⟨_, 2, _, _, r2, rfl, rfl, rfl, rfl, rfl⟩

/-- `Pop` on a zero-value stack runs `lazyInit` and returns the sentinel, so a following `Push(v)` is kept (`Pop` as
repaired upstream; before, it installed a detached item as the head and the `Push` was lost) -/
theorem pop_fresh_then_push (v : Int) :
    ∃ h0 h1 z h2 n, Reachable h0 ∧ h0.ns = 1 ∧ h0.pop 0 = some (h1, z) ∧ (h1.item z).ok = false ∧
      h1.push 0 v = some h2 ∧ Reachable h2 ∧ (h2.hdr 0).length = 1 ∧
      h2.walk 10 (h2.hdr 0).head = ([n], "end") ∧ (h2.item n).value = v := by
  have r0 : Reachable _ := Reachable.allocStack Reachable.empty
  have r1 := Reachable.pop (s := 0) (x := 0) r0 (by decide) rfl
  have r2 := Reachable.push (s := 0) (v := v) r1 (by decide) rfl
  exact ⟨_, _, 0, _, 1, r0, rfl, rfl, rfl, rfl, r2, rfl, rfl, rfl⟩

/-- the sentinel returned by `Pop` on an empty stack refuses `Set` -/
example : ∃ h0 h1 z, Reachable h0 ∧ h0.pop 0 = some (h1, z) ∧ h1.itemSet z 7 = (h1, false) := by
  have r0 : Reachable _ := Reachable.allocStack Reachable.empty
  exact ⟨_, _, 0, r0, rfl, rfl⟩

/-- `Remove` of a non-top member really unlinks it -/
example : ∃ h h', Reachable h ∧ h.walk 10 (h.hdr 0).head = ([3, 2, 1], "end") ∧
    h.itemRemove 2 = some (h', true) ∧ h'.walk 10 (h'.hdr 0).head = ([3, 1], "end") ∧
    (h'.hdr 0).length = 2 ∧ (h'.item 2).stack = none := by
  have r0 : Reachable _ := Reachable.allocStack Reachable.empty
  have r1 := Reachable.push (s := 0) (v := 1) r0 (by decide) rfl
  have r2 := Reachable.push (s := 0) (v := 2) r1 (by decide) rfl
  have r3 := Reachable.push (s := 0) (v := 3) r2 (by decide) rfl
  exact ⟨_, _, r3, rfl, rfl, rfl, rfl, rfl⟩

/-- `Append` of a detached item onto a stack through one of its items; `PopIterator` drains it -/
example : ∃ h h1 h2, Reachable h ∧ h.itemAppend 1 (some 3) = some (h1, 3) ∧
    h1.walk 10 (h1.hdr 0).head = ([3, 2, 1], "end") ∧
    h1.popIterLoop 0 10 [] = some (h2, [3, 2, 1]) ∧ (h2.hdr 0).length = 0 ∧
    h2.walk 10 (h2.hdr 0).head = ([], "end") := by
  have r0 : Reachable _ := Reachable.allocStack Reachable.empty
  have r1 := Reachable.push (s := 0) (v := 1) r0 (by decide) rfl
  have r2 := Reachable.push (s := 0) (v := 2) r1 (by decide) rfl
  have r3 := Reachable.alloc { ok := true, value := 3 } r2 rfl
  exact ⟨_, _, _, r3, rfl, rfl, rfl, rfl, rfl⟩

end FunModel.C16Stack
