import FunProofs.BrokerOrder

/-! # C08 — the broker delivers each message exactly once, in order, to every subscriber

    Property theorems about the process model `FunModel.Broker` (event loop, abstract distributor
    with four behaviours, k dispatch workers, serial or parallel dispatch, subscription channels
    with capacity `BufferSize`, any number of publishers, subscribers and messages, every
    interleaving: the theorems quantify over every reachable state, i.e. every finite action
    sequence). The tie to pubsub/broker.go is behavioural (T-out): the Lean driver evaluates
    `Broker.allowed` on the logs of runs of the real broker, and `allowed_of_reachable` proves it of the
    log of every reachable state, for the limits the constructors accept (`Cfg.valid`: a limited Queue with
    `HardLimit = 0` would wedge the event loop on the first message).

    The exactly-once part of C08 as stated is FALSE for the code (finding D24,
    `broker:unsubscribe-overtakes-inflight`): `unsubscribe_overtakes_inflight` is a kernel-checked run
    of the model, reproduced on the real broker by checks/c08.py. The statement and what is proved
    instead are at `lossless_exactly_once_partial`. -/

namespace FunProps.C08
open FunModel.Broker FunProofs.Broker

/-- **Every configuration** (all back-ends incl. load-shedding ones, any worker pool, serial or
    parallel dispatch, any BufferSize), every reachable state: what a subscriber has received
    contains no message twice and only messages a Publish call was made for. -/
theorem only_published_no_duplicates (c : Cfg) (s : St) (h : Reachable c s) (k : Sub) :
    (s.recvd k).Nodup ∧ ∀ m ∈ s.recvd k, m ∈ s.published := by
  have hu := uniq_reachable h
  constructor
  · rw [List.nodup_iff_count]
    intro m
    have := hu.donce k m
    simp only [dcount] at this
    omega
  · intro m hm
    have := List.count_pos_iff.mpr hm
    exact hu.published_of_dcount (k := k) (by simp only [dcount]; omega)

/-- … and more: inside the broker every message is in at most one place (a pending Publish call,
    the event loop's hand, the distributor, one dispatch worker, or done), and it is on its way to
    or has reached each subscriber at most once (received + channel buffer + sends in progress). -/
theorem each_message_in_one_place (c : Cfg) (s : St) (h : Reachable c s) (m : Msg) (k : Sub) :
    (flight s ++ s.fin).count m ≤ 1 ∧
      (s.recvd k).count m + (s.chan k).count m + s.sends.count (k, m) ≤ 1 :=
  ⟨count_flight s m ▸ (uniq_reachable h).once m, (uniq_reachable h).donce k m⟩

/-- **Single dispatch worker** (all four distributor behaviours hand messages out first-in
    first-out), while the broker's context is live: there is one order — the order in which the
    worker took the messages from the distributor — of which every subscriber's received sequence
    is a subsequence, which itself is a subsequence of the order in which the event loop accepted
    the Publish calls, and in which the messages of each publisher appear in the order they were
    published (sequence numbers increase). Serial or parallel dispatch, any BufferSize. -/
theorem single_worker_same_order (c : Cfg) (h1 : c.nworkers = 1) (s : St) (h : Reachable c s)
    (hl : s.live = true) :
    (∀ k, (s.recvd k).Sublist s.dispatched) ∧ s.dispatched.Sublist s.taken ∧
      s.taken.Pairwise (fun a b => a.1 = b.1 → a.2 < b.2) := by
  have ho := ord_reachable h
  exact ⟨fun k => recvd_sublist_dispatched h1 (wf_reachable h) ho.2 hl k, ho.1.dispatched_sublist, ho.1.pw⟩

/-- The same for the log, also after Stop: the receive events older than the first `stop` fit one
    order that keeps every publisher's order. (After the context is done the code may still
    complete a send it had started, in any order; nothing is claimed about those.) -/
theorem single_worker_same_order_log (c : Cfg) (h1 : c.nworkers = 1) (s : St) (h : Reachable c s) :
    ∃ order : List Msg, order.Pairwise (fun a b => a.1 = b.1 → a.2 < b.2) ∧
      ∀ k, (recvs k (liveLog s.log)).Sublist order :=
  ordlog_reachable h h1

/-- With any number of workers the order in which messages are *taken* and handed to the workers
    still keeps each publisher's order (the subscribers' orders then depend on the workers). -/
theorem dispatch_keeps_publisher_order (c : Cfg) (s : St) (h : Reachable c s) :
    s.dispatched.Pairwise (fun a b => a.1 = b.1 → a.2 < b.2) :=
  dispatched_pubLt (ord_reachable h).1

/-- **Lossless broker, exactly once — the part that is true.**

    Full statement (visible, NOT proved, false for the code — D24): on a lossless broker a
    message whose Publish returned, published after the subscriber's Subscribe returned and before
    its Unsubscribe was *called*, is delivered to it exactly once provided it keeps receiving.

    Proved: state form — on a broker whose distributor never discards (`fifo`, `blocking`), in
    every reachable state in which the context is live, every subscriber is receiving and no
    internal action is enabled (so everybody "kept receiving" until nothing was left to do), every
    message the event loop took from a Publish call while subscriber `k` was in its map and `k`
    still is in the map has been received by `k` exactly once. Missing with respect to the full
    statement: messages still on their way when the event loop *processes* Unsubscribe(k) are
    never delivered, although their Publish returned before Unsubscribe was called. -/
theorem lossless_exactly_once_partial (c : Cfg) (hloss : c.backend.lossless = true) (hv : Cfg.valid c)
    (s : St) (h : Reachable c s) (hl : s.live = true) (hopen : allOpen s = true)
    (hq : quiescent c s = true) (k : Sub) (hk : k ∈ s.subs) (m : Msg) (hm : m ∈ s.since k) :
    (s.recvd k).count m = 1 :=
  once_at_quiet hloss h hl hopen hq hk hm

/-- The same in terms of what a client can see (BufferSize = 0, the configuration C08 calls
    lossless): Subscribe returned `k` before the Publish call of `m` started, that call returned
    (handing `m` over), and Unsubscribe(k) has not been called: at a quiescent point with the
    context live and every subscriber receiving, `k` has received `m` exactly once. `BufferSize = 0` is used
    for the request channel `subCh`, not for the subscription channels: with a buffered `subCh` Subscribe
    returns before the event loop has put `k` into its map, and a Publish made after that may be taken first. -/
theorem lossless_exactly_once_partial_log (c : Cfg) (hloss : c.lossless = true) (hv : Cfg.valid c)
    (s : St) (h : Reachable c s) (hl : s.live = true) (hopen : allOpen s = true)
    (hq : quiescent c s = true) (k : Sub) (m : Msg)
    (hwin : seenAfter (.subRet k) (.pubCall m) s.log = true) (hret : Ev.pubRet m ∈ s.log)
    (hnu : Ev.unsubCall k ∉ s.log) : (recvs k s.log).count m = 1 := by
  simp only [Cfg.lossless, Bool.and_eq_true, beq_iff_eq] at hloss
  have hli := loginv_reachable h
  have hret := List.contains_iff_mem.mpr hret
  have hin : k ∈ s.subs :=
    hli.inMap hloss.2 k (subsOf_of_seenAfter hwin) (Bool.eq_false_iff.mpr fun h => hnu (List.contains_iff_mem.mp h))
  rw [hli.recvs k]
  exact once_at_quiet hloss.1 h hl hopen hq hin (hli.since hloss.2 k hin m hwin hret)

/-- The conservation law behind it, for every reachable state of a lossless broker with a live
    context: a message taken while `k` was in the map (and `k` still is) has been received by
    `k`, is in `k`'s channel, is being sent to `k`, or is still ahead of `k` (event loop's hand,
    distributor, a worker that has not visited `k` yet). -/
theorem lossless_conservation (c : Cfg) (hloss : c.backend.lossless = true) (s : St) (h : Reachable c s)
    (hl : s.live = true) (k : Sub) (hk : k ∈ s.subs) (m : Msg) (hm : m ∈ s.since k) :
    m ∈ s.recvd k ∨ m ∈ s.chan k ∨ (k, m) ∈ s.sends ∨ Ahead s k m :=
  cases_of_owed ((owed_reachable hloss h).loc hl k hk m hm)

/-- `NewBroker` defaults: unbuffered channel distributor, one worker, serial dispatch -/
def cfgD24 : Cfg := { backend := .blocking 0, workers := 1, parallel := false, bufSize := 0 }

/-- Subscribe returns 0; Publish of (0,0) is called and returns; the worker receives the message;
    Unsubscribe(0) is called and processed by the event loop; only then does the worker range
    over the (now empty) subscriber map. -/
def runD24 : List Act :=
  [.subCall, .loopSub 0, .pubCall 0, .loopTake 0, .wRecv 0, .unsubCall 0, .loopUnsub 0, .wStart 0, .wDone 0,
   .observeQuiet]

/-- the window of the full statement: Publish of `m` was called after Subscribe returned `k`,
    it returned, and Unsubscribe(k) was not called before that return -/
def fullWindow (l : List Ev) (k : Sub) (m : Msg) : Bool :=
  seenAfter (.subRet k) (.pubCall m) l && l.contains (.pubRet m) &&
    (!l.contains (.unsubCall k) || seenAfter (.pubRet m) (.unsubCall k) l)

/-- **Kernel-checked witness (not a claim about all runs):** a reachable state of the default
    configuration in which the message is in the window of the full statement, the subscriber has
    been receiving all the time, the context is live and nothing is left to do — and the message
    was not delivered. -/
theorem unsubscribe_overtakes_inflight :
    ∃ s, run cfgD24 (init cfgD24) runD24 = some s ∧ s.live = true ∧ allOpen s = true ∧
      quiescent cfgD24 s = true ∧ fullWindow s.log 0 (0, 0) = true ∧ (0, 0) ∉ s.recvd 0 := by
  refine ⟨_, rfl, ?_, ?_, ?_, ?_, ?_⟩ <;> decide

/-- Every check `Broker.allowed` makes holds of the log of every reachable state: no message received twice /
    unpublished; with one worker the receive events before the first `stop` keep every publisher's order, and any
    two subscribers order their common messages alike; at every quiescent point with the context live and all
    subscribers receiving no Publish/Subscribe/Unsubscribe/Stats call is pending and (lossless configurations)
    every message in the window of a still-subscribed subscriber was received; no call whose own context is done
    is pending at any quiescent point; after `stop` no Wait call with a live context is pending and no broker
    goroutine is alive at a quiescent point. -/
theorem allowed_of_reachable (c : Cfg) (hv : Cfg.valid c) (s : St) (h : Reachable c s) :
    allowed c s.log = true := by
  simp only [allowed, Bool.and_eq_true]
  exact ⟨eventsOk_reachable hv h, orderOk_reachable h⟩

/-! ### non-vacuity: concrete reachable states satisfying the hypotheses -/

/-- two subscribers, two messages of one publisher, one worker: both received both, in order -/
def runOrder : List Act :=
  [.subCall, .loopSub 0, .subCall, .loopSub 0, .pubCall 7, .loopTake 0, .wRecv 0, .wStart 0, .wNext 0 1,
   .handoff 1 (7, 0), .wNext 0 0, .handoff 0 (7, 0), .wDone 0, .pubCall 7, .loopTake 0, .wRecv 0, .wStart 0,
   .wNext 0 0, .handoff 0 (7, 1), .wNext 0 1, .handoff 1 (7, 1), .wDone 0, .observeQuiet]

example : ∃ s, run cfgD24 (init cfgD24) runOrder = some s ∧ s.live = true ∧ allOpen s = true ∧
    quiescent cfgD24 s = true ∧ s.recvd 0 = [(7, 0), (7, 1)] ∧ s.recvd 1 = [(7, 0), (7, 1)] ∧
    s.subs = [0, 1] ∧ s.since 1 = [(7, 0), (7, 1)] ∧ s.dispatched = [(7, 0), (7, 1)] := by
  refine ⟨_, rfl, ?_, ?_, ?_, ?_, ?_, ?_, ?_, ?_⟩ <;> decide

example : cfgD24.nworkers = 1 ∧ cfgD24.backend.lossless = true ∧ cfgD24.lossless = true ∧ Cfg.valid cfgD24 := by
  refine ⟨by decide, by decide, by decide, ?_⟩
  simp [Cfg.valid, cfgD24]

end FunProps.C08
