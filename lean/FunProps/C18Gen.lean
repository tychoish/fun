import FunProofs.GenTieSet

/-! C18 — T-gen obligations. tools/go2lean (setops.go) re-reads `dt/set.go` on every run of `./check` and
    rewrites lean/FunGen/SetOps.lean: `isOrdered`, `lockedIsOrdered`, `Len`, `Check`, `Order`,
    `forceSetupOrdered`, `AddCheck`, `DeleteCheck`, `Add`, `Delete`, `SortQuick`, `SortMerge`, `keys`,
    `unsafeIterator`, `Producer`, `Iterator`, `Populate`, `Extend`, `Equal`, statement by statement, over the
    state record `SetSt` of the C18 model. What is regenerated is the branch structure and the order of the
    effects of each method; the calls into the Go map, `dt.List`/`dt.Element` and iterators are the named
    primitives of `FunModel/SetPrim.lean` (hand-written, trusted, consistent with the sequence-level
    statements of C16). The locking calls are skipped (C13 and the `setexcl` cases).

    These theorems say that the hand-written model operations the C18 theorems (FunProps/C18.lean) are about
    — `check`, `len`, `isOrdered`, `order`, `forceSetupOrdered`, `addCheck`, `deleteCheck`, `sortQuick`,
    `sortMerge`, `iter`, `addAll`, `equal` — compute, for every state and every argument, exactly what the
    generated definitions compute (and that the generated definitions do not panic), outright where that is
    true of every state, and otherwise under the representation invariant `Inv` of C18 (proved there to be
    preserved by every operation) and `GoodOrder` (the order in which the map is ranged over has no
    repetition and misses no key). `gen_run` lifts this to every sequence of calls from the empty set.

    `some x` = returned `x`; `none` = panic. Generated functions that write the set return the new state
    (with the result, if any); a method that ranges over the map takes the order `mo` as a parameter, and
    `Producer`/`Iterator` (hence `Extend`, `Equal`) the flag "the set has a mutex" (`s.mtx.Get() != nil`):
    the theorems hold for both values, i.e. both branches of `Producer` yield the same items. -/
namespace FunModel.C18Gen
open FunModel.SetModel FunModel.SetPrim FunGen.SetOps FunProofs.GenTieSet

theorem gen_Check (s : SetSt) (k : Int) : Set_Check s k = some (s.check k) := by
  unfold Set_Check; rw [mapCheck_eq]; rfl

/-- `Len` is the size of the map (not of the list) -/
theorem gen_Len (s : SetSt) : Set_Len s = some s.len := rfl

theorem gen_isOrdered (s : SetSt) : Set_isOrdered s = some s.isOrdered := by
  unfold Set_isOrdered listIsNil SetSt.isOrdered
  cases s.list <;> rfl

theorem gen_lockedIsOrdered (s : SetSt) : Set_lockedIsOrdered s = some s.isOrdered := gen_isOrdered s

/-- `AddCheck`. The invariant is used for one fact only (`Fresh`): the addresses in the list are below the
    allocation counter, so the new element is detached and `Back().Append` accepts it. -/
theorem gen_AddCheck {s : SetSt} (hi : Inv s) (k : Int) : Set_AddCheck s k = some (s.addCheck k) :=
  AddCheck_tie hi.addrs_lt k

theorem gen_Add {s : SetSt} (hi : Inv s) (k : Int) : Set_Add s k = some (s.addCheck k).1 := by
  unfold Set_Add; rw [AddCheck_tie hi.addrs_lt]; rfl

/-- without `Fresh` the two differ (so the hypothesis is not decoration): if the list already holds an
    element with the next address, the real `Append` refuses the "new" element -/
example : Set_AddCheck { hash := [], list := some [(0, 7)], nextId := 0 } 5 ≠
    some (SetSt.addCheck { hash := [], list := some [(0, 7)], nextId := 0 } 5) := by decide

/-- `DeleteCheck`; for an absent value the deferred `delete` is a no-op -/
theorem gen_DeleteCheck (s : SetSt) (k : Int) : Set_DeleteCheck s k = some (s.deleteCheck k) := by
  unfold Set_DeleteCheck SetSt.deleteCheck
  rw [mapLoad_eq]
  cases hlk : s.lookup k with
  | none => simp [mapDelete, filter_key_of_lookup_none hlk]
  | some e =>
    cases e with
    | none => simp [mapDelete]
    | some a =>
      cases hl : s.list with
      | none => simp [mapDelete, elemRemove, hl]
      | some l =>
        cases ha : l.any (fun p => p.1 == a) with
        | true => simp [mapDelete, elemRemove, hl, ha]
        | false =>
          have := filter_ne_of_any_false (fun p : Nat × Int => p.1) ha
          simp [mapDelete, elemRemove, hl, ha, this]

theorem gen_Delete (s : SetSt) (k : Int) : Set_Delete s k = some (s.deleteCheck k).1 := by
  unfold Set_Delete; rw [gen_DeleteCheck]; rfl

/-- `Order()` on an ordered set is a no-op, on an empty unordered one it installs an empty list … -/
theorem gen_Order {s : SetSt} (h : s.list.isSome ∨ s.hash = []) : Set_Order s = some s.order := by
  unfold Set_Order SetSt.order listIsNil mapLen listNew
  cases hl : s.list with
  | some l => simp
  | none =>
    rcases h with h | h
    · rw [hl] at h; cases h
    · simp [h]

/-- … and it panics on an unordered set with members (the model's `order` is only used under the
    hypothesis of `gen_Order`; see `C18.inv_order`) -/
theorem gen_Order_panics {s : SetSt} (h1 : s.list = none) (h2 : s.hash ≠ []) : Set_Order s = none := by
  unfold Set_Order listIsNil mapLen
  simp [h1, h2]

theorem goodOrder_nodup {s : SetSt} {mo : List Int} (hg : s.GoodOrder mo) : (mo.filter s.check).Nodup :=
  hg.1.filter _

/-- `forceSetupOrdered`; `mo.filter s.check` is what the range visits, without repetition whenever `GoodOrder s mo`
    (`goodOrder_nodup`) -/
theorem gen_forceSetupOrdered {s : SetSt} (hl : s.list = none) {mo : List Int}
    (hn : (mo.filter s.check).Nodup) : Set_forceSetupOrdered s mo = some (s.forceSetupOrdered mo) :=
  forceSetupOrdered_tie hl hn

/-- it is only called on unordered sets (`fun.Invariant.Ok(s.list == nil)`) -/
theorem gen_forceSetupOrdered_panics {s : SetSt} (hl : s.list.isSome) (mo : List Int) :
    Set_forceSetupOrdered s mo = none := by
  unfold Set_forceSetupOrdered listIsNil
  obtain ⟨l, hl⟩ := Option.isSome_iff_exists.mp hl
  simp [hl]

/-- `SortQuick`: `forceSetupOrdered` exactly when the set is unordered, then the list sort -/
theorem gen_SortQuick (lt : Int → Int → Bool) (s : SetSt) (mo : List Int)
    (hn : s.list = none → (mo.filter s.check).Nodup) :
    Set_SortQuick s lt mo = some (SetSt.sortQuick lt s mo) :=
  sortWith_tie SortSeq.sortQuick lt s mo hn

theorem gen_SortMerge (lt : Int → Int → Bool) (s : SetSt) (mo : List Int)
    (hn : s.list = none → (mo.filter s.check).Nodup) :
    Set_SortMerge s lt mo = some (SetSt.sortMerge lt s mo) :=
  sortWith_tie SortSeq.sortMerge lt s mo hn

theorem gen_keys (s : SetSt) (mo : List Int) : Set_keys s mo = some (mo.filter s.check) := by
  unfold Set_keys
  rw [append_fold _ (fun out k => by simp [sliceAppend]), mapRange_eq]
  simp [sliceMake]

/-- `unsafeIterator`, `Producer` (with and without a mutex) and `Iterator` all yield the model's `iter`:
    the list's items when ordered, the keys in map order otherwise -/
theorem gen_unsafeIterator (s : SetSt) (mo : List Int) : Set_unsafeIterator s mo = some (s.iter mo) := by
  unfold Set_unsafeIterator SetSt.iter
  cases hl : s.list with
  | none => simp [listIsNil, hl, gen_keys]
  | some l => simp [listIsNil, hl, listItems]

theorem gen_Producer (s : SetSt) (mo : List Int) (sync : Bool) : Set_Producer s mo sync = some (s.iter mo) := by
  unfold Set_Producer SetSt.iter
  cases hl : s.list with
  | none => cases sync <;> simp [listIsNil, hl, gen_keys, mapProducerKeys, mapRange_eq]
  | some l => simp [listIsNil, hl, listItems]

theorem gen_Iterator (s : SetSt) (mo : List Int) (sync : Bool) : Set_Iterator s mo sync = some (s.iter mo) := by
  unfold Set_Iterator; simp [gen_Producer]

theorem gen_Populate {s : SetSt} (hi : Inv s) (ks : List Int) : Set_Populate s ks = some (s.addAll ks) := by
  unfold Set_Populate
  rw [observe_add _ (fun s k hi => gen_Add hi k) ks hi] <;> rfl

/-- `Extend` populates from the other set's iterator (what the C18 driver computes for `extend`) -/
theorem gen_Extend {s : SetSt} (hi : Inv s) (o : SetSt) (mo : List Int) (sync : Bool) :
    Set_Extend s o mo sync = some (s.addAll (o.iter mo)) := by
  unfold Set_Extend
  simp [gen_Iterator, gen_Populate hi]

/-- `Equal`: the size/orderedness guard, then the lock-step comparison of the two iterations (ordered) or
    the membership test of every key in the other set (unordered), are the model's `equal` -/
theorem gen_Equal {s o : SetSt} (hs : Inv s) (ho : Inv o) {mo : List Int} (hg : s.GoodOrder mo)
    (mo' : List Int) (sync : Bool) : Set_Equal s o mo mo' sync = some (s.equal o) := by
  unfold Set_Equal SetSt.equal
  simp only [gen_Len, gen_isOrdered, gen_lockedIsOrdered, gen_unsafeIterator, gen_Iterator, mapLen_eq,
    orP, neP, Option.pure_def, Option.bind_eq_bind, Option.bind_some]
  by_cases hne : s.len ≠ o.len
  · simp [hne]
  have hlen : s.len = o.len := Decidable.not_not.mp hne
  unfold SetSt.isOrdered SetSt.iter
  cases hl : s.list with
  | none =>
    cases hb : o.list with
    | some b => simp [hlen]
    | none =>
      -- every key of `s` is looked up in `o`
      simp only [hlen, bne_self_eq_false, Option.isSome_none, Bool.or_self, Bool.false_eq_true, ↓reduceIte,
        Option.bind_some]
      rw [iterLoop_all _ o.check (fun x => by cases h : o.check x <;> simp [gen_Check, notP, h]),
        all_filter_check hg]
      cases s.hash.all (fun p => o.check p.1) <;> simp [iterClose]
  | some a =>
    cases hb : o.list with
    | none => simp [hlen]
    | some b =>
      -- the two lists, of the same length, are walked in lock step
      have hlenab : (a.map (·.2)).length = (b.map (·.2)).length := by
        rw [list_length_of_inv hs hl, list_length_of_inv ho hb, hlen]
      simp only [hlen, bne_self_eq_false, Option.isSome_some, Bool.or_self, Bool.false_eq_true, ↓reduceIte,
        Option.bind_some]
      rw [iterLoop_all _ (fun p : Int × Int => p.1 == p.2)
        (fun p => by cases h : (p.1 == p.2) <;> simp_all), zip_all_eq hlenab]
      cases (a.map (·.2) == b.map (·.2)) <;> simp [iterClose]

/-- From any reachable state (in particular the empty set), any sequence of `AddCheck`, `DeleteCheck`,
    `Order`, `SortQuick`, `SortMerge`, `Populate` calls made through the *generated* functions — `Order`
    only where it does not panic, sorts with a possible map order — never panics and ends in exactly the
    state the hand-written model computes, which is again reachable (so `Inv` holds there and all the
    theorems above and of FunProps/C18.lean apply to it). -/
theorem gen_run (ops : List Op) {s : SetSt} (hr : SetSt.Reachable s) (ha : Admissible ops s) :
    runGen ops s = some (runModel ops s) ∧ SetSt.Reachable (runModel ops s) := by
  induction ops generalizing s with
  | nil => exact ⟨rfl, hr⟩
  | cons op rest ih =>
    have hi := hr.inv
    have hok := ha.1
    have step : op.gen s = some (op.model s) ∧ SetSt.Reachable (op.model s) := by
      cases op with
      | add k => exact ⟨by simp [Op.gen, Op.model, gen_AddCheck hi], .add k hr⟩
      | del k => exact ⟨by simp [Op.gen, Op.model, gen_DeleteCheck], .delete k hr⟩
      | order => exact ⟨gen_Order hok, order_reachable hr hok⟩
      | sortQuick lt mo =>
        exact ⟨gen_SortQuick lt s mo (fun _ => goodOrder_nodup hok), .sortQuick lt mo hok hr⟩
      | sortMerge lt mo =>
        exact ⟨gen_SortMerge lt s mo (fun _ => goodOrder_nodup hok), .sortMerge lt mo hok hr⟩
      | populate ks => exact ⟨gen_Populate hi ks, .addAll ks hr⟩
    unfold runGen runModel
    rw [List.foldlM_cons, step.1]
    exact ih step.2 ha.2

/-- add 3, add 1, add 3 again (reported present, not moved), sort ascending, delete 1: the generated
    functions produce `SetSt.demo` of FunProofs/SetModel.lean; intermediate results as the code returns them -/
example :
    (do let (s, r1) ← Set_AddCheck {} 3
        let (s, r2) ← Set_AddCheck s 1
        let (s, r3) ← Set_AddCheck s 3
        let before ← Set_Iterator s [1, 3] false
        let s ← Set_SortQuick s (fun a b => a < b) [1, 3]
        let sorted ← Set_Iterator s [] true
        let (s, r4) ← Set_DeleteCheck s 1
        let (s, r5) ← Set_DeleteCheck s 1
        let n ← Set_Len s
        pure (r1, r2, r3, before, sorted, r4, r5, n, s)) =
      some (false, false, true, [1, 3], [1, 3], true, false, 1, SetSt.demo) := by rfl

/-- an ordered set: `Order`, add 5, 2, 5; iteration is insertion order; `Equal` with a set built in the
    other order is false, with one built in the same order true -/
example :
    (do let s ← Set_Order {}
        let s ← Set_Populate s [5, 2, 5]
        let t ← Set_Order {}
        let t ← Set_Populate t [2, 5]
        let u ← Set_Order {}
        let u ← Set_Populate u [5, 2]
        let it ← Set_Iterator s [] false
        let e1 ← Set_Equal s t [] [] false
        let e2 ← Set_Equal s u [] [] true
        pure (it, e1, e2)) = some ([5, 2], false, true) := by decide

/-- `gen_run`'s hypotheses are satisfiable by a non-trivial run -/
example : Admissible [.add 3, .add 1, .add 3, .sortQuick (fun a b => a < b) [1, 3], .del 1] {} :=
  ⟨trivial, trivial, trivial,
    ⟨by decide, fun k hk => by
      have h : k ∈ ([3, 1] : List Int) := hk
      simp only [List.mem_cons, List.not_mem_nil, or_false] at h ⊢
      omega⟩,
    trivial, trivial⟩

end FunModel.C18Gen
