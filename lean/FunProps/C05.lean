import FunProofs.QueueSeq

/-! # C05 — `pubsub.Queue` is a linearizable bounded FIFO

Model: `FunModel/Queue.lean` run by the machine of `FunModel/Conc.lean` (one action = one critical
section under `q.mu`; validated against the Go code action by action by the differential run).
Specification: `FunProofs/QueueSpec.lean` (`Spec.apply`, `Spec.replay`): a plain list of items, the closed
flag, and the limit tracker used as an opaque admission oracle (the burst credit is a `Float`; the theorems
only case on the Boolean answer of `credit < 1`).

Quantification. `InitQ q0`: `q0` is `mkUnlimited` or `mkSoft hard soft burst` with `1 ≤ hard`, `soft ≤ hard`
(what `NewUnlimitedQueue` / `NewQueue` after `Validate` build), any `burst`. `Reach' subject (initSys q0
programs) log s`: `s` is reached from the initial system of *any* list of thread programs by *any* finite
list of enabled actions (start / resume-after-wake-up / cancel / helper-fire); `log` records, for every
segment that ran, thread, program counter, operation, whether it is the invocation, the context flag it
saw, the queue state before, and the `SegOut` (state after, signals, `ret r` or `park c`). No bounds.

Segments. `IsSeg s t op first c o`: `o` is the invocation segment (`first`, live context) or a re-check
segment after a wake-up (blocking operations only) of `op` in queue state `s`. By `run_segments` every segment
of every run is of this form and starts in a state satisfying `SInv` (tracker invariant ∧
`tracker.len = q.length`), so the per-segment theorems below apply to every segment of every run.

## Why "linearization point = returning segment" gives real-time consistency

An operation is a sequence of segments of one thread: its invocation segment (action `start t`), then
zero or more re-check segments (actions `resume t`), the last of which returns and *is* its response
(`lin_point_within_operation`: the invocation segment of the same operation instance — same thread, same
program counter — is in the log at or before each of its segments; no segment of that instance precedes its
invocation). Every parking segment leaves the abstract state unchanged (`park_no_effect`); the returning
segment performs exactly the whole sequential operation (`seq_refines_fifo`). So each operation takes effect
atomically at its returning segment, inside its interval. If operation A responds before operation B is
invoked, A's linearization point (= A's response) precedes B's invocation, which is at or before B's
linearization point: the order of linearization points extends the real-time order. `linearizable`: replaying
the operations in that order on the sequential specification reproduces every result and the final abstract
state; `lin_program_order`: each thread's operations appear in it in program order, each exactly once.
Operations that are parked and have not returned are not in the history: pending operations have had no
effect. -/
namespace FunModel.C05
open FunModel.Conc FunModel.ConcSubj FunModel.Queue

/-- `tracker_inv` (step): `length ≤ hardLimit ∧ 1 ≤ softQuota ≤ hardLimit` is preserved by `add()` and
    `remove()`, which never change the hard limit -/
theorem tracker_inv_step (tr : Tracker) (h : tr.Ok) :
    tr.add.1.Ok ∧ tr.remove.Ok ∧ tr.add.1.hardLimit = tr.hardLimit ∧ tr.remove.hardLimit = tr.hardLimit :=
  ⟨h.add, h.remove, Tracker.hardLimit_add tr, Tracker.hardLimit_remove tr⟩

/-- `tracker_inv` (runs): in every reachable state the tracker invariant holds, the tracker's length is
    the number of linked entries, the hard limit is the configured one, and the queue never holds more
    items than the hard limit -/
theorem tracker_inv {q0 : St} (h0 : InitQ q0) (programs : List (List Op)) {log : List (Ev St Op)} {s : Sys St Op}
    (hr : Reach' subject (initSys q0 programs) log s) :
    s.subj.tracker.Ok ∧ s.subj.tracker.len = (abs s.subj).length ∧
    s.subj.tracker.hardLimit = q0.tracker.hardLimit ∧
    ∀ hl, q0.tracker.hardLimit = some hl → (abs s.subj).length ≤ hl := by
  obtain ⟨hS, hI⟩ := LinInv.run h0 hr
  refine ⟨hS.ok, by rw [abs_length]; exact hS.len, hI.hard, ?_⟩
  intro hl hh
  rw [abs_length, ← hS.len]
  exact Tracker.len_le_hard hS.ok (hI.hard.trans hh)

/-- for `NewQueue(QueueOptions{HardLimit: hard, SoftQuota: soft, BurstCredit: burst})`: `Len() ≤ hard` always -/
theorem len_le_hard_limit (hard soft : Nat) (burst : Float) (h1 : 1 ≤ hard) (h2 : soft ≤ hard)
    (programs : List (List Op)) {log : List (Ev St Op)} {s : Sys St Op}
    (hr : Reach' subject (initSys (mkSoft hard soft burst) programs) log s) :
    s.subj.tracker.len ≤ hard ∧ (abs s.subj).length ≤ hard := by
  obtain ⟨_, e, _, h⟩ := tracker_inv (Or.inr ⟨hard, soft, burst, h1, h2, rfl⟩) programs hr
  exact ⟨by rw [e]; exact h hard rfl, h hard rfl⟩

theorem run_segments {q0 : St} (h0 : InitQ q0) (programs : List (List Op)) {log : List (Ev St Op)} {s : Sys St Op}
    (hr : Reach' subject (initSys q0 programs) log s) :
    SInv s.subj ∧ ∀ t pc op first c pre out, Ev.seg t pc op first c pre out ∈ log → SInv pre ∧ IsSeg pre t op first c out := by
  obtain ⟨h1, h2⟩ := Queue.run_segments h0 hr
  exact ⟨h1, fun t pc op first c pre out hm => h2 _ hm⟩

/-- `add_decision`: `Add(v)` returns "closed" iff the queue is closed; on an open queue "full" iff the
    length is at the hard limit (then it is also ≥ the soft quota), "nocredit" iff the length is at or above
    the soft quota, below the hard limit, and the burst credit is `< 1`; otherwise "ok". On "ok" exactly `v`
    is appended at the back and the queue stays open; any other result leaves the whole state untouched. -/
theorem add_decision (s : St) (h : SInv s) (t : Nat) (v : Int) :
    ∃ r, (start s t (.add v)).fin = .ret r ∧
      (r = "closed" ↔ s.closed = true) ∧
      (r = "full" ↔ (s.closed = false ∧ s.tracker.atHardLimit = true)) ∧
      (s.tracker.atHardLimit = true → s.tracker.atOrOverQuota = true) ∧
      (r = "nocredit" ↔ (s.closed = false ∧ s.tracker.atOrOverQuota = true ∧ s.tracker.atHardLimit = false ∧
          s.tracker.creditBelowOne = true)) ∧
      (r = "ok" ↔ (s.closed = false ∧ (s.tracker.atOrOverQuota = false ∨
          (s.tracker.atHardLimit = false ∧ s.tracker.creditBelowOne = false)))) ∧
      (r = "ok" → abs (start s t (.add v)).st = abs s ++ [v] ∧ (start s t (.add v)).st.closed = s.closed) ∧
      (r ≠ "ok" → (start s t (.add v)).st = s) := by
  obtain ⟨d1, d2, d3⟩ := Tracker.add_decision s.tracker
  obtain ⟨a0, a1, a2, a3, r2, r3⟩ := doAdd_result s v
  have hover := Tracker.atHard_over h.ok
  refine ⟨(doAdd s v).2.1, rfl, a0, ?_, hover, ?_, ?_, fun hok => ?_, r2⟩
  · rw [a1, d1]
    exact and_congr_right fun _ => ⟨(·.2), fun hh => ⟨hover hh, hh⟩⟩
  · rw [a2, d2]
  · rw [a3, d3]
  · obtain ⟨e1, e2⟩ := r3 hok
    exact ⟨by simp [start, abs, e1], e2⟩

/-- `BlockingAdd` never reports "full"/"nocredit": it adds only below the soft quota, where the tracker
    accepts unconditionally -/
theorem badd_results (s : St) (h : SInv s) {t : Nat} {v : Int} {first c : Bool} {o : SegOut St} {r : String}
    (hs : IsSeg s t (.badd v) first c o) (hr : o.fin = .ret r) : r = "ok" ∨ r = "closed" ∨ r = "ctx" := by
  have hsim := (seg_sim h hs rfl).2
  rw [hr] at hsim
  rcases Spec.add_cases (.inr rfl) hsim with ⟨_, e⟩ | ⟨_, hroom, e⟩ | ⟨_, _, e⟩
  · exact .inr (.inl (congrArg Prod.snd e))
  · have hok := Tracker.add_of_room (hroom rfl)
    refine .inl ((congrArg Prod.snd e).trans ?_)
    simp only [Spec.push]
    cases hadd : (specOf s).tracker.add with
    | mk tr res => rw [hadd] at hok; cases hok; rfl
  · exact .inr (.inr (congrArg Prod.snd e))

/-- `seq_refines_fifo`: with `abs s = s.q.map (·.2)` and `specOf s = ⟨abs s, s.closed, s.tracker⟩`: a
    *returning* segment of a queue operation is exactly the sequential operation `Spec.apply` (same result,
    same successor state); a *parking* segment changes nothing, and the sequential operation cannot complete
    in that state either. The invariant is kept. -/
theorem seq_refines_fifo (s : St) (h : SInv s) {t : Nat} {op : Op} {first c : Bool} {o : SegOut St}
    (hs : IsSeg s t op first c o) (hn : op.isNext = false) :
    SInv o.st ∧
    (∀ r, o.fin = .ret r → Spec.apply (specOf s) op c = some (specOf o.st, r)) ∧
    (∀ cnd, o.fin = .park cnd → Spec.apply (specOf s) op c = none ∧ specOf o.st = specOf s) := by
  obtain ⟨h1, h2⟩ := seg_sim h hs hn
  refine ⟨h1, ?_, ?_⟩
  · intro r hr; rw [hr] at h2; exact h2
  · intro cnd hp; rw [hp] at h2; exact h2

/-- a successful `Add`/`BlockingAdd` appends exactly its item at the back (the queue was open and stays
    open); an unsuccessful one changes nothing -/
theorem add_appends (s : St) (h : SInv s) {t : Nat} {op : Op} {v : Int} {first c : Bool} {o : SegOut St} {r : String}
    (hop : op = .add v ∨ op = .badd v) (hs : IsSeg s t op first c o) (hr : o.fin = .ret r) :
    (r = "ok" → abs o.st = abs s ++ [v] ∧ o.st.closed = false ∧ s.closed = false) ∧
    (r ≠ "ok" → specOf o.st = specOf s) := by
  have hn : op.isNext = false := by rcases hop with rfl | rfl <;> rfl
  exact Spec.add_reading hop ((seq_refines_fifo s h hs hn).2.1 r hr)

/-- `Remove`/`Wait`/`Receive` that find an item return the head and leave the tail (closed flag unchanged,
    tracker told about one removal); on an empty queue a returning segment changes nothing and reports
    "none" (Remove), "closed" (closed queue) or "ctx" (open queue, cancelled context) -/
theorem take_returns_head (s : St) (h : SInv s) {t : Nat} {op : Op} {first c : Bool} {o : SegOut St} {r : String}
    (hop : op = .remove ∨ op = .wait ∨ op = .recv) (hs : IsSeg s t op first c o) (hr : o.fin = .ret r) :
    (∀ v rest, abs s = v :: rest → r = toString v ∧ abs o.st = rest ∧ o.st.closed = s.closed ∧
        o.st.tracker = s.tracker.remove) ∧
    (abs s = [] → specOf o.st = specOf s ∧
      ((op = .remove ∧ r = "none") ∨ (op ≠ .remove ∧ s.closed = true ∧ r = "closed") ∨
       (op ≠ .remove ∧ s.closed = false ∧ c = true ∧ r = "ctx"))) := by
  have hn : op.isNext = false := by rcases hop with rfl | rfl | rfl <;> rfl
  exact Spec.take_reading hop ((seq_refines_fifo s h hs hn).2.1 r hr)

/-- a non-empty queue never makes `Remove`/`Wait`/`Receive` park or fail: they return the head at once -/
theorem take_nonempty_returns (s : St) (h : SInv s) {t : Nat} {op : Op} {first c : Bool} {o : SegOut St}
    (hop : op = .remove ∨ op = .wait ∨ op = .recv) (hs : IsSeg s t op first c o) {v : Int} {rest : List Int}
    (hne : abs s = v :: rest) : o.fin = .ret (toString v) :=
  (seg_returns h hs (Spec.apply_take_cons hop hne)).1

/-- `Len` returns exactly the number of queued items and changes nothing -/
theorem len_exact (s : St) (h : SInv s) {t : Nat} {first c : Bool} {o : SegOut St} (hs : IsSeg s t .len first c o) :
    o.fin = .ret (toString (abs s).length) ∧ specOf o.st = specOf s :=
  seg_returns h hs rfl

/-- `Close` changes no items (and not the tracker); it sets the closed flag -/
theorem close_keeps_items (s : St) (h : SInv s) {t : Nat} {first c : Bool} {o : SegOut St} (hs : IsSeg s t .close first c o) :
    o.fin = .ret "ok" ∧ abs o.st = abs s ∧ o.st.tracker = s.tracker ∧ o.st.closed = true := by
  obtain ⟨e1, e2⟩ := seg_returns h hs (p := ({ specOf s with closed := true }, "ok")) rfl
  exact ⟨e1, congrArg (·.items) e2, congrArg (·.tracker) e2, congrArg (·.closed) e2⟩

/-- `ctx_error_no_effect`: a segment that returns a context error saw a cancelled context and left items,
    closed flag and tracker exactly as they were -/
theorem ctx_error_no_effect (s : St) (h : SInv s) {t : Nat} {op : Op} {first c : Bool} {o : SegOut St}
    (hs : IsSeg s t op first c o) (hn : op.isNext = false) (hr : o.fin = .ret "ctx") :
    specOf o.st = specOf s ∧ c = true ∧ first = false := by
  obtain ⟨e1, e2⟩ := Spec.ctx_reading ((seq_refines_fifo s h hs hn).2.1 _ hr)
  exact ⟨e1, e2, hs.recheck e2⟩

/-- a segment that parks left items, closed flag and tracker exactly as they were: a pending operation has
    no effect -/
theorem park_no_effect (s : St) (h : SInv s) {t : Nat} {op : Op} {first c : Bool} {o : SegOut St}
    (hs : IsSeg s t op first c o) {cnd : Nat} (hp : o.fin = .park cnd) : specOf o.st = specOf s := by
  by_cases hn : op.isNext = true
  · obtain ⟨k, rfl⟩ := Op.eq_next_of_isNext hn
    exact hs.next_specOf
  · exact ((seq_refines_fifo s h hs (by simpa using hn)).2.2 cnd hp).2

/-- iterator calls never change items, closed flag or tracker (they are not queue operations) -/
theorem next_no_effect (s : St) {t k : Nat} {first c : Bool} {o : SegOut St} (hs : IsSeg s t (.next k) first c o) :
    specOf o.st = specOf s :=
  hs.next_specOf

/-- `closed_semantics` (adds): on a closed queue every `Add`/`BlockingAdd` segment returns "closed" and
    changes nothing -/
theorem closed_add_fails (s : St) (h : SInv s) (hc : s.closed = true) {t : Nat} {op : Op} {v : Int} {first c : Bool}
    {o : SegOut St} (hop : op = .add v ∨ op = .badd v) (hs : IsSeg s t op first c o) :
    o.fin = .ret "closed" ∧ specOf o.st = specOf s := by
  have hcl : (specOf s).closed = true := hc
  refine seg_returns h hs (p := (specOf s, "closed")) ?_
  rcases hop with rfl | rfl <;> simp [Spec.apply, hcl]

/-- `closed_semantics` (drain): on a closed queue `Remove`/`Wait`/`Receive` still return the remaining items
    oldest first; on a closed empty queue `Wait`/`Receive` return "closed" without parking; the queue
    stays closed -/
theorem closed_drain (s : St) (h : SInv s) (hc : s.closed = true) {t : Nat} {op : Op} {first c : Bool}
    {o : SegOut St} (hop : op = .remove ∨ op = .wait ∨ op = .recv) (hs : IsSeg s t op first c o) :
    (∀ v rest, abs s = v :: rest → o.fin = .ret (toString v) ∧ abs o.st = rest ∧ o.st.closed = true) ∧
    (abs s = [] → op ≠ .remove → o.fin = .ret "closed" ∧ specOf o.st = specOf s) := by
  constructor
  · intro v rest hne
    obtain ⟨e1, e2⟩ := seg_returns h hs (Spec.apply_take_cons hop hne)
    exact ⟨e1, congrArg (·.items) e2, (congrArg (·.closed) e2).trans hc⟩
  · intro hem hnr
    have hi : (specOf s).items = [] := hem
    have hcl : (specOf s).closed = true := hc
    refine seg_returns h hs (p := (specOf s, "closed")) ?_
    rcases hop with rfl | rfl | rfl <;> simp [Spec.apply, hi, hcl] at hnr ⊢

/-- no segment of any operation reopens the queue -/
theorem closed_stable (s : St) (h : SInv s) (hc : s.closed = true) {t : Nat} {op : Op} {first c : Bool} {o : SegOut St}
    (hs : IsSeg s t op first c o) : o.st.closed = true := by
  have hsp := seg_spec h 0 hs
  cases hl : linOf (.seg t 0 op first c s o) with
  | none => rw [hl] at hsp; exact (congrArg (·.closed) hsp).trans hc
  | some p => rw [hl] at hsp; exact Spec.apply_closed hsp hc

/-- `linearizable`: take the completed queue operations of a run in the order of their *returning* segments
    (`history log`, each with the context flag its returning segment saw). Replaying this sequence on the
    sequential specification succeeds (no operation would block), yields exactly the results the run returned
    (`results log`), and ends in the abstract state of the run's final state. -/
theorem linearizable {q0 : St} (h0 : InitQ q0) (programs : List (List Op)) {log : List (Ev St Op)} {s : Sys St Op}
    (hr : Reach' subject (initSys q0 programs) log s) :
    Spec.replay (specOf q0) (history log) = some (specOf s.subj, results log) :=
  (LinInv.run h0 hr).2.lin

/-- each thread's returned operations are exactly the first `pc` operations of its program, in program
    order, each once; every segment in the log ran the operation the program has at that program counter -/
theorem lin_program_order {q0 : St} (programs : List (List Op)) {log : List (Ev St Op)} {s : Sys St Op}
    (hr : Reach' subject (initSys q0 programs) log s) :
    s.ths.length = programs.length ∧
    (∀ t th, s.ths[t]? = some th → programs[t]? = some th.ops ∧
      retOps log t = th.ops.take th.pc ∧ retPcs log t = List.range th.pc) ∧
    (∀ t pc op first c pre out, Ev.seg t pc op first c pre out ∈ log → ∃ p, programs[t]? = some p ∧ p[pc]? = some op) := by
  have hI := hr.rinv
  exact ⟨hI.len, fun t th h => ⟨hI.ops t th h, hI.rops t th h, hI.rpcs t th h⟩, hI.segs⟩

/-- the linearization point lies within the operation's interval. Take any segment in the log of a run
    (in particular a returning one: a linearization point) of operation instance (thread `t`, program counter
    `pc`). (1) It is the invocation segment, or the invocation segment of the same instance precedes it in
    the log. (2) If it is the invocation segment, no segment of thread `t` at the same or a later program
    counter precedes it — an instance does nothing before its invocation. -/
theorem lin_point_within_operation {q0 : St} (programs : List (List Op)) {s : Sys St Op} {l1 l2 : List (Ev St Op)}
    {t pc : Nat} {op : Op} {first c : Bool} {pre : St} {out : SegOut St}
    (hr : Reach' subject (initSys q0 programs) (l1 ++ Ev.seg t pc op first c pre out :: l2) s) :
    (first = true ∨ ∃ c' pre' out', Ev.seg t pc op true c' pre' out' ∈ l1) ∧
    (first = true → ∀ pc' op' f' c' pre' out', Ev.seg t pc' op' f' c' pre' out' ∈ l1 → pc' < pc) := by
  refine ⟨hr.invocation_before, ?_⟩
  intro hf; subst hf
  exact hr.invocation_first

/-- a context error is returned only after the operation's context was cancelled: a `cancel` action for the
    thread lies in the log between the invocation of that very operation and the segment returning "ctx"
    (and, by `ctx_error_no_effect`, the operation changed nothing) -/
theorem ctx_only_after_cancel {q0 : St} (h0 : InitQ q0) (programs : List (List Op)) {s : Sys St Op}
    {l1 l2 : List (Ev St Op)} {t pc : Nat} {op : Op} {first c : Bool} {pre : St} {out : SegOut St}
    (hr : Reach' subject (initSys q0 programs) (l1 ++ Ev.seg t pc op first c pre out :: l2) s)
    (hn : op.isNext = false) (hf : out.fin = .ret "ctx") :
    specOf out.st = specOf pre ∧ first = false ∧
    ∃ l1a l1b, l1 = l1a ++ [Ev.env (.cancel t)] ++ l1b ∧ ∀ ev ∈ l1b, ¬ ev.isStartOf t := by
  obtain ⟨hS, hseg⟩ := (run_segments h0 programs hr).2 t pc op first c pre out (by simp)
  obtain ⟨e1, e2, _⟩ := ctx_error_no_effect pre hS hseg hn hf
  subst e2
  exact ⟨e1, hr.cancel_before⟩

/-- every case the driver executes (`runCase`: the choice list, then the fixed drain policy) is one of the
    runs the theorems quantify over -/
theorem driver_runs_covered (q0 : St) (programs : List (List Op)) (choices : List Nat) :
    ∃ log, Reach' subject (initSys q0 programs) log (runCaseSys subject q0 programs choices) :=
  runCase_reach subject q0 programs choices

/-- valid configurations exist (unlimited, and hard limit 3 / soft quota 1 / any burst) -/
example : InitQ mkUnlimited ∧ ∀ b, InitQ (mkSoft 3 1 b) :=
  ⟨Or.inl rfl, fun b => Or.inr ⟨3, 1, b, by decide, by decide, rfl⟩⟩

/-- a state at its hard limit satisfying `SInv` (for `add_decision`: the answer is "full", nothing changes) -/
example : ∃ s : St, SInv s ∧ s.closed = false ∧ s.tracker.atHardLimit = true ∧ abs s = [5, 6] :=
  ⟨{ tracker := .soft 1 2 2 0.5, q := [(1, 5), (2, 6)], nextId := 3 }, ⟨by simp [Tracker.Ok], rfl⟩, rfl, rfl, rfl⟩

/-- a state above its quota but below the hard limit (the answer depends on `credit < 1` only) -/
example : ∃ s : St, SInv s ∧ s.closed = false ∧ s.tracker.atHardLimit = false ∧ s.tracker.atOrOverQuota = true :=
  ⟨{ tracker := .soft 1 3 2 0.5, q := [(1, 5), (2, 6)], nextId := 3 }, ⟨by simp [Tracker.Ok], rfl⟩, rfl, rfl, rfl⟩

/-- `IsSeg` is satisfiable for invocations and for re-checks with a cancelled context -/
example (s : St) : IsSeg s 0 (.add 7) true false (start s 0 (.add 7)) ∧ IsSeg s 1 .wait false true (resume s 1 .wait true) :=
  ⟨⟨rfl, fun _ => rfl, fun h => (by cases h)⟩, ⟨rfl, fun h => (by cases h), fun _ => rfl⟩⟩

/-- a concrete run on the unlimited queue: thread 1's `Wait` parks on the empty queue, thread 0 adds 5
    (waking it) and 6, thread 1 re-checks and returns 5, thread 2's `Wait` gets 6, is invoked again and
    parks, is cancelled, its helper fires, it re-checks and returns "ctx". -/
example : ∃ log s, Reach' subject (initSys mkUnlimited [[.add 5, .add 6, .len], [.wait], [.wait, .wait]]) log s ∧
    history log = [(.add 5, false), (.add 6, false), (.wait, false), (.wait, false), (.wait, true), (.len, false)] ∧
    results log = ["ok", "ok", "5", "6", "ctx", "0"] ∧ abs s.subj = [] := by
  refine ⟨_, _, runActs_reach (acts := [.start 1, .start 0, .start 0, .resume 1, .start 2, .start 2, .cancel 2, .fire 2,
    .resume 2, .start 0]) rfl, ?_, ?_, ?_⟩ <;> rfl

/-- a bounded queue (hard limit 1): the second add is refused ("full"), the second `Remove` finds
    nothing -/
example (b : Float) : ∃ log s, Reach' subject (initSys (mkSoft 1 1 b) [[.add 5, .add 6], [.remove, .remove]]) log s ∧
    results log = ["ok", "full", "5", "none"] ∧ abs s.subj = [] := by
  obtain ⟨cr, hcr⟩ : ∃ cr, mkSoft 1 1 b = { tracker := .soft 1 1 0 cr } := ⟨_, rfl⟩
  rw [hcr]
  -- the state after each of the four actions, given in full: evaluation shares no work on terms with a
  -- variable (the credit), so a run is cheap to check only step by step
  let st (tr : Tracker) (q : List (Nat × Int)) (pc0 pc1 : Nat) : Sys St Op :=
    { subj := { tracker := tr, q := q, vals := [(1, 5)], nextId := 2 },
      ths := [{ ops := [.add 5, .add 6], pc := pc0, st := if pc0 = 2 then .done else .idle },
              { ops := [.remove, .remove], pc := pc1, st := if pc1 = 2 then .done else .idle }] }
  have r1 := runActs_reach (sub := subject) (acts := [.start 0])
    (s := initSys { tracker := .soft 1 1 0 cr } [[.add 5, .add 6], [.remove, .remove]])
    (s' := st (.soft 1 1 1 cr) [(1, 5)] 1 0) rfl
  have r2 := runActs_reach (sub := subject) (acts := [.start 0]) (s := st (.soft 1 1 1 cr) [(1, 5)] 1 0)
    (s' := st (.soft 1 1 1 cr) [(1, 5)] 2 0) rfl
  have r3 := runActs_reach (sub := subject) (acts := [.start 1]) (s := st (.soft 1 1 1 cr) [(1, 5)] 2 0)
    (s' := st (Tracker.soft 1 1 1 cr).remove [] 2 1) rfl
  have r4 := runActs_reach (sub := subject) (acts := [.start 1]) (s := st (Tracker.soft 1 1 1 cr).remove [] 2 1)
    (s' := st (Tracker.soft 1 1 1 cr).remove [] 2 2) rfl
  exact ⟨_, _, ((r1.trans r2).trans r3).trans r4, rfl, rfl⟩

end FunModel.C05
