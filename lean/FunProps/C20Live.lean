import FunProofs.QueueLive

/-! C20 (liveness part, Queue) — the non-destructive iterator of `pubsub.Queue` (`Queue.Producer`,
    operation `next k` of the model; `St.succ s k` = the entry linked after iterator `k`'s cursor
    once the cursor has been re-based the way the loop does it (`St.adj`: a cursor whose entry was
    removed while it was the newest restarts from the sentinel)). Same quantification as C07:
    every admissible initial queue, every programs list, every schedule.

    No well-formedness assumption on the programs is needed: an iterator id may be shared by
    several threads (in Go: one `Producer` closure called from several goroutines; its cursor is
    only touched under `q.mu`) — a `next k` segment that finds no successor stores the cursor
    re-based, which leaves `succ k` unchanged (`St.adj_idem`), and one that finds a successor only
    runs when nobody is parked in `next k` (by the invariant itself). -/
namespace FunModel.C20Live
open FunModel.Conc FunModel.Queue

/-- `iter_no_stuck`: in every reachable quiescent state no thread is parked in `next k` while the
    cursor of iterator `k` has an unseen successor, or the queue is closed, or the thread's context
    is cancelled -/
theorem iter_no_stuck {init : St} (hinit : QInit init) (programs : List (List Op)) {s : Sys St Op}
    (hr : Reach subject (initSys init programs) s) (q : Quiescent s) {t : Nat} {th : Th Op} {c k : Nat}
    (hth : s.ths[t]? = some th) (hp : th.st = .parked c) (hop : th.ops[th.pc]? = some (.next k)) :
    s.subj.succ k = none ∧ s.subj.closed = false ∧ th.cancelled = false := by
  obtain ⟨hcl, _, _, op, hop', _, _, hsucc⟩ := parked_facts hinit hr hth hp
  rw [hop] at hop'; cases hop'
  exact ⟨hsucc k rfl, hcl, (no_stuck hinit hr q hth hp).2.1⟩

/-- the first two conjuncts hold in every reachable state, quiescent or not: every action that links
    a new entry, moves `back`, or closes the queue broadcasts `nupdates` -/
theorem iter_parked_invariant {init : St} (hinit : QInit init) (programs : List (List Op)) {s : Sys St Op}
    (hr : Reach subject (initSys init programs) s) {t : Nat} {th : Th Op} {c k : Nat}
    (hth : s.ths[t]? = some th) (hp : th.st = .parked c) (hop : th.ops[th.pc]? = some (.next k)) :
    c = 1 ∧ s.subj.succ k = none ∧ s.subj.closed = false ∧ (th.cancelled = true → Pending 1 th.helpers) := by
  obtain ⟨hcl, _, hpend, op, hop', hc, _, hsucc⟩ := parked_facts hinit hr hth hp
  rw [hop] at hop'; cases hop'
  cases condOf_next hc
  exact ⟨rfl, hsucc k rfl, hcl, hpend⟩

theorem closed_persists {init : St} (hinit : QInit init) (programs : List (List Op)) {s s2 : Sys St Op}
    (hr : Reach subject (initSys init programs) s) (hr2 : Reach subject s s2) (hc : s.subj.closed = true) :
    s2.subj.closed = true :=
  Queue.closed_persists (reach_inv hinit hr).wf (reach_inv hinit hr).lenq hr2 hc

/-- `iter_eof_after_close`: after `close` (in any state reachable from a closed one), a `next k` whose
    cursor has no unseen successor returns "eof" in that very segment — at its start or when it is
    resumed — and never parks -/
theorem iter_eof_after_close {init : St} (hinit : QInit init) (programs : List (List Op)) {s0 s s' : Sys St Op}
    {a : Act} {obs : String} {t k : Nat} {th th' : Th Op}
    (hr0 : Reach subject (initSys init programs) s0) (hclosed : s0.subj.closed = true) (hr : Reach subject s0 s)
    (hen : a ∈ enabled s true) (hs : step subject s a = some (s', obs)) (ha : a = .start t ∨ a = .resume t)
    (hth : s.ths[t]? = some th) (hop : th.ops[th.pc]? = some (.next k)) (hsucc : s.subj.succ k = none)
    (hth' : s'.ths[t]? = some th') :
    (∃ th0 o, IsSeg subject s t a th0 (.next k) o ∧ o.fin = .ret "eof") ∧
      th'.pc = th.pc + 1 ∧ (∀ c, th'.st ≠ .parked c) :=
  eof_after_close hinit (hr0.trans hr) hen hs ha hth hop (closed_persists hinit programs hr0 hr hclosed) hsucc hth'

/-- and a `next k` with an unseen successor returns it at once (an instance of C07's
    `wait_when_ready_returns`) -/
theorem iter_successor_returns {init : St} (hinit : QInit init) (programs : List (List Op)) {s s' : Sys St Op}
    {a : Act} {obs : String} {t k : Nat} {th th' : Th Op} (hr : Reach subject (initSys init programs) s)
    (hen : a ∈ enabled s true) (hs : step subject s a = some (s', obs)) (ha : a = .start t ∨ a = .resume t)
    (hth : s.ths[t]? = some th) (hop : th.ops[th.pc]? = some (.next k)) (hth' : s'.ths[t]? = some th')
    (hsucc : (s.subj.succ k).isSome = true) : th'.pc = th.pc + 1 ∧ ∀ c, th'.st ≠ .parked c :=
  (ready_iff_returns hinit hr hen hs ha hth hop hth').1 (Or.inl hsucc)

/-- an iterator parked at the end of a one-item queue: reachable, quiescent, parked in `next 0` -/
example : ∃ s, Reach subject (initSys mkUnlimited [[.add 5], [.next 0, .next 0]]) s ∧ Quiescent s ∧
    (∃ th, s.ths[1]? = some th ∧ th.st = .parked 1 ∧ th.ops[th.pc]? = some (.next 0)) ∧ s.subj.succ 0 = none := by
  refine ⟨_, reach_of_runActs [.start 0, .start 1, .start 1] (by rfl) .init, by decide, ⟨_, rfl, rfl, rfl⟩, rfl⟩

/-- … an add wakes it and it has a successor to return -/
example : ∃ s, Reach subject (initSys mkUnlimited [[.add 5, .add 6], [.next 0, .next 0]]) s ∧
    .resume 1 ∈ enabled s true ∧ (s.subj.succ 0).isSome = true := by
  refine ⟨_, reach_of_runActs [.start 0, .start 1, .start 1, .start 0] (by rfl) .init, by decide, rfl⟩

/-- a closed queue whose iterator has seen everything: the hypotheses of `iter_eof_after_close` hold -/
example : ∃ s, Reach subject (initSys mkUnlimited [[.add 5, .close], [.next 0, .next 0]]) s ∧
    s.subj.closed = true ∧ s.subj.succ 0 = none ∧ .start 1 ∈ enabled s true := by
  refine ⟨_, reach_of_runActs [.start 0, .start 1, .start 0] (by rfl) .init, rfl, rfl, by decide⟩

end FunModel.C20Live
