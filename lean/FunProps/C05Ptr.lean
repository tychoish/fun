import FunProofs.QueuePtr

/-! C05 (and the Queue half of C20) — pointer-level obligations. The link updates of `Queue.doAdd` and
    `Queue.popFront` are regenerated from pubsub/queue.go on every run (lean/FunGen/QueuePtr.lean, heap
    of FunModel/QueuePtr.lean). These theorems say that the list operations of the model the C05/C20
    theorems are about (FunModel/Queue.lean: `doAdd`, `popFront` on `q`, `links`, `vals`, `nextId`) are
    the abstraction of that generated pointer code, for queues of any size:

    * `R h s` (FunProofs/QueuePtr.lean): `front` is the sentinel 0; following `link` from it visits
      exactly the entry identities of `s.q`, without repetition, and ends in a nil link; `back` is the
      last of them (the sentinel when `s.q = []`); every `link` field — of linked *and* of removed
      entries — equals the model's `linkOf`; items equal the model's.
    * `abs h`: walk from `front.link`; `Inv h := ∃ s, R h s`.

    Guards that do not concern the links (`q.closed`, the tracker's verdict) are Bool parameters of the
    generated functions; the tracker itself is tied by `FunProps/C05Gen.lean`. -/
namespace FunModel.C05Ptr
open FunModel.QueuePtr FunModel.Queue FunModel.Conc FunModel.ConcSubj FunProofs.QueuePtr

/-- the guards the generator left abstract are the ones the model decides `doAdd` by, in this order;
    `popFront` has none (it is only called on a non-empty queue) -/
theorem gen_guards :
    FunGen.QueuePtr.doAdd_guards = ["q.closed", "err := q.tracker.add(); err != nil"] ∧
    FunGen.QueuePtr.popFront_guards = [] := ⟨rfl, rfl⟩

/-- `makeQueue`'s heap represents every initial model state -/
theorem init_represented {q0 : St} (h0 : InitQ q0) : R Heap.init q0 := by
  obtain ⟨e1, _, e3, _, e5, _, _⟩ := h0.empty
  exact R.init e1 e3 e5

/-- generated `doAdd`, every branch, against the model's `doAdd`: with the guards instantiated by the
    model's conditions the pointer code runs without a nil dereference, reaches the `return` the model
    predicts (`k = 2`, the final `return nil`, exactly when the model answers "ok"), and the heap it
    leaves represents the model's new state (on a refusal both are unchanged) -/
theorem doAdd_refines {h : Heap} {s : St} (hr : R h s) (v : Int) :
    ∃ h' k, FunGen.QueuePtr.doAdd h s.closed (s.tracker.add.2 != .ok) v = some (h', k, none) ∧
      R h' (doAdd s v).1 ∧ (k = 2 ↔ (doAdd s v).2.1 = "ok") := by
  have hd := doAdd_spec s v
  generalize FunModel.Queue.doAdd s v = x at hd ⊢
  cases hd with
  | closed hc => rw [hc]; exact ⟨h, 0, (gen_doAdd_refused h _ v).1, hr, by simp⟩
  | full tr hc ha | noCredit tr hc ha => rw [hc, ha]; exact ⟨h, 1, (gen_doAdd_refused h false v).2, hr, by simp⟩
  | ok tr hc ha => rw [hc, ha]; exact ⟨_, 2, gen_doAdd_ok hr.back v, hr.added v rfl rfl rfl rfl, by simp⟩

/-- generated `popFront` against the model's, on a non-empty queue: it returns the item the model returns,
    the new heap represents the model's new state (head removed), and `back` has been reset to the
    sentinel `front` exactly when the queue became empty -/
theorem popFront_refines {h : Heap} {s : St} (hr : R h s) (hne : s.q ≠ []) :
    ∃ h', FunGen.QueuePtr.popFront h = some (h', 0, some (popFront s).2.1) ∧ R h' (popFront s).1 ∧
      (h'.back = h'.front ↔ (popFront s).1.q = []) := by
  cases hq : s.q with
  | nil => exact absurd hq hne
  | cons p rest =>
    obtain ⟨hg, hr', -, hx, -⟩ := popFront_rep hr (e := p.1) (x := p.2) hq
    exact ⟨_, by rw [hg, hx], hr', hr'.back_front_iff⟩

theorem abs_is_model {h : Heap} {s : St} (hr : R h s) : abs h = s.q ∧ (h.back = h.front ↔ s.q = []) :=
  ⟨hr.abs_eq, hr.back_front_iff⟩

/-- `abs (doAdd h) = abs h ++ [new]`: on heaps satisfying the representation invariant the generated
    `doAdd` (guards off) appends the freshly allocated entry and keeps the invariant -/
theorem abs_doAdd {h : Heap} (hi : Inv h) (v : Int) :
    ∃ h', FunGen.QueuePtr.doAdd h false false v = some (h', 2, none) ∧ Inv h' ∧ abs h' = abs h ++ [(h.nn, v)] := by
  obtain ⟨s, hr⟩ := hi
  have hr' : R (addResult h s.back v) (s.added s.tracker v) := hr.added v rfl rfl rfl rfl
  refine ⟨_, gen_doAdd_ok hr.back v, ⟨_, hr'⟩, ?_⟩
  rw [hr'.abs_eq, hr.abs_eq, hr.nn]; rfl

/-- `abs (popFront h) = tail (abs h)`: the generated `popFront` returns the head's item, removes the head,
    keeps the invariant, resets `back` to the sentinel iff nothing is left, and leaves the removed entry's
    own `link` as it was (the iterator of C20 may still stand on it) -/
theorem abs_popFront {h : Heap} (hi : Inv h) {e : Nat} {x : Int} {rest : List (Nat × Int)} (ha : abs h = (e, x) :: rest) :
    ∃ h', FunGen.QueuePtr.popFront h = some (h', 0, some x) ∧ Inv h' ∧ abs h' = rest ∧
      (h'.back = h'.front ↔ rest = []) ∧ h'.link e = h.link e := hi.popFront ha

/-- on an empty queue `popFront` dereferences nil: the guard `tracker.len() == 0` of its callers is needed -/
theorem popFront_empty_panics {h : Heap} (hi : Inv h) (ha : abs h = []) : FunGen.QueuePtr.popFront h = none := by
  obtain ⟨s, hr⟩ := hi
  rw [hr.abs_eq] at ha
  have hp := hr.path
  simp only [ids, ha, List.map_nil, path_nil] at hp
  exact gen_popFront_empty hr.front hp

/-- one segment of any queue operation, in any state satisfying `SInv`, is matched by at most one call of a
    generated function, after which the heap represents the new model state -/
theorem segment_refines {h : Heap} {s : St} (hS : SInv s) (hr : R h s) {t : Nat} {op : Op} {first c : Bool}
    {o : SegOut St} (hs : IsSeg s t op first c o) : ∃ h', PStep h h' ∧ R h' o.st := hr.seg hS hs

/-- every reachable state of the concurrent queue system (any programs, any schedule, any length) is
    represented by a heap obtained from `makeQueue`'s by calls of the generated `doAdd`/`popFront` -/
theorem reachable_represented {q0 : St} (h0 : InitQ q0) {programs : List (List Op)} {log : List (Ev St Op)}
    {s : Sys St Op} (h : Reach' subject (initSys q0 programs) log s) : ∃ hp, PReach hp ∧ R hp s.subj :=
  run_rep h0 h

/-! non-vacuity: a heap with two linked entries and the model state it represents -/
example : ∃ h s, R h s ∧ s.q = [(1, 5), (2, 7)] ∧ s.closed = false ∧ abs h = [(1, 5), (2, 7)] := by
  have r0 : R Heap.init mkUnlimited := init_represented (Or.inl rfl)
  obtain ⟨h1, _, _, r1, _⟩ := doAdd_refines r0 5
  obtain ⟨h2, _, _, r2, _⟩ := doAdd_refines r1 7
  refine ⟨h2, _, r2, ?_, ?_, ?_⟩
  · simp [doAdd, mkUnlimited, Tracker.add]
  · simp [doAdd, mkUnlimited, Tracker.add]
  · rw [r2.abs_eq]; simp [doAdd, mkUnlimited, Tracker.add]

example : Inv Heap.init ∧ abs Heap.init = [] := Inv.init

/-- kernel-checked witness on concrete heaps: add 5, add 7, pop — the popped entry 1 still links to 2 -/
example :
    (do let (h1, _, _) ← FunGen.QueuePtr.doAdd Heap.init false false 5
        let (h2, _, _) ← FunGen.QueuePtr.doAdd h1 false false 7
        let (h3, _, it) ← FunGen.QueuePtr.popFront h2
        pure (it, h3.link 0, h3.link 1, h3.back, h3.front)) = some (some 5, some 2, some 2, some 2, some 0) := by
  decide

end FunModel.C05Ptr
