import FunProofs.DequeWake

/-! C07 (Deque half) — blocking Deque operations never miss a wake-up.

    Model: `FunModel/Deque.lean` on the generic machine `FunModel/Conc.lean`: the three condition
    variables `nfront`(0) / `nback`(1) / `updates`(2), the per-wait helper goroutines (`spawn`,
    gate, `fire` = Lock; Broadcast), explicit cancellation, and the quirk D28 (`cond.Signal()`
    before every `cond.Wait()`) exactly as `element.wait` / `waitPushAfter` have it.

    Because of D28 two goroutines parked on one condition wake each other for ever, so "no internal
    action is enabled" is too strong a notion of quiescence; `QuiescentPP` is: *whatever internal
    actions (resumptions, helper broadcasts) are taken from here on, every enabled one is a
    resumption that parks again without changing the deque*. Plain quiescence implies it
    (`quiescent_is_pp`). The one-step version ("every internal action enabled now re-parks") is NOT
    enough: a `Signal` wakes the longest-parked goroutine, which need not be the one that is ready.
    Proofs: `FunProofs/DequeLive.lean`, `FunProofs/DequeWake.lean`, generic part `FunProofs/Conc.lean`
    (+ `ConcDeque.lean`). Hypothesis `Owned`: each iterator is used by one goroutine. -/
namespace FunModel.C07Deque
open FunModel.Conc FunModel.Deque

theorem owned_of_no_iter (init : St) (programs : List (List Op))
    (h : ∀ p ∈ programs, ∀ d b k, Op.next d b k ∉ p) : Owned (initSys init programs) := by
  intro t u tht thu _ ht _ d b k hm
  obtain ⟨p, hp, rfl⟩ := initThs_get ht
  exact absurd hm (h p (List.mem_of_getElem? hp) d b k)

theorem inv2_new (o : Opts) (st : St) (h : newDeque o = some (some st)) : Inv2 st := by
  obtain ⟨_, hq, _, hs, hc, hn, _⟩ := (newDeque_ok o).2 st h
  exact inv2_of_empty hq hs hc (by rw [hn]; decide)

theorem quiescent_is_pp (s : Sys St Op) (q : Quiescent s) : QuiescentPP subject s := q.pp

/-- **no_stuck_deque**: in every reachable state that is quiescent up to ping-pong, an operation
    that is still blocked (parked on a condition, or woken and about to park again) has a false
    condition: no `WaitFront`/`WaitBack` is blocked while the deque is non-empty, closed, or its
    context cancelled; no `WaitPushFront`/`WaitPushBack` is blocked while there is room
    (`cap() > len()`), the deque is closed, or its context is cancelled. All numbers of consumers
    and producers, all trackers, all schedules, cancellations at any point. -/
theorem no_stuck_deque (init : St) (h2 : Inv2 init) (programs : List (List Op)) (hown : Owned (initSys init programs))
    (s : Sys St Op) (hr : Reach subject (initSys init programs) s) (hq : QuiescentPP subject s)
    (u : Nat) (th : Th Op) (op : Op) (hth : s.ths[u]? = some th)
    (hblocked : th.st = .woken ∨ ∃ c, th.st = .parked c) (hop : th.ops[th.pc]? = some op) :
    (∀ e, op = .wait e → abs s.subj = [] ∧ s.subj.closed = false ∧ th.cancelled = false) ∧
    (∀ e v, op = .wpush e v → s.subj.tracker.hasRoom = false ∧ s.subj.closed = false ∧ th.cancelled = false) := by
  have hp := blocked_pp_parks init h2 programs hown hr hq hth hblocked hop
  constructor
  · intro e he; subst he
    simp only [parks, Bool.and_eq_true, Bool.not_eq_true', List.isEmpty_iff] at hp
    exact ⟨by simp [abs, hp.1.1], hp.1.2, hp.2⟩
  · intro e v he; subst he
    simp only [parks, Bool.and_eq_true, Bool.not_eq_true'] at hp
    exact ⟨hp.1.1, hp.1.2, hp.2⟩

/-- the same at plain quiescence (no resumption and no helper broadcast enabled), where every blocked
    operation is parked -/
theorem no_stuck_deque_quiescent (init : St) (h2 : Inv2 init) (programs : List (List Op))
    (hown : Owned (initSys init programs)) (s : Sys St Op) (hr : Reach subject (initSys init programs) s)
    (hq : Quiescent s) (u : Nat) (th : Th Op) (c : Nat) (op : Op) (hth : s.ths[u]? = some th)
    (hst : th.st = .parked c) (hop : th.ops[th.pc]? = some op) :
    (∀ e, op = .wait e → abs s.subj = [] ∧ s.subj.closed = false ∧ th.cancelled = false) ∧
    (∀ e v, op = .wpush e v → s.subj.tracker.hasRoom = false ∧ s.subj.closed = false ∧ th.cancelled = false) :=
  no_stuck_deque init h2 programs hown s hr hq.pp u th op hth (Or.inr ⟨c, hst⟩) hop

/-- an empty deque of capacity 1; with a `WaitFront` parked on it a quiescent state is reachable
    (hypotheses satisfiable) -/
def exInit : St := { tracker := .hard 1 0 }
theorem exInit_inv2 : Inv2 exInit := inv2_of_empty rfl rfl rfl (by decide)

example : ∃ s, Reach subject (initSys exInit [[.wait .front], [.push .back 7]]) s ∧ Quiescent s ∧
    ∃ th, s.ths[0]? = some th ∧ th.st = .parked 0 ∧ abs s.subj = [] :=
  ⟨_, reach_of_runActs [.start 0] (by rfl) .init, by decide, _, rfl, rfl, rfl⟩

/-- **wait_when_ready_returns**: an operation whose condition holds when it has the lock returns in
    that very segment — the first segment of the call (in particular `WaitFront` on a non-empty
    deque does not block, D1) or a resumption after a wake-up. `WaitFront/WaitBack` are ready when the
    deque is non-empty, closed, or (resumption) their context is cancelled; `WaitPush*` when there
    is room, the deque is closed, or the context is cancelled. On an open non-empty deque `WaitFront`
    returns the front item. -/
theorem wait_when_ready_returns (x : St) (e : End) (v : Int) (k : Bool) :
    ((abs x ≠ [] ∨ x.closed = true) → ∃ r, (startR x (.wait e)).fin = .ret r) ∧
    ((abs x ≠ [] ∨ x.closed = true ∨ k = true) → ∃ r, (resumeR x (.wait e) k).fin = .ret r) ∧
    ((x.tracker.hasRoom = true ∨ x.closed = true) → ∃ r, (startR x (.wpush e v)).fin = .ret r) ∧
    ((x.tracker.hasRoom = true ∨ x.closed = true ∨ k = true) → ∃ r, (resumeR x (.wpush e v) k).fin = .ret r) ∧
    (x.closed = false → ∀ a rest, abs x = a :: rest → (startR x (.wait .front)).fin = .ret (.val a)) := by
  have hne : abs x ≠ [] → waits x (.wait e) = false := by
    intro h; cases hq : x.q with
    | nil => simp [abs, hq] at h
    | cons p r => simp [waits, hq]
  have hroom : x.tracker.hasRoom = true → waits x (.wpush e v) = false := fun h => by simp [waits, h]
  refine ⟨fun h => (ready_returns x _ false).1 (parks_off (h.elim (.inl ∘ hne) (.inr ∘ .inl))),
    fun h => (ready_returns x _ k).2 (parks_off (h.imp_left hne)),
    fun h => (ready_returns x _ false).1 (parks_off (h.elim (.inl ∘ hroom) (.inr ∘ .inl))),
    fun h => (ready_returns x _ k).2 (parks_off (h.imp_left hroom)), ?_⟩
  · intro hc a rest ha
    cases hq : x.q with
    | nil => simp [abs, hq] at ha
    | cons p r =>
      obtain ⟨i, w⟩ := p
      simp only [abs, hq, List.map_cons, List.cons.injEq] at ha
      simp [startR, hc, hq, waitPopLoop, popEnd, ha.1]

example : (startR { exInit with q := [(1, 5)], tracker := .hard 1 1, nextId := 2 } (.wait .front)).fin = .ret (.val 5) :=
  (wait_when_ready_returns _ .front 0 false).2.2.2.2 rfl 5 [] rfl

/-- **signal_before_wait** (the quirk D28, as the code has it): a resumed operation that parks again
    has changed nothing and has signalled exactly the condition it parks on; the first segment of a
    blocking call that parks has started its helper and signalled its condition. -/
theorem signal_before_wait (x : St) (op : Op) (k : Bool) (c : Nat) :
    ((resumeR x op k).fin = .park c → resumeR x op k = { st := x, sigs := [.signal c], fin := .park c } ∧ k = false) ∧
    ((startR x op).fin = .park c → startR x op = { st := x, sigs := [.spawn c, .signal c], fin := .park c }) :=
  ⟨fun h => ⟨(resumeR_park h).1, (parks_blocking (resumeR_park h).2.1).2⟩, fun h => (startR_park h).1⟩

end FunModel.C07Deque
