import FunProofs.DequeLin

/-! C06 — `pubsub.Deque` is a linearizable bounded double-ended queue.

    Model: `FunModel/Deque.lean` (one `startR`/`resumeR` per atomic segment of deque.go, all three
    limit trackers). `abs s : List Int` is the content front first, `absS s` adds the closed flag
    and the capacity rule; `Spec.run` is the sequential deque. `Inv` (tracker length = number of
    linked elements, tracker within its bounds) holds in every reachable state (`cap_respected`).
    Proofs: `FunProofs/Deque.lean`, `FunProofs/DequeSys.lean`, `FunProofs/DequeLin.lean`. -/
namespace FunModel.C06
open FunModel.Conc FunModel.Deque

/-- a full two-item deque used to show that hypotheses are satisfiable -/
def exFull : St := { tracker := .hard 2 2, q := [(1, 10), (2, 20)], vals := [(2, 20), (1, 10)], nextId := 3 }
theorem exFull_inv : Inv exFull := ⟨rfl, by simp [exFull, Tracker.WF]⟩

/-- **deque_refines**: every atomic segment of PushFront/PushBack, ForcePushFront/ForcePushBack,
    PopFront/PopBack, WaitFront/WaitBack, WaitPushFront/WaitPushBack, Len, Close acts on the
    abstraction exactly as the sequential bounded deque: a segment that returns `r` is the whole
    sequential operation (same result, same new contents); a segment that parks corresponds to a
    sequential operation that blocks, and changes nothing. The representation invariant is preserved. -/
theorem deque_refines (s : St) (h : Inv s) (op : Op) (hop : op.isIter = false) :
    SegSpec s op false (startR s op) ∧ Inv (startR s op).st ∧
    ∀ cancelled, op.blocking = true → SegSpec s op cancelled (resumeR s op cancelled) ∧ Inv (resumeR s op cancelled).st :=
  ⟨startR_spec s h op hop, startR_inv s h op,
   fun c hb => ⟨resumeR_spec s op c hop hb, resumeR_inv s h op c⟩⟩

example : SegSpec exFull (.pop .back) false (startR exFull (.pop .back)) ∧ (startR exFull (.pop .back)).fin = .ret (.val 20) :=
  ⟨(deque_refines exFull exFull_inv (.pop .back) rfl).1, rfl⟩

/-- **cap_respected**: in every reachable state of every system (any programs, any schedule,
    cancellations included) over any of the three trackers, what `Len` reports is the number of
    items and never exceeds the capacity (`Capacity`, resp. the hard limit of the queue options). -/
theorem cap_respected (init : St) (hinit : Inv init) (programs : List (List Op)) (s : Sys St Op)
    (hr : Reach subject (initSys init programs) s) :
    (startR s.subj .len).fin = .ret (.num (abs s.subj).length) ∧
    ∀ n, s.subj.tracker.limit = some n → (abs s.subj).length ≤ n := by
  have hinv := reach_inv (initSys_wf init programs) hinit hr
  obtain ⟨h1, h2⟩ := inv_len_le s.subj hinv
  exact ⟨by simp [startR, h1], h2⟩

example : ∃ s, Reach subject (initSys exFull [[.push .front 1], [.pop .back]]) s ∧ (abs s.subj).length = 1 :=
  ⟨_, reach_of_runActs [.start 0, .start 1] (by rfl) .init, rfl⟩

/-- **push_full_noop**: a plain push on an open deque that holds `capacity` (hard limit) items fails
    with `ErrQueueFull` and has no effect; more generally any push that does not return `ok`
    leaves the state untouched. -/
theorem push_full_noop (s : St) (h : Inv s) (d : End) (v : Int) :
    (s.closed = false → s.tracker.limit = some (abs s).length →
      (startR s (.push d v)).fin = .ret .full ∧ (startR s (.push d v)).st = s) ∧
    (∀ r, (startR s (.push d v)).fin = .ret r → r ≠ .ok → (startR s (.push d v)).st = s) := by
  constructor
  · intro hc hl
    rw [abs_length] at hl
    simp [startR, push_full s h hc hl d v]
  · intro r hr hne
    exact addEnd_fail_eq s d v (fun h => hne ((FinR.ret.inj hr).symm.trans h))

example : (startR exFull (.push .front 5)).fin = .ret .full :=
  ((push_full_noop exFull exFull_inv .front 5).1 rfl rfl).1

/-- **force_push_evicts_opposite_end_once**: on an open deque that is full (`cap() == len()`) a
    Force push returns `ok`, the new contents are the old ones minus exactly one item — the one at
    the opposite end — plus the new item at the requested end (so the length is unchanged); on a
    deque that is not full it is a plain push. -/
theorem force_push_evicts_opposite_end_once (s : St) (h : Inv s) (hc : s.closed = false) (d : End) (v : Int) :
    (s.tracker.atCap = true →
      (startR s (.fpush d v)).fin = .ret .ok ∧
      abs (startR s (.fpush d v)).st = (match d with | .front => v :: (abs s).dropLast | .back => (abs s).tail ++ [v]) ∧
      (abs (startR s (.fpush d v)).st).length = (abs s).length ∧ abs s ≠ []) ∧
    (s.tracker.atCap = false →
      (startR s (.fpush d v)).fin = (startR s (.push d v)).fin ∧ (startR s (.fpush d v)).st = (startR s (.push d v)).st) := by
  constructor
  · intro hcap
    have := forcePush_full s h hc hcap d v
    exact ⟨congrArg FinR.ret this.1, this.2⟩
  · intro hcap
    simp [startR, forcePush_notfull s hcap d v]

example : abs (startR exFull (.fpush .front 5)).st = [5, 10] :=
  ((force_push_evicts_opposite_end_once exFull exFull_inv rfl .front 5).1 rfl).2.1

/-- **closed_semantics**: on a closed deque every push (plain, Force, Wait) fails with
    `ErrQueueClosed`, every pop reports not-ok (`PopFront/PopBack` → `false`, `WaitFront/WaitBack`
    → `ErrQueueClosed`) — also when items are still in it —, nothing changes, and no operation
    ever re-opens it. Holds for the first segment of an operation and for a blocked operation that
    resumes after the Close. -/
theorem closed_semantics (s : St) (hc : s.closed = true) (d : End) (v : Int) (k : Bool) :
    ((startR s (.push d v)).fin = .ret .closed ∧ (startR s (.push d v)).st = s) ∧
    ((startR s (.fpush d v)).fin = .ret .closed ∧ (startR s (.fpush d v)).st = s) ∧
    ((startR s (.wpush d v)).fin = .ret .closed ∧ (startR s (.wpush d v)).st = s) ∧
    ((resumeR s (.wpush d v) k).fin = .ret .closed ∧ (resumeR s (.wpush d v) k).st = s) ∧
    ((startR s (.pop d)).fin = .ret .none ∧ (startR s (.pop d)).st = s) ∧
    ((startR s (.wait d)).fin = .ret .closed ∧ (startR s (.wait d)).st = s) ∧
    ((resumeR s (.wait d) k).fin = .ret .closed ∧ (resumeR s (.wait d) k).st = s) ∧
    (∀ op, (startR s op).st.closed = true ∧ (resumeR s op k).st.closed = true) :=
  ⟨(closed_start s hc (.push d v)).2, (closed_start s hc (.fpush d v)).2, (closed_start s hc (.wpush d v)).2,
   (closed_resume s hc (.wpush d v) k).2, (closed_start s hc (.pop d)).2, (closed_start s hc (.wait d)).2,
   (closed_resume s hc (.wait d) k).2, fun op => ⟨(closed_start s hc op).1, (closed_resume s hc op k).1⟩⟩

example : (startR { exFull with closed := true } (.pop .front)).fin = .ret .none :=
  (closed_semantics { exFull with closed := true } rfl .front 0 false).2.2.2.2.1.1

/-- **ctx_error_no_effect**: the first segment of an operation never returns a context error (the
    context is live); a resumed operation that returns the context error was cancelled and left the
    deque exactly as it was. -/
theorem ctx_error_no_effect (s : St) (op : Op) :
    (startR s op).fin ≠ .ret .ctx ∧
    ∀ k, (resumeR s op k).fin = .ret .ctx → (resumeR s op k).st = s ∧ k = true :=
  ⟨ctx_start s op, fun k h => ctx_resume s op k h⟩

example : (resumeR { exFull with q := [], tracker := .hard 2 0 } (.wait .front) true).fin = .ret .ctx := rfl

/-- **linearizable**: for every system over a deque that satisfies the invariant, every schedule
    (`ReachL` = reachability with the log of executed segments, cancellations and helper firings
    interleaved): replaying the operations on the sequential deque *in the order of their
    returning segments* — each with the result it really returned — is accepted by the sequential
    specification and ends in exactly the abstract state of the system. The linearization point
    of an operation is its returning segment, which lies between its invocation (the `start`
    action) and its response. -/
theorem linearizable (init : St) (hinit : Inv init) (programs : List (List Op)) (evs : List LEv) (s : Sys St Op)
    (h : ReachL (initSys init programs) evs s) :
    (absS init).replay evs = some (absS s.subj) :=
  replay_reachL (initSys_wf init programs) hinit (initSys_waitingIn _ init programs) h

/-- **linearization_point_in_interval** (real-time order): in the log of any schedule each thread's
    segments come in blocks that begin with a first segment (the invocation) and end with the segment
    that returns (the response); `pendingAfter`: the thread's last logged segment parked. So the
    linearization point of `linearizable` lies inside the operation's invocation–response interval,
    and, the log being in execution order, an operation that returned before another was invoked is
    linearized before it. -/
theorem linearization_point_in_interval (init : St) (programs : List (List Op)) (evs : List LEv) (s : Sys St Op)
    (h : ReachL (initSys init programs) evs s) :
    Bracketed evs ∧ ∀ t th, s.ths[t]? = some th → (pendingAfter evs t = true ↔ Blocked th) :=
  bracketed_reachL h

theorem linearizable_reach (init : St) (hinit : Inv init) (programs : List (List Op)) (s : Sys St Op)
    (hr : Reach subject (initSys init programs) s) :
    ∃ evs, ReachL (initSys init programs) evs s ∧ (absS init).replay evs = some (absS s.subj) := by
  obtain ⟨evs, h⟩ := reach_reachL hr (initSys_wf init programs)
  exact ⟨evs, h, linearizable init hinit programs evs s h⟩

/-- **validate_accepted_set**: `DequeOptions.Validate` accepts exactly: no queue options and either
    (`Unlimited` with `Capacity == 0`) or not `Unlimited` (a `Capacity <= 0` becomes 1); or valid
    queue options with `Capacity <= 0` and not `Unlimited`. -/
theorem validate_accepted_set (o : Opts) :
    (o.validate).isSome = true ↔
      (o.qopts = none ∧ ((o.unlimited = true ∧ o.capacity = 0) ∨ o.unlimited = false)) ∨
      (∃ qo, o.qopts = some qo ∧ (qo.validate).isSome = true ∧ o.capacity ≤ 0 ∧ o.unlimited = false) :=
  validate_accepts o

/-- **new_deque_ok**: `NewDeque` never leaves the tracker nil; the deque it returns is empty, open
    and satisfies the invariant — so all theorems above apply to every deque the constructor
    can produce. -/
theorem new_deque_ok (o : Opts) : newDeque o ≠ some none ∧
    ∀ st, newDeque o = some (some st) → Inv st ∧ abs st = [] ∧ st.closed = false := by
  obtain ⟨h1, h2⟩ := newDeque_ok o
  refine ⟨h1, fun st hst => ?_⟩
  obtain ⟨hi, hq, hc, _⟩ := h2 st hst
  exact ⟨hi, by simp [abs, hq], hc⟩

example : ∃ st, newDeque { capacity := -3 } = some (some st) ∧ st.tracker.limit = some 1 := ⟨_, rfl, rfl⟩

end FunModel.C06
