import FunModel.WaitGroup
import FunGen.SegsWaitGroup

/-! C14 — T-gen obligations for the *control structure* of `fun.WaitGroup`. tools/go2lean (segs.go) re-reads
    sync.go on every run of `./check` and rewrites lean/FunGen/SegsWaitGroup.lean: for `Add`, `Num`, `IsDone`
    and `Wait` the critical section from `wg.mu.Lock()` to the first return or `wg.cond.Wait()` (`…_start`) and,
    for `Wait`, the section from the wake-up to the next return or `cond.Wait()` (`Wait_resume`), as decision
    trees over the model state in the `SegOut` vocabulary of FunModel/Conc.lean (new state, signals issued —
    `Broadcast`, the context-watcher goroutine —, return value or park). A method outside the recognised
    shapes makes that file not compile.

    These theorems say that the hand-written `FunModel.WaitGroup.subject` — what every theorem of
    FunProps/C14.lean is about and what the deterministic-scheduler run executes — has, for every state, thread
    and operation, exactly the generated `start` at `cancelled := false` and, for `Wait` and every flag, the
    generated `resume` (the other operations have none: `gen_nonblocking`). `Subject.start` is the segment of a
    call whose context is live (the scheduler cancels a context only after the call has started);
    `gen_start_dead_ctx` records what the source does otherwise, and `gen_start_ignores_ctx` that only `Wait`
    looks at the flag. -/
namespace FunModel.C14Gen
open FunModel.Conc FunModel.WaitGroup

/-- `Add(n)`: same test (`counter + n ≥ 0`, before any update), same new counter, same broadcast condition -/
theorem gen_Add (s : St) (t : Nat) (n : Int) (cancelled : Bool) :
    FunGen.SegsWaitGroup.Add_start s n cancelled = start s t (.add n) := by
  unfold FunGen.SegsWaitGroup.Add_start start
  by_cases h : s.counter + n < 0
  · have h' : ¬ (s.counter + n ≥ 0) := by omega
    simp [h, h']
  · have h' : s.counter + n ≥ 0 := by omega
    by_cases h0 : s.counter + n = 0 <;> simp [h, h', h0]

theorem gen_Num (s : St) (t : Nat) (cancelled : Bool) :
    FunGen.SegsWaitGroup.Num_start s cancelled = start s t .num := rfl

/-- `IsDone` is `counter == 0` on every state, negative counters included -/
theorem gen_IsDone (s : St) (t : Nat) (cancelled : Bool) :
    FunGen.SegsWaitGroup.IsDone_start s cancelled = start s t .isDone := rfl

/-- `Wait`, entry: returns iff the counter is 0, else starts the helper goroutine and parks on `wg.cond` -/
theorem gen_Wait_start (s : St) (t : Nat) :
    FunGen.SegsWaitGroup.Wait_start s false = start s t .wait := by
  unfold FunGen.SegsWaitGroup.Wait_start start
  by_cases h0 : s.counter = 0 <;> simp [h0]

/-- `Wait`, woken: re-reads the counter, then the context, else parks again -/
theorem gen_Wait_resume (s : St) (t : Nat) (cancelled : Bool) :
    FunGen.SegsWaitGroup.Wait_resume s cancelled = resume s t .wait cancelled := by
  unfold FunGen.SegsWaitGroup.Wait_resume resume waitLoop
  by_cases h0 : s.counter = 0 <;> cases cancelled <;> simp [h0]

/-- only `Wait` reads the context: the other segments are the model's whatever the flag -/
theorem gen_start_ignores_ctx (s : St) (t : Nat) (op : Op) (cancelled : Bool) (h : op ≠ .wait) :
    FunGen.SegsWaitGroup.start s t op cancelled = some (subject.start s t op) := by
  cases op with
  | wait => exact absurd rfl h
  | add n => exact congrArg some (gen_Add s t n cancelled)
  | num => rfl
  | isDone => rfl

theorem gen_subject_start (s : St) (t : Nat) (op : Op) :
    FunGen.SegsWaitGroup.start s t op false = some (subject.start s t op) := by
  cases op with
  | wait => exact congrArg some (gen_Wait_start s t)
  | _ => exact gen_start_ignores_ctx s t _ false nofun

theorem gen_subject_resume (s : St) (t : Nat) (cancelled : Bool) :
    FunGen.SegsWaitGroup.resume s t .wait cancelled = some (subject.resume s t .wait cancelled) :=
  congrArg some (gen_Wait_resume s t cancelled)

/-- for the other operations the generator found no `cond.Wait()`: there is no generated `resume`, and
    their single segment always ends in a return, so they never park; the model's `"bad-resume"` branch
    has no counterpart in the source -/
theorem gen_nonblocking (s : St) (t : Nat) (op : Op) (cancelled : Bool) (h : op ≠ .wait) :
    FunGen.SegsWaitGroup.resume s t op cancelled = none ∧
    ∀ c' o, FunGen.SegsWaitGroup.start s t op c' = some o → ∃ r, o.fin = .ret r := by
  cases op with
  | wait => exact absurd rfl h
  | add n =>
    refine ⟨rfl, fun c' o ho => ?_⟩
    simp only [FunGen.SegsWaitGroup.start, Option.some.injEq] at ho
    subst ho
    unfold FunGen.SegsWaitGroup.Add_start
    split
    · exact ⟨_, rfl⟩
    · simp only []; split <;> exact ⟨_, rfl⟩
  | num => exact ⟨rfl, fun c' o ho => by cases ho; exact ⟨_, rfl⟩⟩
  | isDone => exact ⟨rfl, fun c' o ho => by cases ho; exact ⟨_, rfl⟩⟩

/-- `Wait` called with a context that is already done returns at once, without helper goroutine -/
theorem gen_start_dead_ctx (s : St) (t : Nat) :
    FunGen.SegsWaitGroup.start s t .wait true = some { st := s, sigs := [], fin := .ret "ok" } := by
  simp [FunGen.SegsWaitGroup.start, FunGen.SegsWaitGroup.Wait_start]

/-- non-vacuity: the generated `Wait` does park and does spawn the helper on a non-trivial state, and the
    generated `Add` does broadcast -/
example : (FunGen.SegsWaitGroup.Wait_start { counter := 2 } false).fin = .park 0 ∧
    (FunGen.SegsWaitGroup.Wait_start { counter := 2 } false).sigs = [.spawn 0] ∧
    (FunGen.SegsWaitGroup.Add_start { counter := 1 } (-1) false).sigs = [.broadcast 0] ∧
    (FunGen.SegsWaitGroup.Add_start { counter := 1 } (-2) false).fin = .ret "panic" := by decide

end FunModel.C14Gen
