import FunProofs.Err

/-! C12 — error aggregation is lossless and errors.Is/As/Unwind-consistent.
    `ErrList.partsAll` is the independent specification of "the supplied constituents, in supply
    order" (containers opened, nil entries dropped); everything below relates what `ers` builds
    (`flatten`/`join`, mirrors of `Stack.Push`/`Add`/`Resolve`) to it. -/

namespace FunModel.C12
open FunModel

/-- The stack built by `Add(errs...)` holds exactly the supplied constituents, each once,
    most recent first. -/
theorem flatten_is_reversed_parts (es : ErrList) : flatten es = es.partsAll.reverse :=
  flatten_eq es

theorem len_is_count (es : ErrList) : lenAfter es = es.partsAll.length := by
  simp [lenAfter, flatten_eq]

/-- The result is nil exactly when there is no constituent … -/
theorem join_nil_iff_no_parts (es : ErrList) : join es = none ↔ es.partsAll = [] := by
  rw [join, resolve_eq_none, flatten_eq, List.reverse_eq_nil_iff]

/-- … and for well-formed inputs (no container that is empty all the way down) that is exactly
    when no non-nil error was supplied. -/
theorem join_nil_iff (es : ErrList) (hs : ∀ e ∈ es.toList, e.solid = true) :
    join es = none ↔ es.toList = [] := by
  rw [join_nil_iff_no_parts]; exact ErrList.partsAll_eq_nil_iff_toList es hs

/-- The excluded point is real (known finding `ers.Stack.Push:empty-aggregate-dropped`): a non-nil
    aggregate that lists no constituent is dropped, so without `solid` the statement above is false. -/
theorem join_nil_iff_fails_without_solid :
    ¬ (∀ es : ErrList, join es = none ↔ es.toList = []) := by
  intro h
  have := (h (.cons (.multi 7 .nil) .nil)).mp (by decide)
  simp [ErrList.toList] at this

theorem join_single_identity (e : Err) (h : e.plain = true) : join (.cons e .nil) = some e := by
  simp [join, flatten_eq, ErrList.partsAll, Err.parts_of_plain e h, resolve]

theorem join_skip (es : ErrList) : join (.skip es) = join es := by
  simp [join, flatten, ErrList.pushAll]

/-- errors.Is on the result finds exactly what it finds in some constituent:
    nothing lost, nothing invented. -/
theorem is_join_iff_parts (es : ErrList) (t : Nat) :
    isOpt (join es) t = es.partsAll.any (fun c => c.is t) := by
  unfold join; rw [resolve_is, flatten_eq]; simp

/-- …and, relative to the errors as supplied: everything found in a supplied error is found in the
    result, except the identity of a discarded `multi`/`unwinder` wrapper; and everything found in the
    result was in a supplied error, provided no supplied container hides its children from
    errors.Is (`Unwind()`-only types do). -/
theorem is_join_of_supplied (es : ErrList) (t : Nat) (h : es.isAny t = true)
    (ht : t ∉ es.shellIdsAll) : isOpt (join es) t = true := by
  rw [is_join_iff_parts]
  cases ErrList.parts_of_isAny t es h with
  | inl h => exact absurd h ht
  | inr h => exact h

theorem supplied_of_is_join (es : ErrList) (t : Nat) (hv : es.visibleAll = true)
    (h : isOpt (join es) t = true) : es.isAny t = true := by
  rw [is_join_iff_parts] at h
  exact ErrList.isAny_of_parts t es hv h

/-- errors.As on the result: the first constituent (most recent first) of the requested type. -/
theorem as_join_parts (es : ErrList) (ty : Nat) :
    (asOpt (join es) ty)
      = es.partsAll.reverse.findSome? (fun c => c.as ty) := by
  unfold join; rw [resolve_as, flatten_eq]

theorem as_join_isSome_iff (es : ErrList) (ty : Nat) :
    (asOpt (join es) ty).isSome
      = es.partsAll.any (fun c => (c.as ty).isSome) := by
  rw [as_join_parts, List.isSome_findSome?, List.any_reverse]

/-- errors.As with a leaf-typed target (`*ers.Error`, the comparable constants): on the result of a
    Join it finds the first constituent (most recent first) that holds such a constant behind single or
    multi wrapping — and it succeeds exactly when some constituent does. -/
theorem asLeaf_join_parts (p : Nat → Bool) (es : ErrList) :
    asLeafOpt p (join es) = es.partsAll.reverse.findSome? (fun c => c.asLeaf p) := by
  unfold join; rw [resolve_asLeaf, flatten_eq]

theorem asLeaf_join_isSome_iff (p : Nat → Bool) (es : ErrList) :
    (asLeafOpt p (join es)).isSome = es.partsAll.any (fun c => (c.asLeaf p).isSome) := by
  rw [asLeaf_join_parts, List.isSome_findSome?, List.any_reverse]

/-- Unwind of a result with at least two constituents lists each constituent exactly once, most recent first. -/
theorem unwind_join (es : ErrList) (h : 2 ≤ es.partsAll.length) :
    unwindOpt (join es) = es.partsAll.reverse := by
  unfold join; rw [flatten_eq]
  have : 2 ≤ es.partsAll.reverse.length := by simpa using h
  generalize es.partsAll.reverse = xs at *
  match xs, this with
  | x :: y :: r, _ => simp [resolve, unwindOpt, Err.unwind]

theorem unwind_join_perm (es : ErrList) (h : 2 ≤ es.partsAll.length) :
    (unwindOpt (join es)).Perm es.partsAll := by
  rw [unwind_join es h]; exact List.reverse_perm _

/-- with exactly one constituent Unwind is the Unwind of that error (it was returned as is) -/
theorem unwind_join_single (es : ErrList) (x : Err) (h : es.partsAll = [x]) :
    unwindOpt (join es) = x.unwind := by
  simp [join, flatten_eq, h, resolve, unwindOpt]

/-- directly supplied plain errors: most recent first -/
theorem flatten_plain_order (xs : List Err) (h : ∀ c ∈ xs, c.plain = true) :
    flatten (ErrList.ofErrs xs) = xs.reverse := by
  rw [flatten_eq, ErrList.partsAll_ofErrs_plain xs h]

/-- the constituents of the resolved error are the supplied ones, most recent first; so pushing it onto another
    stack (Stack-in-Stack is flattened, `flatten_is_reversed_parts`) brings the same constituents back, and a
    second `Join` of it alone reverses their order once more -/
theorem join_join_parts (es : ErrList) (r : Err) (h : join es = some r) :
    r.parts.reverse = es.partsAll := by
  have := join_parts es
  rw [h] at this
  rw [show r.parts = _ from this, List.reverse_reverse]

theorem wrap_nil (a : Nat) : wrapAnnot none a = none := rfl

theorem wrap_ok_nil (e : Err) (a : Nat) (h : e.okStack = true) : wrapAnnot (some e) a = none := by
  simp [wrapAnnot, h]

theorem wrap_is (e : Err) (a t : Nat) (h : e.okStack = false) :
    isOpt (wrapAnnot (some e) a) t
      = (e.parts.any (fun c => c.is t) || a == t) := by
  simp only [wrapAnnot, h, Bool.false_eq_true, if_false]
  rw [is_join_iff_parts]
  simp [ErrList.partsAll, Err.parts, Err.is]

theorem parsePanic_nil : parsePanicErr none = none := rfl

/-- a recovered panic with an error payload reports both the payload and ErrRecoveredPanic -/
theorem parsePanic_is (e : Err) (t : Nat) :
    isOpt (parsePanicErr (some e)) t
      = (e.parts.any (fun c => c.is t) || idRecoveredPanic == t) := by
  simp only [parsePanicErr]
  rw [is_join_iff_parts]
  simp [ErrList.partsAll, Err.parts, Err.is]

theorem parsePanic_ne_nil (e : Err) : parsePanicErr (some e) ≠ none := by
  simp only [parsePanicErr, ne_eq, join_nil_iff_no_parts]
  simp [ErrList.partsAll, Err.parts]

/-! ### Collector: every `Add` is one atomic `Push` under the mutex, so a concurrent run is a
    sequence of pushes in lock-acquisition order. -/

/-- the collector's stack after the Adds took the lock in the order `adds` -/
def collect (adds : List (Option Err)) : List Err := flatten (ErrList.ofList adds)

theorem collect_eq (adds : List (Option Err)) :
    collect adds = (adds.flatMap optParts).reverse :=
  flatten_ofList adds

/-- whatever order the goroutines got the lock in, the collector holds the same multiset:
    exactly the constituents of the non-nil errors added -/
theorem collector_order_independent (a b : List (Option Err)) (h : a.Perm b) :
    (collect a).Perm (collect b) := by
  rw [collect_eq, collect_eq]
  exact (List.reverse_perm _).trans ((h.flatMap_right _).trans (List.reverse_perm _).symm)

theorem collector_len (adds : List (Option Err)) :
    (collect adds).length = ((adds.flatMap optParts)).length := by
  simp [collect_eq]

/-- Resolve is nil iff no (solid) non-nil error was added -/
theorem collector_resolve_nil_iff (adds : List (Option Err))
    (hs : ∀ e, some e ∈ adds → e.solid = true) :
    collectorResolve (collect adds) = none ↔ ∀ o ∈ adds, o = none := by
  rw [collect, collector_eq_none]
  refine forall₂_congr fun o ho => ?_
  cases o with
  | none => simp [optParts]
  | some e => simp [optParts, Err.parts_ne_nil e (hs e ho)]

theorem collector_is (adds : List (Option Err)) (t : Nat) :
    isOpt (collectorResolve (collect adds)) t
      = (collect adds).any (fun c => c.is t) :=
  collectorResolve_is _ t

/-! ### non-vacuity: a 3-level tree with nils in the middle -/
def sampleTree : ErrList :=
  .cons (.leaf 1) (.skip (.cons (.multi 10 (.cons (.wrap 11 (.leaf 2)) (.skip (.cons
    (.stack (.cons (.typed 7 3) (.cons (.leaf 4) .nil))) .nil)))) (.cons (.unwinder 12 (.cons (.leaf 5) .nil)) .nil)))

example : (sampleTree.partsAll.map Err.label) = ["L1", "W11", "T7.3", "L4", "L5"] := by decide +kernel
example : (unwindOpt (join sampleTree)).map Err.label = ["L5", "L4", "T7.3", "W11", "L1"] := by decide +kernel
example : 2 ≤ sampleTree.partsAll.length := by decide +kernel
example : ∀ e ∈ sampleTree.toList, e.solid = true := by decide +kernel
example : isOpt (join sampleTree) 2 = true := by decide +kernel
example : isOpt (join sampleTree) 99 = false := by decide +kernel
example : asOpt (join sampleTree) 7 = some 3 := by decide +kernel

end FunModel.C12
