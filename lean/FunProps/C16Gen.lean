import FunGen.Dll

/-! C16 — T-gen obligations: the two pointer splices of dt/list.go, through which every `next`/`prev` write of
    the list model (FunModel/Dll.lean) goes except the self-links `lazySetup` gives a new sentinel and the struct
    copy in `Swap`, are equal to the definitions tools/go2lean regenerates from the current source
    (lean/FunGen/Dll.lean). The rest of the dt/list.go part of the model (guards, `pop`, `Set`/`Drop`, the loops)
    is hand-written and tied by the differential run only; the dt/cmp.go part is tied in FunProps/C17Gen.lean. -/
namespace FunModel.C16Gen
open FunModel.Dll

theorem gen_uncheckedAppend (h : Heap) (e new : Nat) :
    FunGen.Dll.uncheckedAppend h e new = h.uncheckedAppend e new := rfl

theorem gen_uncheckedRemove (h : Heap) (e : Nat) :
    FunGen.Dll.uncheckedRemove h e = h.uncheckedRemove e := rfl

end FunModel.C16Gen
