import FunProofs.SortSeq

/-! C17 — sorting and the heap of `dt/cmp.go`, at the level of the sequence of items:
    `SortMerge` (the hand-written merge sort) and `SortQuick` (`sort.SliceStable`) both return
    THE stable sorted permutation of the input (hence agree), for every strict weak ordering and
    every list; `IsSorted` decides sortedness; `Heap.Push` keeps the list sorted, so popping from
    the front yields every pushed value exactly once in non-decreasing order, FIFO among equals.
    `StrictWeak`, `Sorted`, `AdjSorted`, `equiv`, `heapOf` and the lemmas are in `FunProofs/SortSeq.lean`;
    proved here, by their own inductions: `isSorted_iff`, `isSorted_iff_sorted`. -/

namespace FunModel.C17
open FunModel FunModel.SortSeq

variable {α β : Type}

theorem strictWeak_flip {lt : α → α → Bool} (h : StrictWeak lt) :
    StrictWeak (fun a b => lt b a) := h.flip

theorem strictWeak_comap {lt : α → α → Bool} (f : β → α) (h : StrictWeak lt) :
    StrictWeak (fun a b => lt (f a) (f b)) := h.comap f

/-- `<`, `>` and `(x + 1000) / 10 <` on `Int` are the three comparators `checks/c17.py` sorts with -/
theorem strictWeak_int_lt : StrictWeak (fun a b : Int => a < b) :=
  ⟨by intro a; simp, by intro a b c; simp; omega, by intro a b c; simp; omega⟩

theorem strictWeak_int_gt : StrictWeak (fun a b : Int => a > b) :=
  strictWeak_int_lt.flip

theorem strictWeak_int_key : StrictWeak (fun a b : Int => (a + 1000) / 10 < (b + 1000) / 10) :=
  strictWeak_int_lt.comap (fun a : Int => (a + 1000) / 10)

/-- The fuel of the model is adequate: `sortMerge` satisfies the recursion equation of the Go
    `mergeSort` (`head` = what remains after `split` = the back part, `tail` = the front part). -/
theorem sortMerge_unfold (lt : α → α → Bool) (xs : List α) (h : 2 ≤ xs.length) :
    sortMerge lt xs = merge lt (sortMerge lt (split xs).2) (sortMerge lt (split xs).1) := by
  have h1 := split_fst_length_lt h
  have h2 := split_snd_length_lt h
  unfold sortMerge
  rw [mergeSort_succ lt h,
    mergeSort_fuel lt xs.length ((split xs).2.length + 1) _ (Nat.le_of_lt h2) (Nat.le_succ _),
    mergeSort_fuel lt xs.length ((split xs).1.length + 1) _ (Nat.le_of_lt h1) (Nat.le_succ _)]

theorem sortMerge_short (lt : α → α → Bool) (xs : List α) (h : xs.length < 2) :
    sortMerge lt xs = xs := mergeSort_short lt h _

theorem sortMerge_perm (lt : α → α → Bool) (xs : List α) : (sortMerge lt xs).Perm xs :=
  mergeSort_perm lt _ xs

theorem sortMerge_sorted {lt : α → α → Bool} (h : StrictWeak lt) (xs : List α) :
    Sorted lt (sortMerge lt xs) :=
  (mergeSort_stableSorted h _ xs (Nat.le_succ _)).1

/-- `merge` alone is stable in favour of its SECOND argument, if that is sorted. -/
theorem merge_stable {lt : α → α → Bool} (h : StrictWeak lt) (k : α) (a b : List α)
    (hb : Sorted lt b) :
    (merge lt a b).filter (equiv lt k) = b.filter (equiv lt k) ++ a.filter (equiv lt k) :=
  merge_filter h k a b hb

theorem sortMerge_stable {lt : α → α → Bool} (h : StrictWeak lt) (xs : List α) (k : α) :
    (sortMerge lt xs).filter (equiv lt k) = xs.filter (equiv lt k) :=
  (mergeSort_stableSorted h _ xs (Nat.le_succ _)).2 k

theorem sortQuick_perm (lt : α → α → Bool) (xs : List α) : (sortQuick lt xs).Perm xs :=
  SortSeq.sortQuick_perm lt xs

theorem sortQuick_sorted {lt : α → α → Bool} (h : StrictWeak lt) (xs : List α) :
    Sorted lt (sortQuick lt xs) :=
  (sortQuick_stableSorted h xs).1

theorem sortQuick_stable {lt : α → α → Bool} (h : StrictWeak lt) (xs : List α) (k : α) :
    (sortQuick lt xs).filter (equiv lt k) = xs.filter (equiv lt k) :=
  (sortQuick_stableSorted h xs).2 k

theorem sorted_unique {lt : α → α → Bool} (h : StrictWeak lt) (l1 l2 : List α)
    (h1 : Sorted lt l1) (h2 : Sorted lt l2)
    (hf : ∀ k, l1.filter (equiv lt k) = l2.filter (equiv lt k)) : l1 = l2 :=
  StableSorted.eq_of_sorted h ⟨h1, hf⟩ h2

/-- Two sorted, stable permutations of `xs` are equal; the permutation hypotheses are not used (`StableSorted.unique`). -/
theorem sorted_unique_of_stable {lt : α → α → Bool} (h : StrictWeak lt) (xs l1 l2 : List α)
    (_p1 : l1.Perm xs) (_p2 : l2.Perm xs) (s1 : Sorted lt l1) (s2 : Sorted lt l2)
    (st1 : ∀ k, l1.filter (equiv lt k) = xs.filter (equiv lt k))
    (st2 : ∀ k, l2.filter (equiv lt k) = xs.filter (equiv lt k)) : l1 = l2 :=
  StableSorted.unique h ⟨s1, st1⟩ ⟨s2, st2⟩

theorem sortMerge_eq_sortQuick {lt : α → α → Bool} (h : StrictWeak lt) (xs : List α) :
    sortMerge lt xs = sortQuick lt xs :=
  sorted_unique_of_stable h xs _ _ (sortMerge_perm lt xs) (sortQuick_perm lt xs)
    (sortMerge_sorted h xs) (sortQuick_sorted h xs) (sortMerge_stable h xs) (sortQuick_stable h xs)

theorem isSorted_iff (lt : α → α → Bool) (xs : List α) :
    isSorted lt xs = true ↔ AdjSorted lt xs := by
  match xs with
  | [] => simp [isSorted, AdjSorted]
  | [x] => simp [isSorted, AdjSorted]
  | x :: y :: rest =>
    rw [isSorted, adjSorted_cons_cons, ← isSorted_iff lt (y :: rest)]
    simp

theorem isSorted_iff_sorted {lt : α → α → Bool} (h : StrictWeak lt) (xs : List α) :
    isSorted lt xs = true ↔ Sorted lt xs := by
  match xs with
  | [] => exact ⟨fun _ => sorted_nil lt, fun _ => rfl⟩
  | [x] => exact ⟨fun _ => sorted_singleton lt x, fun _ => rfl⟩
  | x :: y :: rest =>
    rw [isSorted, sorted_cons_cons h, ← isSorted_iff_sorted h (y :: rest)]
    simp

theorem isSorted_short (lt : α → α → Bool) (xs : List α) (h : xs.length < 2) :
    isSorted lt xs = true := by
  match xs, h with
  | [], _ => rfl
  | [_], _ => rfl

theorem isSorted_sortMerge {lt : α → α → Bool} (h : StrictWeak lt) (xs : List α) :
    isSorted lt (sortMerge lt xs) = true :=
  (isSorted_iff_sorted h _).mpr (sortMerge_sorted h xs)

theorem isSorted_sortQuick {lt : α → α → Bool} (h : StrictWeak lt) (xs : List α) :
    isSorted lt (sortQuick lt xs) = true :=
  (isSorted_iff_sorted h _).mpr (sortQuick_sorted h xs)

theorem sortMerge_adjSorted {lt : α → α → Bool} (h : StrictWeak lt) (xs : List α) :
    AdjSorted lt (sortMerge lt xs) :=
  (isSorted_iff lt _).mp (isSorted_sortMerge h xs)

theorem sortQuick_adjSorted {lt : α → α → Bool} (h : StrictWeak lt) (xs : List α) :
    AdjSorted lt (sortQuick lt xs) :=
  (isSorted_iff lt _).mp (isSorted_sortQuick h xs)

theorem heapInsert_perm (lt : α → α → Bool) (t : α) (xs : List α) :
    (heapInsert lt t xs).Perm (t :: xs) :=
  SortSeq.heapInsert_perm lt t xs

theorem heapInsert_sorted {lt : α → α → Bool} (h : StrictWeak lt) (t : α) (xs : List α)
    (hs : Sorted lt xs) : Sorted lt (heapInsert lt t xs) :=
  (heapInsert_stableSorted h t (.refl hs)).1

theorem heapInsert_stable {lt : α → α → Bool} (h : StrictWeak lt) (t : α) (xs : List α) (k : α) :
    (heapInsert lt t xs).filter (equiv lt k) = (xs ++ [t]).filter (equiv lt k) :=
  heapInsert_filter h k t xs

/-- FIFO among equals -/
theorem heapInsert_after_equal {lt : α → α → Bool} (h : StrictWeak lt) (t : α) (xs : List α) :
    (heapInsert lt t xs).filter (equiv lt t) = xs.filter (equiv lt t) ++ [t] := by
  rw [heapInsert_stable h, List.filter_append]
  simp [equiv_refl h]

theorem heapOf_perm (lt : α → α → Bool) (ts : List α) : (heapOf lt ts).Perm ts := by
  simpa [heapOf] using foldl_heapInsert_perm lt ts []

theorem heapOf_sorted {lt : α → α → Bool} (h : StrictWeak lt) (ts : List α) :
    Sorted lt (heapOf lt ts) :=
  (foldl_heapInsert_stableSorted h ts (.refl (sorted_nil lt))).1

theorem heapOf_stable {lt : α → α → Bool} (h : StrictWeak lt) (ts : List α) (k : α) :
    (heapOf lt ts).filter (equiv lt k) = ts.filter (equiv lt k) :=
  (foldl_heapInsert_stableSorted h ts (.refl (sorted_nil lt))).2 k

/-- The pop order of a heap is the stable sort of the push order. -/
theorem heapOf_eq_sortQuick {lt : α → α → Bool} (h : StrictWeak lt) (ts : List α) :
    heapOf lt ts = sortQuick lt ts :=
  sorted_unique_of_stable h ts _ _ (heapOf_perm lt ts) (sortQuick_perm lt ts)
    (heapOf_sorted h ts) (sortQuick_sorted h ts) (heapOf_stable h ts) (sortQuick_stable h ts)

example : StrictWeak (fun a b : Int => a < b) := strictWeak_int_lt
example : StrictWeak (fun a b : Int => a > b) := strictWeak_int_gt
example : StrictWeak (fun a b : Int => (a + 1000) / 10 < (b + 1000) / 10) := strictWeak_int_key

-- `merge` is compiled by well-founded recursion, so `decide` cannot evaluate it; `simp` can
example : sortMerge (fun a b : Int => a < b) [3, -1, 2, -1, 0] = [-1, -1, 0, 2, 3] := by
  simp [sortMerge, mergeSort, split, merge]
example : sortQuick (fun a b : Int => a < b) [3, -1, 2, -1, 0] = [-1, -1, 0, 2, 3] := by decide +kernel
example : sortMerge (fun a b : Int => a > b) [3, -1, 2, -1, 0] = [3, 2, 0, -1, -1] := by
  simp [sortMerge, mergeSort, split, merge]

/-- stability is visible: 11, 19, 12 all have key 101 and keep their input order -/
example : sortMerge (fun a b : Int => (a + 1000) / 10 < (b + 1000) / 10) [25, 11, -7, 19, 3, 12]
    = [-7, 3, 11, 19, 12, 25] := by
  simp [sortMerge, mergeSort, split, merge]
example : sortQuick (fun a b : Int => (a + 1000) / 10 < (b + 1000) / 10) [25, 11, -7, 19, 3, 12]
    = [-7, 3, 11, 19, 12, 25] := by decide +kernel
example : heapOf (fun a b : Int => (a + 1000) / 10 < (b + 1000) / 10) [25, 11, -7, 19, 3, 12]
    = [-7, 3, 11, 19, 12, 25] := by decide +kernel
example : [25, 11, -7, 19, 3, 12].filter
      (equiv (fun a b : Int => (a + 1000) / 10 < (b + 1000) / 10) 15) = [11, 19, 12] := by decide +kernel

example : split [1, 2, 3, 4, 5] = ([1, 2, 3], [4, 5]) := by decide +kernel
example : merge (fun a b : Int => a < b) [1, 4] [1, 2] = [1, 1, 2, 4] := by simp [merge]
/-- on a tie `merge` takes from its second argument first -/
example : merge (fun a b : Int => (a + 1000) / 10 < (b + 1000) / 10) [11, 30] [19, 20]
    = [19, 11, 20, 30] := by simp [merge]

example : isSorted (fun a b : Int => a < b) [1, 3, 2] = false := by decide +kernel
example : isSorted (fun a b : Int => a < b) [-2, -1, 5] = true := by decide +kernel
example : ¬ Sorted (fun a b : Int => a < b) [1, 3, 2] := by
  rw [← isSorted_iff_sorted strictWeak_int_lt]
  decide +kernel
example : Sorted (fun a b : Int => a < b) [-2, -1, 5] :=
  (isSorted_iff_sorted strictWeak_int_lt _).mp (by decide +kernel)

example : heapInsert (fun a b : Int => a < b) 2 [-1, 2, 2, 5] = [-1, 2, 2, 2, 5] := by decide +kernel
example : heapInsert (fun a b : Int => a < b) (-3) [-1, 2] = [-3, -1, 2] := by decide +kernel
example : heapInsert (fun a b : Int => a < b) 7 [] = [7] := by decide +kernel

end FunModel.C17
