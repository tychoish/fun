import FunProofs.SortPtr
import FunProofs.DllRun
import FunProps.C17

/-! C17, pointer level — `dt/cmp.go` on the heap of elements and list headers (`FunModel/Dll.lean`)
    refines the sequence-level algorithms of `FunModel/SortSeq.lean`, for every well-formed heap
    (`WF h g`, the invariant of C16: any number of lists of any length) and every allocated list:

    * `split`, `merge`, `mergeSort` (every fuel), `SortMerge`, `SortQuick`, `Heap.Push` do not panic,
      keep `WF` (so the list "remains fully usable", `list_usable`), leave every other list alone and
      turn the ghost sequence / the value sequence of the list into exactly what the sequence-level
      function returns on the previous one; `IsSorted` and `Heap.Pop` return what the sequence-level
      functions return;
    * the fuel the pointer-level wrappers pass to their loops is part of the definitions
      `Heap.split/merge/sortMerge/sortQuick/isSorted/heapPush`; the statements are about these wrappers,
      for lists of any length, and no fuel hypothesis appears;
    * with the theorems of `FunProps/C17.lean` this gives the property on the heap (`*_ptr_*`); for any
      interleaving of pushes and pops the pointer-level heap behaves like the sorted sequence (`heapRun_refines`).

    The loop invariants are in `FunProofs/SortPtr.lean`, the transport of the sequence functions along `map` in
    `FunProofs/SortPtrSeq.lean`. -/

namespace FunModel.C17Ptr
open FunModel FunModel.Dll FunModel.SortSeq FunProofs.SortPtr

variable {h : Heap} {g : Nat → List Nat} {l : Nat}

/-- In every well-formed heap an allocated list is usable: `Len` = number of elements, every element
    is ok and `In(list)`, no element occurs twice, the forward walk visits exactly the elements and
    ends at the sentinel, and the backward walk is its reverse. The C16 theorems about further
    operations ask for `WF` and allocated arguments only. -/
theorem list_usable (hw : WF h g) (hl : l < h.nl) :
    (h.hdr l).length = (g l).length ∧ (g l).Nodup ∧
      (∀ x, x ∈ g l → (h.node x).ok = true ∧ (h.node x).list = some l) ∧
      ∀ fuel, (g l).length < fuel →
        (h.lazySetup l).walkFwd l fuel = (g l, "end") ∧
        (h.lazySetup l).walkBwd l fuel = ((g l).reverse, "end") :=
  usable hw hl

/-- `split(list)`: the fresh list `h.nl` receives the front part, `list` keeps the back part. -/
theorem split_refines (hw : WF h g) (hl : l < h.nl) :
    ∃ h' g', h.split l = some (h', h.nl) ∧ WF h' g' ∧ Frame h h' ∧ h.nl < h'.nl ∧
      g' h.nl = (split (g l)).1 ∧ g' l = (split (g l)).2 ∧
      vals h' g' h.nl = (split (vals h g l)).1 ∧ vals h' g' l = (split (vals h g l)).2 ∧
      ∀ l', l' ≠ l → l' ≠ h.nl → g' l' = g l' := by
  obtain ⟨h', g', e1, hw', hf', hk', hnl, g1, g2, go⟩ := split_spec hw (Keyed.self h g) hl
  refine ⟨h', g', e1, hw', hf', hnl, g1, g2, ?_, ?_, go⟩
  · rw [hk'.vals, g1, map_split_fst]
    rfl
  · rw [hk'.vals, g2, map_split_snd]
    rfl

/-- `merge(lt, a, b)` for distinct allocated lists; the result is the fresh list `h.nl`, elements are compared
    through their items. -/
theorem merge_refines (hw : WF h g) {a b : Nat} (ha : a < h.nl) (hb : b < h.nl) (hab : a ≠ b)
    (lt : Int → Int → Bool) :
    ∃ h' g', h.merge lt a b = some (h', h.nl) ∧ WF h' g' ∧ Frame h h' ∧ h.nl < h'.nl ∧
      g' h.nl = merge (ltOn lt (item h)) (g a) (g b) ∧ g' a = [] ∧ g' b = [] ∧
      vals h' g' h.nl = merge lt (vals h g a) (vals h g b) ∧
      ∀ l', l' ≠ a → l' ≠ b → l' ≠ h.nl → g' l' = g l' := by
  obtain ⟨h', g', e1, hw', hf', hk', hnl, g1, g2, g3, go⟩ := merge_spec hw (Keyed.self h g) ha hb hab lt
  refine ⟨h', g', e1, hw', hf', hnl, g1, g2, g3, ?_, go⟩
  rw [hk'.vals, g1, map_merge]
  rfl

/-- `mergeSort(head, lt)` with any recursion fuel: the returned list is `head` itself or a list allocated during
    the call; every other list is as before, so the temporaries end empty. -/
theorem mergeSort_refines (hw : WF h g) (hl : l < h.nl) (lt : Int → Int → Bool) (fuel : Nat) :
    ∃ h' g' res, h.mergeSort lt l fuel = some (h', res) ∧ WF h' g' ∧ Frame h h' ∧
      res < h'.nl ∧ (res = l ∨ h.nl ≤ res) ∧
      g' res = mergeSort (ltOn lt (item h)) (g l) fuel ∧
      vals h' g' res = mergeSort lt (vals h g l) fuel ∧ (res ≠ l → g' l = []) ∧
      ∀ l', l' ≠ l → l' ≠ res → g' l' = g l' := by
  obtain ⟨h', g', res, e1, hw', hf', hk', hr, hd, g1, g2, go⟩ :=
    mergeSort_spec lt fuel hw (Keyed.self h g) hl
  refine ⟨h', g', res, e1, hw', hf', hr, hd, g1, ?_, g2, go⟩
  rw [hk'.vals, g1, map_mergeSort]
  rfl

/-- The recursion fuel is adequate: with any two fuels not below the length of the list (the wrapper
    `sortMerge` passes length + 1) `mergeSort` returns the same sorted result, so the "out of fuel" exit of the
    model, which returns the list as it is, is not what produces it. The Go function has no fuel;
    `C17.sortMerge_unfold` is its recursion equation. -/
theorem mergeSort_fuel_adequate {lt : Int → Int → Bool} (hs : StrictWeak lt) (hw : WF h g) (hl : l < h.nl)
    (f1 f2 : Nat) (h1 : (g l).length ≤ f1) (h2 : (g l).length ≤ f2) :
    ∃ h1' g1' r1 h2' g2' r2, h.mergeSort lt l f1 = some (h1', r1) ∧ h.mergeSort lt l f2 = some (h2', r2) ∧
      WF h1' g1' ∧ WF h2' g2' ∧ g1' r1 = g2' r2 ∧ vals h1' g1' r1 = vals h2' g2' r2 ∧
      Sorted lt (vals h1' g1' r1) := by
  obtain ⟨h1', g1', r1, e1, hw1, _, _, _, hg1, hv1, _⟩ := mergeSort_refines hw hl lt f1
  obtain ⟨h2', g2', r2, e2, hw2, _, _, _, hg2, hv2, _⟩ := mergeSort_refines hw hl lt f2
  have hlen : (vals h g l).length = (g l).length := List.length_map _
  refine ⟨h1', g1', r1, h2', g2', r2, e1, e2, hw1, hw2, ?_, ?_, ?_⟩
  · rw [hg1, hg2]
    exact mergeSort_fuel _ f1 f2 _ h1 h2
  · rw [hv1, hv2]
    exact mergeSort_fuel _ f1 f2 _ (hlen ▸ h1) (hlen ▸ h2)
  · rw [hv1]
    exact (mergeSort_stableSorted hs _ _ (hlen ▸ h1)).1

/-- `l.SortMerge(lt)`: the sorted elements are back in `l` itself; all other lists, the temporaries of the
    recursion among them, are as before. -/
theorem sortMerge_refines (hw : WF h g) (hl : l < h.nl) (lt : Int → Int → Bool) :
    ∃ h' g', h.sortMerge lt l = some h' ∧ WF h' g' ∧ Frame h h' ∧
      g' l = sortMerge (ltOn lt (item h)) (g l) ∧
      vals h' g' l = sortMerge lt (vals h g l) ∧
      ∀ l', l' ≠ l → g' l' = g l' ∧ vals h' g' l' = vals h g l' := by
  obtain ⟨h', g', e1, hw', hf', hk', g1, go⟩ := sortMerge_spec hw (Keyed.self h g) hl lt
  refine ⟨h', g', e1, hw', hf', g1, ?_, others_vals hw hf' go⟩
  rw [hk'.vals, g1, map_sortMerge]
  rfl

/-- `l.SortQuick(lt)` (pop all, `sort.SliceStable` = stable insertion sort, re-append). -/
theorem sortQuick_refines (hw : WF h g) (hl : l < h.nl) (lt : Int → Int → Bool) :
    ∃ h' g', h.sortQuick lt l = some h' ∧ WF h' g' ∧ Frame h h' ∧
      g' l = sortQuick (ltOn lt (item h)) (g l) ∧
      vals h' g' l = sortQuick lt (vals h g l) ∧
      ∀ l', l' ≠ l → g' l' = g l' ∧ vals h' g' l' = vals h g l' := by
  obtain ⟨h', g', e1, hw', hf', hk', g1, go⟩ := sortQuick_spec hw (Keyed.self h g) hl lt
  refine ⟨h', g', e1, hw', hf', g1, ?_, others_vals hw hf' go⟩
  rw [hk'.vals, g1, map_sortQuick]
  rfl

/-- `l.IsSorted(lt)`, the walk from the second element comparing with `Previous()`. -/
theorem isSorted_refines (hw : WF h g) (l : Nat) (lt : Int → Int → Bool) :
    h.isSorted lt l = some (isSorted lt (vals h g l)) := by
  rw [isSorted_spec hw l lt, isSorted_map]
  rfl

/-- `Heap.Push(t)` on the backing list `l` (scan from the back, `Append` after the first element `t`
    is not less than, `PushFront` if there is none): one fresh element `n` carrying `t` is inserted
    somewhere into the element sequence. -/
theorem heapPush_refines (hw : WF h g) (hl : l < h.nl) (lt : Int → Int → Bool) (t : Int) :
    ∃ h' g' n f1 f2, h.heapPush lt l t = some h' ∧ WF h' g' ∧ Frame h h' ∧ h.nn ≤ n ∧
      (h'.node n).item = t ∧ g l = f1 ++ f2 ∧ g' l = f1 ++ n :: f2 ∧ (∀ l', l' ≠ l → g' l' = g l') ∧
      vals h' g' l = heapInsert lt t (vals h g l) := by
  obtain ⟨h', n, e1, hw', hf', hn, hi⟩ := heapPush_spec hw hl lt t
  obtain ⟨f1, f2, hs1, hs2⟩ := heapInsert_splits (ltOn lt (item h')) n (g l)
  exact ⟨h', _, n, f1, f2, e1, hw', hf', hn, hi, hs1, by rw [upd_same, hs2], fun l' hl' => upd_other _ _ hl',
    hi ▸ vals_heapInsert hw hf' lt l n⟩

/-- `Heap.Pop()` on a non-empty heap returns the first value with `ok = true` and leaves the rest -/
theorem heapPop_refines_nonempty (hw : WF h g) {v : Int} {vs : List Int} (hv : vals h g l = v :: vs) :
    ∃ h' g' e, h.popFront l = some (h', e) ∧ (h'.node e).item = v ∧ (h'.node e).ok = true ∧
      WF h' g' ∧ Frame h h' ∧ vals h' g' l = vs ∧ ∀ l', l' ≠ l → g' l' = g l' := by
  cases hg : g l with
  | nil => simp [vals, hg] at hv
  | cons x xs =>
    obtain ⟨h', e1, hw', hf', hok, hit, hv'⟩ := heapPop_cons hw hg
    rw [hv] at hv'
    injection hv' with h1 h2
    exact ⟨h', _, x, e1, by rw [hit, h1], hok, hw', hf', h2.symm, fun l' hl' => upd_other _ _ hl'⟩

/-- `Heap.Pop()` on an empty heap returns the zero value and `ok = false`; nothing changes -/
theorem heapPop_refines_empty (hw : WF h g) (hl : l < h.nl) (hv : vals h g l = []) :
    ∃ h' e, h.popFront l = some (h', e) ∧ (h'.node e).item = 0 ∧ (h'.node e).ok = false ∧
      WF h' g ∧ Frame h h' := by
  have hg : g l = [] := by simpa [vals] using hv
  obtain ⟨h', z, e1, _, hw', _, _, hz, hf'⟩ := hw.pop_empty hl hg
  exact ⟨h', z, e1, by rw [hz], by rw [hz], hw', hf'⟩

/-- Any interleaving of pushes and pops: the pops of the pointer-level heap return exactly what the
    sequence-level heap (`seqRun`: `heapInsert` / take the head) returns; the final value sequences agree too. -/
theorem heapRun_refines (hw : WF h g) (hl : l < h.nl) (lt : Int → Int → Bool) (ops : List HOp) :
    ∃ h' g', heapRun lt l ops h = some (h', (seqRun lt ops (vals h g l)).2) ∧ WF h' g' ∧ Frame h h' ∧
      vals h' g' l = (seqRun lt ops (vals h g l)).1 ∧ ∀ l', l' ≠ l → g' l' = g l' :=
  heapRun_spec hw hl lt ops

/-- The property for `SortMerge`, on the heap: the same elements with their items; the values sorted (no value `lt`
    any earlier one, in particular not its predecessor) and equal values in their previous order; `WF` kept (hence
    `list_usable`), the other lists untouched. -/
theorem sortMerge_ptr_correct {lt : Int → Int → Bool} (hs : StrictWeak lt) (hw : WF h g) (hl : l < h.nl) :
    ∃ h' g', h.sortMerge lt l = some h' ∧ WF h' g' ∧ (g' l).Perm (g l) ∧
      (∀ x, x ∈ g l → (h'.node x).item = (h.node x).item) ∧
      (vals h' g' l).Perm (vals h g l) ∧ Sorted lt (vals h' g' l) ∧ AdjSorted lt (vals h' g' l) ∧
      (∀ k, (vals h' g' l).filter (equiv lt k) = (vals h g l).filter (equiv lt k)) ∧
      ∀ l', l' ≠ l → g' l' = g l' ∧ vals h' g' l' = vals h g l' := by
  obtain ⟨h', g', e1, hw', hf', hg', hv', ho⟩ := sortMerge_refines hw hl lt
  exact ⟨h', g', e1, hw', hg' ▸ C17.sortMerge_perm _ _, fun x hx => (hf'.data x (hw.elem_lt hx)).2,
    hv' ▸ C17.sortMerge_perm lt _, hv' ▸ C17.sortMerge_sorted hs _, hv' ▸ C17.sortMerge_adjSorted hs _,
    hv' ▸ C17.sortMerge_stable hs _, ho⟩

/-- The same for `SortQuick`; stability is the part the property asks of `SortQuick` only. -/
theorem sortQuick_ptr_correct {lt : Int → Int → Bool} (hs : StrictWeak lt) (hw : WF h g) (hl : l < h.nl) :
    ∃ h' g', h.sortQuick lt l = some h' ∧ WF h' g' ∧ (g' l).Perm (g l) ∧
      (∀ x, x ∈ g l → (h'.node x).item = (h.node x).item) ∧
      (vals h' g' l).Perm (vals h g l) ∧ Sorted lt (vals h' g' l) ∧ AdjSorted lt (vals h' g' l) ∧
      (∀ k, (vals h' g' l).filter (equiv lt k) = (vals h g l).filter (equiv lt k)) ∧
      ∀ l', l' ≠ l → g' l' = g l' ∧ vals h' g' l' = vals h g l' := by
  obtain ⟨h', g', e1, hw', hf', hg', hv', ho⟩ := sortQuick_refines hw hl lt
  exact ⟨h', g', e1, hw', hg' ▸ C17.sortQuick_perm _ _, fun x hx => (hf'.data x (hw.elem_lt hx)).2,
    hv' ▸ C17.sortQuick_perm lt _, hv' ▸ C17.sortQuick_sorted hs _, hv' ▸ C17.sortQuick_adjSorted hs _,
    hv' ▸ C17.sortQuick_stable hs _, ho⟩

theorem sortMerge_ptr_eq_sortQuick_ptr {lt : Int → Int → Bool} (hs : StrictWeak lt) (hw : WF h g)
    (hl : l < h.nl) :
    ∃ h1 g1 h2 g2, h.sortMerge lt l = some h1 ∧ WF h1 g1 ∧ h.sortQuick lt l = some h2 ∧ WF h2 g2 ∧
      vals h1 g1 l = vals h2 g2 l ∧ g1 l = g2 l := by
  obtain ⟨h1, g1, e1, hw1, _, hg1, hv1, _⟩ := sortMerge_refines hw hl lt
  obtain ⟨h2, g2, e2, hw2, _, hg2, hv2, _⟩ := sortQuick_refines hw hl lt
  refine ⟨h1, g1, h2, g2, e1, hw1, e2, hw2, ?_, ?_⟩
  · rw [hv1, hv2]
    exact C17.sortMerge_eq_sortQuick hs _
  · rw [hg1, hg2]
    exact C17.sortMerge_eq_sortQuick (hs.comap (item h)) _

theorem isSorted_ptr_iff (hw : WF h g) (l : Nat) (lt : Int → Int → Bool) :
    ∃ b, h.isSorted lt l = some b ∧ (b = true ↔ AdjSorted lt (vals h g l)) :=
  ⟨_, isSorted_refines hw l lt, C17.isSorted_iff lt _⟩

theorem isSorted_ptr_short (hw : WF h g) (lt : Int → Int → Bool) (hlen : (h.hdr l).length < 2) :
    h.isSorted lt l = some true := by
  rw [isSorted_refines hw l lt, C17.isSorted_short]
  have := (hw.lwf l).len
  simp only [vals, List.length_map]
  omega

/-- For a strict weak ordering "no adjacent inversion" is "no inversion at all". -/
theorem isSorted_ptr_iff_sorted {lt : Int → Int → Bool} (hs : StrictWeak lt) (hw : WF h g) (l : Nat) :
    h.isSorted lt l = some true ↔ Sorted lt (vals h g l) := by
  rw [isSorted_refines hw l lt, Option.some.injEq]
  exact C17.isSorted_iff_sorted hs _

theorem isSorted_after_sort {lt : Int → Int → Bool} (hs : StrictWeak lt) (hw : WF h g) (hl : l < h.nl) :
    (∃ h', h.sortMerge lt l = some h' ∧ h'.isSorted lt l = some true) ∧
    (∃ h', h.sortQuick lt l = some h' ∧ h'.isSorted lt l = some true) := by
  obtain ⟨h1, g1, e1, hw1, _, _, _, hs1, _⟩ := sortMerge_ptr_correct hs hw hl
  obtain ⟨h2, g2, e2, hw2, _, _, _, hs2, _⟩ := sortQuick_ptr_correct hs hw hl
  exact ⟨⟨h1, e1, (isSorted_ptr_iff_sorted hs hw1 l).2 hs1⟩, ⟨h2, e2, (isSorted_ptr_iff_sorted hs hw2 l).2 hs2⟩⟩

/-- `Push` keeps the backing list sorted and adds exactly the pushed value (after its equals). -/
theorem heapPush_ptr_correct {lt : Int → Int → Bool} (hs : StrictWeak lt) (hw : WF h g) (hl : l < h.nl)
    (t : Int) (hsorted : Sorted lt (vals h g l)) :
    ∃ h' g', h.heapPush lt l t = some h' ∧ WF h' g' ∧ (vals h' g' l).Perm (t :: vals h g l) ∧
      Sorted lt (vals h' g' l) ∧
      (∀ k, (vals h' g' l).filter (equiv lt k) = (vals h g l ++ [t]).filter (equiv lt k)) ∧
      ∀ l', l' ≠ l → g' l' = g l' := by
  obtain ⟨h', g', n, f1, f2, e1, hw', _, _, _, _, _, ho, hv⟩ := heapPush_refines hw hl lt t
  refine ⟨h', g', e1, hw', ?_, ?_, ?_, ho⟩ <;> rw [hv]
  · exact C17.heapInsert_perm lt t _
  · exact C17.heapInsert_sorted hs t _ hsorted
  · exact C17.heapInsert_stable hs t _

/-- `Pop` on a sorted backing list returns a minimum, and the rest is still sorted. -/
theorem heapPop_ptr_min {lt : Int → Int → Bool} (hw : WF h g) {v : Int} {vs : List Int}
    (hv : vals h g l = v :: vs) (hsorted : Sorted lt (vals h g l)) :
    ∃ h' g' e, h.popFront l = some (h', e) ∧ (h'.node e).item = v ∧ (h'.node e).ok = true ∧
      WF h' g' ∧ vals h' g' l = vs ∧ (∀ z, z ∈ vs → lt z v = false) ∧ Sorted lt (vals h' g' l) := by
  obtain ⟨h', g', e, e1, hi, hok, hw', _, hv', _⟩ := heapPop_refines_nonempty hw hv
  rw [hv] at hsorted
  have := sorted_cons.1 hsorted
  exact ⟨h', g', e, e1, hi, hok, hw', hv', this.1, by rw [hv']; exact this.2⟩

/-- A heap on an empty backing list: push `ts` (in this order), then pop `ts.length + 1` times.
    The pops return, with `ok = true`, the values `heapOf lt ts` — every pushed value exactly once, no value `lt`
    an earlier one, equal values in push order: THE stable sort of `ts` — and the last pop returns `(0, false)`;
    the heap is well-formed and empty afterwards. -/
theorem heap_ptr_pops_sorted {lt : Int → Int → Bool} (hs : StrictWeak lt) (hw : WF h g) (hl : l < h.nl)
    (hempty : g l = []) (ts : List Int) :
    ∃ h' g', heapRun lt l (ts.map HOp.push ++ (List.replicate ts.length HOp.pop ++ [HOp.pop])) h =
        some (h', (heapOf lt ts).map (fun v => (v, true)) ++ [(0, false)]) ∧
      WF h' g' ∧ vals h' g' l = [] ∧
      (heapOf lt ts).Perm ts ∧ Sorted lt (heapOf lt ts) ∧ AdjSorted lt (heapOf lt ts) ∧
      (∀ k, (heapOf lt ts).filter (equiv lt k) = ts.filter (equiv lt k)) ∧
      heapOf lt ts = sortQuick lt ts := by
  obtain ⟨h', g', e1, hw', _, hv', _⟩ := heapRun_refines hw hl lt
    (ts.map HOp.push ++ (List.replicate ts.length HOp.pop ++ [HOp.pop]))
  have hv : vals h g l = [] := by simp [vals, hempty]
  rw [hv, seqRun_push_pop] at e1 hv'
  refine ⟨h', g', e1, hw', hv', C17.heapOf_perm lt ts, C17.heapOf_sorted hs ts, ?_, C17.heapOf_stable hs ts,
    C17.heapOf_eq_sortQuick hs ts⟩
  rw [C17.heapOf_eq_sortQuick hs ts]
  exact C17.sortQuick_adjSorted hs ts

/-- the hypotheses are satisfiable for every value sequence, so e.g. `sortMerge_ptr_correct` speaks about all inputs -/
example (vs : List Int) : ∃ h g, WF h g ∧ 0 < h.nl ∧ vals h g 0 = vs := exists_list vs

example : ∃ h g, WF h g ∧ 0 < h.nl ∧ vals h g 0 = [3, -1, 2, -1, 0] ∧
    ∃ h' g', h.sortMerge (fun a b => a < b) 0 = some h' ∧ WF h' g' ∧ vals h' g' 0 = [-1, -1, 0, 2, 3] := by
  obtain ⟨h, g, hw, hl, hv⟩ := exists_list [3, -1, 2, -1, 0]
  obtain ⟨h', g', e1, hw', _, _, hv', _⟩ := sortMerge_refines hw hl (fun a b => a < b)
  refine ⟨h, g, hw, hl, hv, h', g', e1, hw', ?_⟩
  rw [hv', hv, C17.sortMerge_eq_sortQuick C17.strictWeak_int_lt]
  decide +kernel

/-- kernel-checked runs of the pointer-level code on the concrete list 3,-1,2,-1,0 (`demo5`):
    forward walk, backward walk and `Len` after the call -/
example : (demo5.bind fun h => (h.sortMerge (fun a b => a < b) 0).map fun h => observe h 0) =
    some ([-1, -1, 0, 2, 3], [3, 2, 0, -1, -1], 5) := by decide +kernel
example : (demo5.bind fun h => (h.sortQuick (fun a b => a > b) 0).map fun h => observe h 0) =
    some ([3, 2, 0, -1, -1], [-1, -1, 0, 2, 3], 5) := by decide +kernel
/-- stability is visible with the key-projected comparison: 3 and 2 and 0 have key 100, -1 has 99 -/
example : (demo5.bind fun h =>
      (h.sortMerge (fun a b => (a + 1000) / 10 < (b + 1000) / 10) 0).map fun h => observe h 0) =
    some ([-1, -1, 3, 2, 0], [0, 2, 3, -1, -1], 5) := by decide +kernel
example : (demo5.bind fun h => h.isSorted (fun a b => a < b) 0) = some false := by decide +kernel
example : (demo5.bind fun h => (h.sortMerge (fun a b => a < b) 0).bind fun h => h.isSorted (fun a b => a < b) 0) =
    some true := by decide +kernel
example : ((heapRun (fun a b => a < b) 0
      [.push 2, .push (-3), .push 2, .push 7, .pop, .push 0, .pop, .pop, .pop, .pop, .pop]
      ({} : Heap).allocList.1).map fun p => p.2) =
    some [(-3, true), (0, true), (2, true), (2, true), (7, true), (0, false)] := by decide +kernel
example : seqRun (fun a b => a < b)
      [.push 2, .push (-3), .push 2, .push 7, .pop, .push 0, .pop, .pop, .pop, .pop, .pop] [] =
    ([], [(-3, true), (0, true), (2, true), (2, true), (7, true), (0, false)]) := by decide +kernel

end FunModel.C17Ptr
