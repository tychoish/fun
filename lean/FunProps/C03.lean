import FunModel.ErrPolicy
import FunGen.ErrPolicy
import FunGen.C03Shapes
import FunModel.FaultPipeShapes
import FunProofs.C03Pipe
import FunProofs.C03Report

/-! # C03 — worker-group error contract: property theorems

    Part (i): the decision table of `WorkerGroupConf.CanContinueOnError`.  The theorems are about
    `FunGen.canContinueOnError`, the definition regenerated from opts.go on every run. -/

namespace FunProps.C03
open FunModel

/-- The generated definition (what opts.go says now) is the hand-written model the process model
    `FunModel.FaultPipe` is built on. -/
theorem generated_eq_model (o : Conf) (c : ErrClass) :
    FunGen.canContinueOnError o c = canContinue o c := by
  -- a table over ten flags, compared row by row: holds however the generator prints the cascade
  obtain ⟨cp, ce, ic⟩ := o
  obtain ⟨n, p, s, e, x, a, ex⟩ := c
  revert cp ce ic n p s e x a ex
  decide +kernel

/-- For every configuration and every error class
    * the error is handed to the handler at most once, and exactly when it is reportable: panics
      always; otherwise never for nil / ErrIteratorSkip / io.EOF / an excluded error, for a context
      error only with IncludeContextExpirationErrors, and always for any other (plain) error —
      ErrCurrentOpAbort is a plain error here;
    * the worker may continue ⇔ nil or skip, ContinueOnPanic for a panic, ContinueOnError for a
      plain or excluded error; never after io.EOF or a context error. -/
theorem classification_table (o : Conf) (c : ErrClass) :
    let d := FunGen.canContinueOnError o c
    (c.isNil = true → d.reports = 0 ∧ d.cont = true) ∧
    (c.isNil = false → c.hadPanic = true → d.reports = 1 ∧ d.cont = o.continueOnPanic) ∧
    (c.isNil = false → c.hadPanic = false → c.isSkip = true → d.reports = 0 ∧ d.cont = true) ∧
    (c.isNil = false → c.hadPanic = false → c.isSkip = false → c.isEOF = true →
        d.reports = 0 ∧ d.cont = false) ∧
    (c.isNil = false → c.hadPanic = false → c.isSkip = false → c.isEOF = false → c.isCtx = true →
        d.reports = (if o.includeCtx && !c.isExcluded then 1 else 0) ∧ d.cont = false) ∧
    (c.isNil = false → c.hadPanic = false → c.isSkip = false → c.isEOF = false → c.isCtx = false →
        c.isExcluded = true → d.reports = 0 ∧ d.cont = o.continueOnError) ∧
    (c.isNil = false → c.hadPanic = false → c.isSkip = false → c.isEOF = false → c.isCtx = false →
        c.isExcluded = false → d.reports = 1 ∧ d.cont = o.continueOnError) ∧
    d.reports = (if c.reportable o then 1 else 0) ∧ d.cont = c.continues o := by
  intro d
  obtain ⟨hr, hc⟩ := canContinue_table o c
  rw [← show d = canContinue o c from generated_eq_model o c] at hr hc
  -- each row is the last two conjuncts read under the row's flags
  refine ⟨?_, ?_, ?_, ?_, ?_, ?_, ?_, hr, hc⟩ <;> intros <;>
    simp [ErrClass.reportable, ErrClass.continues, and_comm, *]

/-- the table is not vacuous: a wrapped, excluded plain error under ContinueOnError is dropped and the worker goes on;
    a panic carrying the same error is reported -/
example : FunGen.canContinueOnError ⟨false, true, false⟩
    (classify [7] (some (.wrap 9 (.leaf 7)))) = ⟨0, true⟩ := by decide
example : FunGen.canContinueOnError ⟨false, true, false⟩
    (classify [7] (parsePanicErr (some (.wrap 9 (.leaf 7))))) = ⟨1, false⟩ := by decide

/-! Part (ii): the worker group (`FunModel.FaultPipe`): any number of workers, any input, any
    outcome function, any configuration, every interleaving (`Reachable` = some action list leads
    from the initial state to the state).  `c.recovers = true` says that the user function runs
    under `WithRecover`, which holds for every construct the model stands for (listed in `FunModel/FaultPipe.lean`). -/

open FunModel.FaultPipe

/-- A panic of the user function never leaves the worker group. -/
theorem no_panic_escapes (c : Cfg) (hr : c.recovers = true) (input : List Nat) (s : St)
    (h : Reachable c input s) : s.escaped = false :=
  (reachable_inv hr h).esc

/-- … and the hypothesis matters: without `WithRecover` the same model lets a panic escape
    (kernel-checked witness). -/
example :
    let c : Cfg := { conf := ⟨false, false, false⟩, n := 1, gen := false, groupCancel := true, recovers := false, excluded := [],
                     outcome := fun _ => .panic (.leaf 7) }
    (run c (init c [0]) [.read, .handoff 0, .start 0, .finish 0]).map (·.escaped) = some true := by
  decide

/-- "once": as often as the item occurs in the input. -/
theorem at_most_once (c : Cfg) (hr : c.recovers = true) (input : List Nat) (s : St)
    (h : Reachable c input s) (a : Nat) : (starts s.log).count a ≤ input.count a :=
  (reachable_inv hr h).starts_count_le a

theorem no_stop_all_processed (c : Cfg) (hr : c.recovers = true) (input : List Nat) (s : St)
    (h : Reachable c input s) (ht : Terminal s) (hc : ∀ x ∈ fins s.log, c.cont x = true) :
    (starts s.log).Perm input ∧ s.coll.Perm (input.filter (fun x => (c.cls x).reportable c.conf)) := by
  have hi := reachable_inv hr h
  have hf := hi.terminal_complete ht hc
  refine ⟨(hi.terminal_starts_fins ht).trans hf, ?_⟩
  rw [hi.coll]
  have : c.reports = fun x => (c.cls x).reportable c.conf := funext (reports_eq_reportable c)
  rw [this]
  exact hf.filter _

/-- With ContinueOnError and ContinueOnPanic, and a user function that never *returns* io.EOF or a context error
    (those end a worker under every configuration), every item is processed exactly once — the started items are
    a permutation of the input — and every reportable failure, each exactly once, is in the collector. -/
theorem continue_mode_exactly_once_all_reported (c : Cfg) (hr : c.recovers = true) (input : List Nat) (s : St)
    (h : Reachable c input s) (ht : Terminal s)
    (hce : c.conf.continueOnError = true) (hcp : c.conf.continueOnPanic = true)
    (hres : ∀ x ∈ input, (c.cls x).hadPanic = true ∨ (c.cls x).isSkip = true ∨
              ((c.cls x).isEOF = false ∧ (c.cls x).isCtx = false)) :
    (starts s.log).Perm input ∧ s.coll.Perm (input.filter (fun x => (c.cls x).reportable c.conf)) := by
  apply no_stop_all_processed c hr input s h ht
  intro x hx
  have hxin := (reachable_inv hr h).mem_input_of_fin hx
  rw [cont_eq_continues]
  simp only [ErrClass.continues, hce, hcp]
  rcases hres x hxin with hp | hs | ⟨he, hcx⟩
  · simp [hp]
  · cases (c.cls x).hadPanic <;> simp [hs]
  · cases (c.cls x).hadPanic <;> simp [he, hcx]

theorem nil_iff_no_reportable_failure (c : Cfg) (hr : c.recovers = true) (input : List Nat) (s : St)
    (h : Reachable c input s)
    (hsolid : ∀ x e, (c.outcome x).result = some e → e.solid = true) :
    resultOf c s.coll = none ↔ ∀ x ∈ fins s.log, (c.cls x).reportable c.conf = false := by
  have hi := reachable_inv hr h
  have hall : ∀ y ∈ s.coll, c.reports y = true := fun y hy => by
    rw [reports_eq_reportable]; exact (hi.mem_coll.mp hy).2
  simp [resultOf_none_iff c s.coll hsolid hall, List.eq_nil_iff_forall_not_mem, hi.mem_coll]

/-- In every reachable state
    (1) no worker has started an item after it finished one it may not continue from (so without
        ContinueOnError / ContinueOnPanic the failing worker handles no further item), and such a
        worker has returned;
    (2) once a reportable failure has been finished the result is non-nil. -/
theorem abort_mode_nonnil_and_worker_stops (c : Cfg) (hr : c.recovers = true) (input : List Nat) (s : St)
    (h : Reachable c input s)
    (hsolid : ∀ x e, (c.outcome x).result = some e → e.solid = true) :
    workerStops c s.log = true ∧
    (∀ w, stoppedIn c w s.log = true → s.ws[w]? = some .done) ∧
    (∀ x ∈ fins s.log, (c.cls x).reportable c.conf = true → resultOf c s.coll ≠ none) := by
  have hi := reachable_inv hr h
  refine ⟨hi.wstops, hi.stopped, fun x hx hrep hnil => ?_⟩
  rw [(nil_iff_no_reportable_failure c hr input s h hsolid).mp hnil x hx] at hrep
  cases hrep

/-! #### the abort bound
    FULL PROPERTY (C03): "without ContinueOnError / ContinueOnPanic … the number of items started
    after the first failure returned is bounded by the number of workers rather than the rest of
    the input being consumed", for every construct the model stands for:

        ∀ c input s, c.recovers = true → Reachable c input s → afterStop c s.log ≤ c.n

    This holds for `Map` and `GenerateParallel` (`abort_bounded`, full strength, any n / input /
    outcomes / interleaving) and is FALSE for the ProcessParallel family (ProcessParallel,
    itertool.ParallelForEach / Process / Worker), which never cancels its group
    (`groupCancel = false`): kernel-checked witness `abort_unbounded_pp_family` below, open finding
    `ProcessParallel-family:abort-does-not-cancel-group` (the unedited TestParallelForEach/AbortOnPanic
    asserts that the item after the failure is processed).  What does hold for every construct is
    `abort_bounded_partial`. -/

/-- Constructs that cancel their group (Map, GenerateParallel). `afterStop` counts from the first finished call
    that stops the group: its result handling includes the cancellation. -/
theorem abort_bounded (c : Cfg) (hr : c.recovers = true) (hg : c.groupCancel = true) (input : List Nat) (s : St)
    (h : Reachable c input s) : afterStop c s.log ≤ c.n := by
  rw [afterStop_eq_afterCount hg]
  exact (reachable_inv hr h).afterCount_le

/-- What holds of the abort clause for EVERY construct, the ProcessParallel family included (missing there: the
    bound on `afterStop`): `at_most_once` and `abort_mode_nonnil_and_worker_stops`. -/
theorem abort_bounded_partial (c : Cfg) (hr : c.recovers = true) (input : List Nat) (s : St)
    (h : Reachable c input s)
    (hsolid : ∀ x e, (c.outcome x).result = some e → e.solid = true) :
    (∀ a, (starts s.log).count a ≤ input.count a) ∧
    workerStops c s.log = true ∧
    (∀ w, stoppedIn c w s.log = true → s.ws[w]? = some .done) ∧
    (∀ x ∈ fins s.log, (c.cls x).reportable c.conf = true → resultOf c s.coll ≠ none) := by
  obtain ⟨h1, h2, h3⟩ := abort_mode_nonnil_and_worker_stops c hr input s h hsolid
  exact ⟨fun a => at_most_once c hr input s h a, h1, h2, h3⟩

theorem pp_family_never_cancels (c : Cfg) (hr : c.recovers = true) (hg : c.groupCancel = false)
    (input : List Nat) (s : St) (h : Reachable c input s) : s.cancelled = false := by
  rw [(reachable_inv hr h).canc, any_isCancelFin]
  simp [Cfg.cancels, hg]

/-- kernel-checked witness that the full bound is false for the ProcessParallel family: 2 workers,
    6 items, abort mode, item 0 fails; the failing worker stops, the other one processes the
    remaining 5 items — 5 starts after the first failure returned, more than the 2 workers. -/
theorem abort_unbounded_pp_family :
    ∃ (c : Cfg) (input : List Nat) (s : St), c.recovers = true ∧ c.groupCancel = false ∧
      Reachable c input s ∧ Terminal s ∧ c.n < afterStop c s.log := by
  let c : Cfg := { conf := ⟨false, false, false⟩, n := 2, gen := false, groupCancel := false, recovers := true,
                   excluded := [], outcome := fun x => if x = 0 then .err (.leaf 100) else .ok }
  let acts : List Act :=
    [.read, .handoff 0, .start 0, .finish 0,
     .read, .handoff 1, .start 1, .finish 1, .read, .handoff 1, .start 1, .finish 1,
     .read, .handoff 1, .start 1, .finish 1, .read, .handoff 1, .start 1, .finish 1,
     .read, .handoff 1, .start 1, .finish 1, .rdExit, .exit 1]
  have hrun : (run c (init c [0, 1, 2, 3, 4, 5]) acts).any
      (fun s => decide (Terminal s) && decide (c.n < afterStop c s.log)) = true := by decide +kernel
  obtain ⟨s, hs, hp⟩ := (Option.any_eq_true _ _).mp hrun
  simp only [Bool.and_eq_true, decide_eq_true_eq] at hp
  exact ⟨c, [0, 1, 2, 3, 4, 5], s, rfl, rfl, ⟨acts, hs⟩, hp⟩

/-- every finished call that may not continue, other than the generator's plain io.EOF, stops the
    group — and cancels it in a construct that cancels: `abort_bounded` counts from the first failure -/
theorem stopping_call_cancels (c : Cfg) (x : Nat) (hstop : c.cont x = false)
    (hgen : c.gen = false ∨ (c.cls x).isEOF = false ∨ (c.cls x).hadPanic = true) :
    c.stops x = true ∧ (c.groupCancel = true → c.cancels x = true) := by
  have hs : c.stops x = true := by
    rcases hgen with h | h | h <;> simp [Cfg.stops, hstop, h]
  exact ⟨hs, fun hg => by simp [Cfg.cancels, hg, hs]⟩

/-- For every finished call with a reportable result, whatever `errors.Is` finds in that result (except the
    identity of a multi-error wrapper that `Stack.Push` opens up) it finds in the result of the construct; and
    a panic is found as ErrRecoveredPanic. -/
theorem reported_is_original (c : Cfg) (hr : c.recovers = true) (input : List Nat) (s : St)
    (h : Reachable c input s) (x : Nat) (hx : x ∈ fins s.log)
    (hrep : (c.cls x).reportable c.conf = true) :
    (∀ e, (c.outcome x).result = some e → ∀ t, e.is t = true → t ∉ e.shellIds →
        isOpt (resultOf c s.coll) t = true) ∧
    (∀ p, c.outcome x = .panic p → isOpt (resultOf c s.coll) idRecoveredPanic = true) := by
  have hmem : x ∈ s.coll := (reachable_inv hr h).mem_coll.mpr ⟨hx, hrep⟩
  exact ⟨fun e he t ht hs => resultOf_is_of_reported c s.coll x hmem e he t ht hs,
         fun p hp => resultOf_is_panic c s.coll x hmem p hp⟩

/-- never reported, nothing invented: what `errors.Is` finds in the result comes from a finished
    call whose result is reportable — so io.EOF, ErrIteratorSkip, excluded errors and (unless
    included) context errors are found only inside a reported panic or reported error that carries
    them. (Hypothesis: no result hides children behind an `Unwind()`-only type.) -/
theorem never_reported_nothing_invented (c : Cfg) (hr : c.recovers = true) (input : List Nat) (s : St)
    (h : Reachable c input s)
    (hvis : ∀ x e, (c.outcome x).result = some e → e.visible = true)
    (t : Nat) (ht : isOpt (resultOf c s.coll) t = true) :
    ∃ x ∈ fins s.log, (c.cls x).reportable c.conf = true ∧
      ∃ e, (c.outcome x).result = some e ∧ e.is t = true := by
  obtain ⟨x, hx, e, he, het⟩ := reported_of_resultOf_is c s.coll t hvis ht
  obtain ⟨hxf, hxr⟩ := (reachable_inv hr h).mem_coll.mp hx
  exact ⟨x, hxf, hxr, e, he, het⟩

/-- Drift guard (T-out): the Go functions the process model was written against are the ones in the
    tree now (hash of their comment-free canonical print, regenerated on every run). -/
theorem modelled_source_unchanged : FunGen.C03Shapes.shapes = expectedShapes := rfl

/-- The outcome predicate that the correspondence run evaluates on every observed run of the real
    constructs holds of every terminal state of the model (for the measured and the unmeasured form). -/
theorem terminal_allowed (c : Cfg) (hr : c.recovers = true) (input : List Nat) (s : St)
    (h : Reachable c input s) (ht : Terminal s) (measured : Bool) :
    allowed c input s.log measured = true :=
  (reachable_inv hr h).allowed ht measured

/-! ### non-vacuity: concrete runs (3 workers, 5 items, item 1 fails with a wrapped error in abort
    mode, item 3 panics) reach terminal states with the quantities the theorems talk about -/

def sampleCfg (ce cp : Bool) : Cfg :=
  { conf := ⟨cp, ce, false⟩, n := 3, gen := false, groupCancel := true, recovers := true, excluded := [],
    outcome := fun x => if x = 1 then .err (.wrap 301 (.leaf 101)) else if x = 3 then .panic (.leaf 103) else .ok }

/-- the well-formedness hypotheses of the theorems above (`hsolid`, `hvis`) hold of these outcomes -/
example : ∀ x e, ((sampleCfg false false).outcome x).result = some e → e.solid = true ∧ e.visible = true := by
  intro x e h
  simp only [sampleCfg] at h
  split at h
  · cases h; decide
  · split at h
    · cases h; decide
    · cases h

def sampleAbortRun : List Act :=
  [.read, .handoff 0, .read, .handoff 1, .read, .handoff 2, .start 0, .start 1, .read, .finish 1, .start 2,
   .finish 0, .handoff 0, .start 0, .finish 0, .finish 2, .rdExit, .exit 2]

/-- abort mode: worker 1 fails on item 1 and stops; two more items (2 and 3, which panics) are started
    afterwards (≤ 3 workers), item 4 is never read; the result finds the original error through its wrapper -/
example :
    (run (sampleCfg false false) (init (sampleCfg false false) [0, 1, 2, 3, 4]) sampleAbortRun).map
      (fun s => (decide (Terminal s), afterStop (sampleCfg false false) s.log, starts s.log, s.coll,
                 isOpt (resultOf (sampleCfg false false) s.coll) 101, s.src)) =
      some (true, 2, [3, 2, 1, 0], [3, 1], true, [4]) := by
  decide +kernel

def sampleContinueRun : List Act :=
  [.read, .handoff 0, .start 0, .finish 0, .read, .handoff 1, .start 1, .finish 1, .read, .handoff 1, .start 1,
   .finish 1, .read, .handoff 2, .start 2, .finish 2, .read, .handoff 0, .start 0, .finish 0, .rdExit,
   .exit 0, .exit 1, .exit 2]

/-- continue mode: all five items, both failures in the collector, ErrRecoveredPanic found -/
example :
    (run (sampleCfg true true) (init (sampleCfg true true) [0, 1, 2, 3, 4]) sampleContinueRun).map
      (fun s => (decide (Terminal s), starts s.log, s.coll,
                 isOpt (resultOf (sampleCfg true true) s.coll) idRecoveredPanic,
                 isOpt (resultOf (sampleCfg true true) s.coll) 101)) =
      some (true, [4, 3, 2, 1, 0], [3, 1], true, true) := by
  decide +kernel

/-- Open finding `ers.ParsePanic:error-slice-payload` in the model: a panic whose payload is a `[]error` is reported without
    ErrRecoveredPanic, and an empty slice is swallowed — `reported_is_original` therefore speaks of
    `.panic` outcomes only (kernel-checked witness). -/
example :
    let c : Cfg := { conf := ⟨false, true, false⟩, n := 1, gen := false, groupCancel := true, recovers := true, excluded := [],
                     outcome := fun x => if x = 0 then .panicSlice (.cons (.leaf 100) .nil) else .panicSlice .nil }
    (run c (init c [0, 1]) [.read, .handoff 0, .start 0, .finish 0, .read, .handoff 0, .start 0, .finish 0]).map
      (fun s => (s.coll, isOpt (resultOf c s.coll) idRecoveredPanic, isOpt (resultOf c s.coll) 100)) =
      some ([0], false, true) := by
  decide +kernel

end FunProps.C03
