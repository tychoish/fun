import FunProofs.DequePtr

/-! C06 (and the Deque half of C20) — pointer-level obligations. The link updates of `Deque.addAfter` and
    `Deque.pop` are regenerated from pubsub/deque.go on every run (lean/FunGen/DequePtr.lean, element
    heap of FunModel/Dll.lean). These theorems say that the list operations of the model the C06/C20
    theorems are about (FunModel/Deque.lean: `addEnd`, `popEnd` on `q`, `stale`, `vals`, `nextId`, and
    the neighbour function `nbr` the iterators follow) are the abstraction of that generated pointer
    code, for deques of any size:

    * `R h dq x` (FunProofs/DequePtr.lean): `dq.root` is the sentinel 0; `next` from the root visits
      exactly the identities of `x.q`, front to back, without repetition, and returns to the root, with
      `prev` its inverse (`Chain`, as for dt.List in C16); items equal the model's; every element points
      back at `dq`; every *removed* element still has the `next`/`prev` it had when it was unlinked, and
      these are the ones the model recorded in `stale`.
    * `abs h`: walk `next` from `root.next` to the root; `Inv h dq := ∃ x, R h dq x`.

    Guards that do not concern the links (`dq.closed`, the tracker's verdict, `it.isRoot()`) are Bool
    parameters of the generated functions; condition-variable signalling is not part of this level. -/
namespace FunModel.C06Gen
open FunModel.Dll FunModel.Deque FunModel.Conc FunProofs.DequePtr

/-- the guards the generator left abstract are the ones the model decides `addEnd` / `popEnd` by -/
theorem gen_guards :
    FunGen.DequePtr.addAfter_guards = ["dq.closed", "err := dq.tracker.add(); err != nil"] ∧
    FunGen.DequePtr.pop_guards = ["dq.closed || it.isRoot()"] := ⟨rfl, rfl⟩

/-- `makeDeque`'s heap (root linked to itself) represents every model state without elements -/
theorem init_represented (dq : Nat) {x : St} (hq : x.q = []) (hid : x.nextId = 1) : R (initHeap dq) dq x :=
  R.init dq hq hid

/-- generated `addAfter`, every branch, against the model's `addEnd`: called as `PushFront` does
    (`after = dq.root`) or as `PushBack` does (`after = dq.root.prev`, `aOf`), with the guards
    instantiated by the model's conditions, it runs without a nil dereference, reaches the final
    `return nil` (`k = 2`) exactly when the model answers ok, and the heap it leaves represents the
    model's new state (the fresh element is `h.nn = x.nextId`) -/
theorem addAfter_refines {h : Heap} {dq : Nat} {x : St} (hr : R h dq x) (d : End) (v : Int) :
    ∃ h' k, FunGen.DequePtr.addAfter h x.closed (x.tracker.add.2 != .ok) dq v (aOf x d) = some (h', k, none) ∧
      R h' dq (addEnd x d v).1 ∧ (k = 2 ↔ (addEnd x d v).2.1 = .ok) := addEnd_refines hr d v

/-- generated `pop`, every branch, against the model's `popEnd`: called on `dq.root.next` / `dq.root.prev`
    (`x.nbr d 0`, see `neighbour_is_pointer`) with the guard `dq.closed || it.isRoot()` instantiated by the
    model's `closed || q.isEmpty`, it returns the item the model returns, the heap it leaves represents
    the model's new state — including the new `stale` entry — and the popped element keeps its own
    `next` and `prev` -/
theorem pop_refines {h : Heap} {dq : Nat} {x : St} (hr : R h dq x) (d : End) :
    ∃ h' k, FunGen.DequePtr.pop h (x.closed || x.q.isEmpty) dq (x.nbr d 0) = some (h', k, (popEnd x d).2.1) ∧
      R h' dq (popEnd x d).1 ∧
      (∀ e, x.closed = false → x.nbr d 0 = e → e ≠ 0 →
        (h'.node e).next = (h.node e).next ∧ (h'.node e).prev = (h.node e).prev) :=
  let ⟨h', hg, hr', hk⟩ := popEnd_refines hr d
  ⟨h', _, hg, hr', hk⟩

/-- the model's neighbour function is the heap's pointer, in both directions, for every element ever
    allocated — root, linked, or removed (this is what the iterators of C20 and `waitPop` follow);
    in particular `dq.root.next` / `dq.root.prev` are `x.nbr d 0` -/
theorem neighbour_is_pointer {h : Heap} {dq : Nat} {x : St} (hr : R h dq x) {c : Nat} (hc : c < h.nn) :
    (h.node c).next = some (x.nbr .front c) ∧ (h.node c).prev = some (x.nbr .back c) :=
  hr.links_eq hc

/-- the abstraction of a representing heap is the model's deque; the root's link in direction `d` is the
    root itself (`it.isRoot()` for the element `pop` is called on) iff the deque is empty -/
theorem abs_is_model {h : Heap} {dq : Nat} {x : St} (hr : R h dq x) (d : End) :
    abs h = x.q ∧ (x.nbr d 0 = 0 ↔ x.q = []) := ⟨hr.abs_eq, hr.nbr_zero_iff d⟩

/-- `abs (addAfter h root) = new :: abs h` and `abs (addAfter h root.prev) = abs h ++ [new]`: on heaps
    satisfying the representation invariant the generated splice (guards off) is push-front / push-back of
    the freshly allocated element and keeps the invariant -/
theorem abs_addAfter {h : Heap} {dq : Nat} (hi : Inv h dq) (d : End) (v : Int) {a : Nat}
    (ha : some a = match d with | .front => (h.hdr dq).root | .back => (h.node 0).prev) :
    ∃ h', FunGen.DequePtr.addAfter h false false dq v a = some (h', 2, none) ∧ Inv h' dq ∧
      abs h' = addQ d (h.nn, v) (abs h) := by
  obtain ⟨x, hr⟩ := hi
  have hro := hr.openSt
  have ha' : a = aOf (openSt x) d := by
    cases d with
    | front => simp only [hr.root] at ha; exact Option.some.inj ha
    | back => simp only [(hro.links_eq hr.pos).2] at ha; exact Option.some.inj ha
  obtain ⟨h', k, hg, hr', hk⟩ := addEnd_refines hro d v
  have hok : (addEnd (openSt x) d v).2.1 = .ok := by simp [addEnd, openSt, Tracker.add]
  have hk2 : k = 2 := hk.2 hok
  subst hk2
  refine ⟨h', by rw [ha']; simpa [openSt, Tracker.add] using hg, ⟨_, hr'⟩, ?_⟩
  rw [hr'.abs_eq, hr.abs_eq, hr.nn]
  cases d <;> simp [addEnd, openSt, Tracker.add, addQ]

/-- `abs (pop h root.next) = tail`, `abs (pop h root.prev) = dropLast`: if the abstraction is
    `e :: rest` (resp. `rest ++ [e]`) then `root.next` (resp. `root.prev`) is `e`, the generated unlink
    returns `e`'s item, leaves `rest`, keeps the invariant, and does not touch `e.next` / `e.prev` -/
theorem abs_pop {h : Heap} {dq : Nat} (hi : Inv h dq) (d : End) {e : Nat} {v : Int} {rest : List (Nat × Int)}
    (ha : abs h = addQ d (e, v) rest) :
    (match d with | .front => (h.node 0).next | .back => (h.node 0).prev) = some e ∧
    ∃ h', FunGen.DequePtr.pop h false dq e = some (h', 1, some v) ∧ Inv h' dq ∧ abs h' = rest ∧
      (h'.node e).next = (h.node e).next ∧ (h'.node e).prev = (h.node e).prev := by
  obtain ⟨x, hr⟩ := hi
  have hro := hr.openSt
  rw [hr.abs_eq] at ha
  have hq : (openSt x).q = addQ d (e, v) rest := ha
  have hpop := popEnd_addQ (x := openSt x) rfl hq
  have hnbr := nbr_root_addQ hq
  have he0 : e ≠ 0 := by
    intro e0
    exact addQ_ne_nil d _ _ (hq.symm.trans ((hro.nbr_zero_iff d).1 (hnbr.trans e0)))
  obtain ⟨h', hg, hr', hkeep⟩ := popEnd_refines hro d
  have hne : ((openSt x).closed || (openSt x).q.isEmpty) = false := by
    rw [hq, List.isEmpty_eq_false_iff.2 (addQ_ne_nil d _ _)]; rfl
  rw [hnbr, hne, hpop] at hg
  rw [hpop] at hr'
  refine ⟨?_, h', hg, ⟨_, hr'⟩, hr'.abs_eq, hkeep e rfl hnbr he0⟩
  cases d with
  | front => rw [(hro.links_eq hr.pos).1, hnbr]
  | back => rw [(hro.links_eq hr.pos).2, hnbr]

/-- the deque is empty exactly when the root points at itself, in either direction -/
theorem abs_empty_iff {h : Heap} {dq : Nat} (hi : Inv h dq) :
    (abs h = [] ↔ (h.node 0).next = some 0) ∧ (abs h = [] ↔ (h.node 0).prev = some 0) := by
  obtain ⟨x, hr⟩ := hi
  rw [hr.abs_eq, (hr.links_eq hr.pos).1, (hr.links_eq hr.pos).2]
  constructor
  · rw [← hr.nbr_zero_iff .front]; simp
  · rw [← hr.nbr_zero_iff .back]; simp

/-- every reachable state of the concurrent deque system (any programs, any schedule, any size; `ForcePush`
    = one generated `pop` then one generated `addAfter`) is represented by a heap obtained from
    `makeDeque`'s by calls of the generated functions -/
theorem reachable_represented (dq : Nat) {s0 s : Sys St FunModel.Deque.Op} (hwf0 : s0.WF) (h0 : Rep dq s0.subj)
    (hr : Reach subject s0 s) : Rep dq s.subj := reach_rep dq hwf0 h0 hr

/-! non-vacuity: push-front 5, push-back 7, pop-front on the model and on the heap -/
example : ∃ h x, R h 0 x ∧ x.q = [(2, 7)] ∧ x.stale = [(1, 2, 0)] ∧ x.closed = false := by
  have r0 : R (initHeap 0) 0 { tracker := .noLimit 0 } := init_represented 0 rfl rfl
  obtain ⟨h1, _, _, r1, _⟩ := addAfter_refines r0 .front 5
  obtain ⟨h2, _, _, r2, _⟩ := addAfter_refines r1 .back 7
  obtain ⟨h3, _, _, r3, _⟩ := pop_refines r2 .front
  refine ⟨h3, _, r3, ?_, ?_, ?_⟩ <;> simp [addEnd, popEnd, Tracker.add]

example : Rep 0 ({ tracker := .hard 3 0 } : St) := ⟨_, .init, init_represented 0 rfl rfl⟩

/-- kernel-checked witness on concrete heaps: push-front 5, push-back 7, pop-front; the popped element 1
    still has `next = 2`, `prev = root`, and the cycle is root ⇄ 2 -/
example :
    (do let (h1, _, _) ← FunGen.DequePtr.addAfter (initHeap 0) false false 0 5 0
        let a ← (h1.node 0).prev
        let (h2, _, _) ← FunGen.DequePtr.addAfter h1 false false 0 7 a
        let f ← (h2.node 0).next
        let (h3, _, it) ← FunGen.DequePtr.pop h2 false 0 f
        pure (it, (h3.node 0).next, (h3.node 0).prev, (h3.node 2).next, (h3.node 2).prev, (h3.node 1).next, (h3.node 1).prev)) =
      some (some 5, some 2, some 2, some 0, some 0, some 2, some 0) := by
  rfl

end FunModel.C06Gen
