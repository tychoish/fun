import FunModel.Lockset

/-! Lemmas for C13: the classical lock-set argument, once per protection class, over traces of
unboundedly many threads, then the bridge from extracted facts to the semantic discipline. -/

namespace FunModel.Lockset

variable {tr : Trace}

theorem At.inj {i : Nat} {t t' : Tid} {a a' : Act} (h : At tr i t a) (h' : At tr i t' a') : t = t' ∧ a = a' := by
  cases h.symm.trans h'
  exact ⟨rfl, rfl⟩

theorem HB.lt {i j : Nat} (h : HB tr i j) : i < j := by
  induction h with
  | po h _ _ => exact h
  | relAcq h _ _ => exact h
  | once h _ _ => exact h
  | latch h _ _ => exact h
  | spawn h _ _ => exact h
  | trans _ _ ih1 ih2 => exact Nat.lt_trans ih1 ih2

/-- two steps that both hold mutex `m` are ordered: the earlier holder released `m` before the later one acquired it -/
theorem hb_mutex (wf : WF tr) {i j : Nat} {t₁ t₂ : Tid} {a b : Act} {m : Nat}
    (hij : i < j) (hi : At tr i t₁ a) (hj : At tr j t₂ b)
    (h1 : Holds tr i t₁ (.mu m)) (h2 : Holds tr j t₂ (.mu m)) : HB tr i j := by
  by_cases ht : t₁ = t₂
  · subst ht; exact HB.po hij hi hj
  obtain ⟨j1, hj1i, hacq1, hnorel1⟩ := h1
  obtain ⟨j2, hj2j, hacq2, hnorel2⟩ := h2
  -- the later holder acquired after step `i`: otherwise one of the two acquired while the other held `m`
  have hj2 : i < j2 := by
    refine Nat.lt_of_not_le fun hle => ?_
    rcases Nat.lt_trichotomy j2 j1 with h | rfl | h
    · exact wf.mutex j1 t₁ m hacq1 t₂ ⟨j2, h, hacq2, fun k hk1 hk2 => hnorel2 k hk1 (by omega)⟩
    · exact ht (At.inj hacq1 hacq2).1
    · rcases Nat.lt_or_eq_of_le hle with h' | rfl
      · exact wf.mutex j2 t₂ m hacq2 t₁ ⟨j1, h, hacq1, fun k hk1 hk2 => hnorel1 k hk1 (by omega)⟩
      · exact ht (At.inj hi hacq2).1
  -- so the earlier holder released in between, at or after step `i`
  obtain ⟨k, hk1, hk2, hrel⟩ : ∃ k, j1 < k ∧ k < j2 ∧ At tr k t₁ (.rel m) :=
    Classical.byContradiction fun hne =>
      wf.mutex j2 t₂ m hacq2 t₁ ⟨j1, by omega, hacq1, fun k hk1 hk2 hat => hne ⟨k, hk1, hk2, hat⟩⟩
  have hki : i ≤ k := Nat.le_of_not_lt fun h => hnorel1 k hk1 h hrel
  have h2 : HB tr k j := HB.trans (HB.relAcq hk2 hrel hacq2) (HB.po hj2j hacq2 hj)
  rcases Nat.lt_or_eq_of_le hki with h | rfl
  · exact HB.trans (HB.po h hi hrel) h2
  · exact h2

theorem once_same_thread (wf : WF tr) {i j : Nat} {t₁ t₂ : Tid} {o : Nat}
    (h1 : Holds tr i t₁ (.inOnce o)) (h2 : Holds tr j t₂ (.inOnce o)) : t₁ = t₂ := by
  obtain ⟨b1, _, hb1, _⟩ := h1
  obtain ⟨b2, _, hb2, _⟩ := h2
  have := wf.onceBeginUniq b1 b2 _ _ o hb1 hb2
  subst this
  exact (At.inj hb1 hb2).1

/-- the body of Once `o` that a step is inside of ends, at or after that step, before any `Do` on `o` returns -/
theorem once_end_between (wf : WF tr) {i j : Nat} {t₁ t₂ : Tid} {o : Nat}
    (h1 : Holds tr i t₁ (.inOnce o)) (h2 : Holds tr j t₂ (.afterOnce o)) :
    ∃ e l, i ≤ e ∧ e < l ∧ l < j ∧ At tr e t₁ (.onceEnd o) ∧ At tr l t₂ (.onceRet o) := by
  obtain ⟨b0, hbi, hbeg, hnoend⟩ := h1
  obtain ⟨l, hlj, hret⟩ := h2
  obtain ⟨e, t3, hel, hend⟩ := wf.onceRet l t₂ o hret
  obtain ⟨b', hb'e, hbeg', _⟩ := wf.onceEnd e t3 o hend
  cases wf.onceBeginUniq b0 b' _ _ o hbeg hbeg'
  cases (At.inj hbeg hbeg').1
  exact ⟨e, l, Nat.le_of_not_lt fun h => hnoend e hb'e h hend, hel, hlj, hend, hret⟩

theorem hb_once (wf : WF tr) {i j : Nat} {t₁ t₂ : Tid} {a b : Act} {o : Nat}
    (hi : At tr i t₁ a) (hj : At tr j t₂ b)
    (h1 : Holds tr i t₁ (.inOnce o)) (h2 : Holds tr j t₂ (.afterOnce o)) : HB tr i j := by
  obtain ⟨e, l, hie, hel, hlj, hend, hret⟩ := once_end_between wf h1 h2
  have h2 : HB tr e j := HB.trans (HB.once hel hend hret) (HB.po hlj hret hj)
  rcases Nat.lt_or_eq_of_le hie with h | rfl
  · exact HB.trans (HB.po h hi hend) h2
  · exact h2

/-- the read-then-write case of class `once` cannot occur -/
theorem once_order (wf : WF tr) {i j : Nat} {t₁ t₂ : Tid} {o : Nat} (hij : i < j)
    (h1 : Holds tr i t₁ (.afterOnce o)) (h2 : Holds tr j t₂ (.inOnce o)) : False := by
  obtain ⟨e, l, hje, hel, hli, _⟩ := once_end_between wf h2 h1
  omega

theorem guard_unknown_kind {c : Class} {h : List Tok} : guardOK c .unknown h = false := by
  cases c <;> rfl

theorem guard_mutex {m : Nat} {k : Kind} {h : List Tok} (hg : guardOK (.mutex m) k h = true) : Tok.mu m ∈ h := by
  cases k with
  | latchSet | unknown => cases hg
  | _ => exact List.contains_iff_mem.mp hg

theorem guard_once {o : Nat} {k : Kind} {h : List Tok} (hg : guardOK (.once o) k h = true) :
    Tok.inOnce o ∈ h ∨ (k = .rd ∧ Tok.afterOnce o ∈ h) := by
  cases k with
  | wr => exact .inl (List.contains_iff_mem.mp hg)
  | rd => exact (Bool.or_eq_true_iff.mp hg).imp List.contains_iff_mem.mp fun h => ⟨rfl, List.contains_iff_mem.mp h⟩
  | _ => cases hg

theorem guard_atomic {k : Kind} {h : List Tok} (hg : guardOK .atomic k h = true) : k = .atomic := by
  cases k with
  | atomic => rfl
  | _ => cases hg

theorem guard_published {k : Kind} {h : List Tok} (hg : guardOK .published k h = true) : k = .rd := by
  cases k with
  | rd => rfl
  | _ => cases hg

theorem guard_latched {m a : Nat} {k : Kind} {h : List Tok} (hg : guardOK (.latched m a) k h = true) :
    (k = .wr ∨ k = .rd) ∧ (Tok.mu m ∈ h ∨ (k = .rd ∧ Tok.afterLatch a ∈ h)) := by
  cases k with
  | wr => exact ⟨.inl rfl, .inl (List.contains_iff_mem.mp hg)⟩
  | rd => exact ⟨.inr rfl, (Bool.or_eq_true_iff.mp hg).imp List.contains_iff_mem.mp fun h => ⟨rfl, List.contains_iff_mem.mp h⟩⟩
  | _ => cases hg

theorem guard_latch {m : Nat} {k : Kind} {h : List Tok} (hg : guardOK (.latch m) k h = true) :
    (k = .latchSet ∧ Tok.mu m ∈ h) ∨ k = .atomic := by
  cases k with
  | latchSet => exact .inl ⟨rfl, List.contains_iff_mem.mp hg⟩
  | atomic => exact .inr rfl
  | _ => cases hg

theorem guard_unknown {k : Kind} {h : List Tok} (hg : guardOK .unknown k h = true) : False := by
  cases k <;> cases hg

/-- class `latched m a`, write under `m` then read after observing flag `a` final: the write is ordered before the
    store that set the flag by the mutex both hold (`PreLatch` puts the store later, the discipline of class
    `latch m` puts it under `m`), the store before the observation by the `latch` edge -/
theorem hb_latch (wf : WF tr) {cls : Nat → Class} (hd : TraceDisciplined cls tr) (hpre : PreLatch cls tr)
    (hcons : LatchConsistent cls) {i j : Nat} {t₁ t₂ : Tid} {n f s l c m a : Nat} {b : Act}
    (hi : At tr i t₁ (.acc n f s l c .wr)) (hj : At tr j t₂ b) (hc : cls l = .latched m a)
    (h1 : Holds tr i t₁ (.mu m)) (h2 : Holds tr j t₂ (.afterLatch a)) : HB tr i j := by
  obtain ⟨lo, hloj, hobs⟩ := h2
  obtain ⟨k, t3, n', f', s', c', hklo, hset⟩ := wf.latchObs lo t₂ a hobs
  have hik : i < k := by
    refine Nat.lt_of_not_le fun hle => ?_
    rcases Nat.lt_or_eq_of_le hle with h' | rfl
    · exact hpre i t₁ n f s l c m a hi hc k t3 n' f' s' c' h' hset
    · cases (At.inj hi hset).2
  obtain ⟨held, hheld, hg⟩ := hd k t3 n' f' s' a c' .latchSet hset
  rw [hcons l m a hc] at hg
  have hmu : Holds tr k t3 (.mu m) := by
    rcases guard_latch hg with ⟨_, hm⟩ | hk
    · exact hheld _ hm
    · cases hk
  exact HB.trans (hb_mutex wf hik hi hset h1 hmu) (HB.trans (HB.latch hklo hset hobs) (HB.po hloj hobs hj))

/-- the read-then-write case of class `latched` cannot occur -/
theorem latch_order (wf : WF tr) {cls : Nat → Class} (hpre : PreLatch cls tr)
    {i j : Nat} {t₁ t₂ : Tid} {n f s l c m a : Nat} (hij : i < j)
    (hj : At tr j t₂ (.acc n f s l c .wr)) (hc : cls l = .latched m a)
    (h1 : Holds tr i t₁ (.afterLatch a)) : False := by
  obtain ⟨lo, hloi, hobs⟩ := h1
  obtain ⟨k, t3, n', f', s', c', hklo, hset⟩ := wf.latchObs lo t₁ a hobs
  exact hpre j t₂ n f s l c m a hj hc k t3 n' f' s' c' (by omega) hset

/-- the lock-set argument on traces (C13 `trace_race_free`): one case per class, closed by that class's ordering
    lemma or by the two kinds not conflicting -/
theorem lockset_race_free_core (cls : Nat → Class) (tr : Trace) (wf : WF tr)
    (hd : TraceDisciplined cls tr) (hconf : ConfinedOK cls tr) (hpre : PreLatch cls tr)
    (hcons : LatchConsistent cls) : ¬ Race tr := by
  rintro ⟨i, j, t₁, t₂, n₁, f₁, s₁, n₂, f₂, s₂, l, c, k₁, k₂, hij, hi, hj, hcf, hnhb⟩
  apply hnhb
  by_cases ht : t₁ = t₂
  · subst ht; exact HB.po hij hi hj
  obtain ⟨h1, hh1, hg1⟩ := hd i t₁ n₁ f₁ s₁ l c k₁ hi
  obtain ⟨h2, hh2, hg2⟩ := hd j t₂ n₂ f₂ s₂ l c k₂ hj
  match hc : cls l, hg1, hg2 with
  | .mutex m, hg1, hg2 => exact hb_mutex wf hij hi hj (hh1 _ (guard_mutex hg1)) (hh2 _ (guard_mutex hg2))
  | .once o, hg1, hg2 =>
    rcases guard_once hg1 with hin1 | ⟨rfl, haf1⟩ <;> rcases guard_once hg2 with hin2 | ⟨rfl, haf2⟩
    · exact absurd (once_same_thread wf (hh1 _ hin1) (hh2 _ hin2)) ht
    · exact hb_once wf hi hj (hh1 _ hin1) (hh2 _ haf2)
    · exact (once_order wf hij (hh1 _ haf1) (hh2 _ hin2)).elim
    · cases hcf
  | .atomic, hg1, hg2 => cases guard_atomic hg1; cases guard_atomic hg2; cases hcf
  | .published, hg1, hg2 => cases guard_published hg1; cases guard_published hg2; cases hcf
  | .confined, _, _ => exact absurd (hconf i j t₁ t₂ n₁ f₁ s₁ n₂ f₂ s₂ l c k₁ k₂ hi hj hc) ht
  | .latched m a, hg1, hg2 =>
    obtain ⟨hk1, hm1 | ⟨rfl, hl1⟩⟩ := guard_latched hg1 <;> obtain ⟨hk2, hm2 | ⟨rfl, hl2⟩⟩ := guard_latched hg2
    · exact hb_mutex wf hij hi hj (hh1 _ hm1) (hh2 _ hm2)
    · rcases hk1 with rfl | rfl
      · exact hb_latch wf hd hpre hcons hi hj hc (hh1 _ hm1) (hh2 _ hl2)
      · cases hcf
    · rcases hk2 with rfl | rfl
      · exact (latch_order wf hpre hij hj hc (hh1 _ hl1)).elim
      · cases hcf
    · cases hcf
  | .latch m, hg1, hg2 =>
    rcases guard_latch hg1 with ⟨rfl, _⟩ | rfl <;> rcases guard_latch hg2 with ⟨rfl, _⟩ | rfl <;> cases hcf
  | .unknown, hg1, _ => exact (guard_unknown hg1).elim

theorem nodeOK_of_disciplined {F : Facts} (hD : Disciplined F = true) {n : Nat} {nd : Node}
    (hn : F.nodes[n]? = some nd) :
    (∀ en ∈ nd.entries, subset nd.assumes en.held = true) ∧ (∀ cl ∈ nd.calls, callOK F nd cl = true) ∧
      ∀ st ∈ nd.sites, siteOK F nd st = true := by
  have := List.all_eq_true.mp (Bool.and_eq_true_iff.mp hD).2 nd (List.mem_of_getElem? hn)
  simpa [nodeOK, and_assoc] using this

theorem mem_of_subset {a b : List Tok} (h : subset a b = true) {t : Tok} (ht : t ∈ a) : t ∈ b := by
  simpa using List.all_eq_true.mp h t ht

/-- membership in a list of the shape `siteHeld` and `callHeld` share -/
theorem mem_held {assumes lost held : List Tok} {foreign : Bool} {tok : Tok}
    (h : tok ∈ (if foreign then [] else assumes.filter (fun t => !lost.contains t) ++ held)) :
    foreign = false ∧ ((tok ∈ assumes ∧ tok ∉ lost) ∨ tok ∈ held) := by
  cases foreign with
  | true => cases h
  | false => simpa using h

theorem latchConsistent_of_disciplined {F : Facts} (hD : Disciplined F = true) : LatchConsistent F.classOf := by
  intro l m a hl
  have hmem : Class.latched m a ∈ F.classes := by
    unfold Facts.classOf at hl
    rw [List.getD_eq_getElem?_getD] at hl
    cases h : F.classes[l]? with
    | none => rw [h] at hl; cases hl
    | some c => rw [h] at hl; cases hl; exact List.mem_of_getElem? h
  simpa [classOK] using List.all_eq_true.mp (Bool.and_eq_true_iff.mp hD).1 _ hmem

/-- every frame is created with the tokens its node assumes really held (induction over the trace:
entries provide them by the entry check, calls by the call check and the caller's own frame) -/
theorem assumes_held {F : Facts} (hD : Disciplined F = true) (hc : Conforms F tr) :
    ∀ (e : Nat) (t : Tid) (n : Nat) (nd : Node), Creates F tr e t n → F.nodes[n]? = some nd →
      ∀ tok ∈ nd.assumes, Holds tr e t tok := by
  intro e
  induction e using Nat.strongRecOn with
  | _ e ih =>
    intro t n nd hcr hn tok htok
    rcases hcr with ⟨k, hat⟩ | ⟨n₀, e₀, c, nd₀, cl, hat, hn₀, hcl, hcallee⟩
    · obtain ⟨nd', en, hn', hen, hheld⟩ := hc.enterOK e t n k hat
      cases hn.symm.trans hn'
      exact hheld tok (mem_of_subset ((nodeOK_of_disciplined hD hn).1 en (List.mem_of_getElem? hen)) htok)
    · obtain ⟨nd', cl', hn', hcl', hcr₀, he₀, hheld, hcarry⟩ := hc.callOK e t n₀ e₀ c hat
      cases hn₀.symm.trans hn'
      cases hcl.symm.trans hcl'
      have hcok := (nodeOK_of_disciplined hD hn₀).2.1 cl (List.mem_of_getElem? hcl)
      simp only [callOK, Bool.and_eq_true, hcallee, Facts.assumesOf, hn] at hcok
      obtain ⟨hf, ⟨ha, hnl⟩ | hh⟩ := mem_held (mem_of_subset hcok.2 htok)
      · exact hcarry hf tok ha hnl (ih e₀ he₀ t n₀ nd₀ hcr₀ hn₀ tok ha)
      · exact hheld tok hh

theorem conforms_disciplined {F : Facts} (hD : Disciplined F = true) (hc : Conforms F tr) :
    TraceDisciplined F.classOf tr := by
  intro i t n f s l c k hat
  obtain ⟨nd, st, hn, hst, rfl, rfl, hex, hcr, hfi, hloc, hcarry⟩ := hc.accOK i t n f s l c k hat
  refine ⟨siteHeld nd st, fun tok htok => ?_, ?_⟩
  · obtain ⟨hf, ⟨ha, hnl⟩ | hh⟩ := mem_held htok
    · exact hcarry hf tok ha hnl (assumes_held hD hc f t n nd hcr hn tok ha)
    · exact hloc tok hh
  · simpa [siteOK, hex] using (nodeOK_of_disciplined hD hn).2.2 st (List.mem_of_getElem? hst)

end FunModel.Lockset
