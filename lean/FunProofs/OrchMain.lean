import FunProofs.ErrPolicy
import FunProofs.Err
import FunProofs.OrchOrc
import FunProofs.OrchGrp
import FunProofs.OrchPool
import FunProofs.OrchCln

/-! C11: what follows from the four invariants — the facts `FunProps/C11.lean` states about the end of
    a run, and the outcome predicates (`allowed…`) on the observation of a reachable state. First, what a
    collector of collectors resolves to (Service.Wait results handed to the orchestrator's / group's collector,
    whose result is handed to the collector of the construct's own service): `nested_is_parts`, `nested_complete`. -/

namespace FunModel.Orch
open FunModel

theorem nested_is_parts (adds : List (Option Err)) (t : Nat) :
    isOpt (collectorResolve (collect [collectorResolve (collect adds)])) t =
      (adds.flatMap optParts).any (fun c => c.is t) := by
  simp [collect, collector_is_parts, collector_parts]

theorem optParts_svcWait (o : Outcome) : optParts (svcWait o) = (optParts o.result).reverse := by
  simp [svcWait, collect, collector_parts]

/-- `hmem`: the result of a unit is among the adds as such, or as the Wait result of its service -/
theorem mem_parts_of_result {adds : List (Option Err)} {o : Outcome}
    (hmem : o.result ∈ adds ∨ svcWait o ∈ adds) {p : Err} (hp : p ∈ optParts o.result) :
    p ∈ adds.flatMap optParts :=
  hmem.elim (fun hm => List.mem_flatMap_of_mem hm hp)
    fun hm => List.mem_flatMap_of_mem hm (by rw [optParts_svcWait]; exact List.mem_reverse.mpr hp)

/-- errors.Is finds in the construct's Wait result whatever it finds in the error the unit's function returned (except
    the identity of a multi-error wrapper that `Stack.Push` opens up); a unit that panicked shows as ErrRecoveredPanic -/
theorem nested_complete (adds : List (Option Err)) (o : Outcome) (hmem : o.result ∈ adds ∨ svcWait o ∈ adds) :
    (∀ e, o.result = some e → ∀ t, e.is t = true → t ∉ e.shellIds →
        isOpt (collectorResolve (collect [collectorResolve (collect adds)])) t = true) ∧
    (∀ p, o = .panic p →
        isOpt (collectorResolve (collect [collectorResolve (collect adds)])) idRecoveredPanic = true) := by
  simp only [nested_is_parts, List.any_eq_true]
  refine ⟨fun e he t ht hs => ?_, fun p ho => ?_⟩
  · obtain ⟨q, hq, hqt⟩ := List.any_eq_true.mp ((Err.parts_of_is t e ht).resolve_left hs)
    exact ⟨q, mem_parts_of_result hmem (by rw [he]; exact hq), hqt⟩
  · subst ho
    exact ⟨.leaf idRecoveredPanic, mem_parts_of_result hmem (by simp [Outcome.result, parsePanic_parts]), by simp [Err.is]⟩

theorem Outcome.result_of_fails {o : Outcome} (h : o.fails = true) : ∃ e, o.result = some e := by
  cases o <;> simp_all [Outcome.fails, Outcome.result]

theorem Outcome.panic_of_isPanic {o : Outcome} (h : o.isPanic = true) : ∃ p, o = .panic p := by
  cases o <;> simp_all [Outcome.isPanic]

/-- the harness' way of recognising unit i's error: `ident i` is found in it, and is not the
    identity of a multi-error wrapper that is thrown away when the error is pushed on a stack -/
def Identifies (out : Nat → Outcome) (ident : Nat → Nat) : Prop :=
  ∀ i e, (out i).fails = true → (out i).result = some e → e.is (ident i) = true ∧ ident i ∉ e.shellIds

theorem mem_results {out : Nat → Outcome} {coll : List Nat} {j : Nat} (h : j ∈ coll) :
    (out j).result ∈ coll.reverse.map (fun j => (out j).result) :=
  List.mem_map.mpr ⟨j, List.mem_reverse.mpr h, rfl⟩

/-- the two halves of `reported` -/
theorem reported_of_mem {out : Nat → Outcome} {ident : Nat → Nat} (hid : Identifies out ident)
    {adds : List (Option Err)} {i : Nat} (hmem : (out i).result ∈ adds ∨ svcWait (out i) ∈ adds) :
    (!(out i).fails || isOpt (collectorResolve (collect [collectorResolve (collect adds)])) (ident i)) = true ∧
    (!(out i).isPanic || isOpt (collectorResolve (collect [collectorResolve (collect adds)])) idRecoveredPanic) = true := by
  obtain ⟨h1, h2⟩ := nested_complete adds (out i) hmem
  simp only [Bool.or_eq_true, Bool.not_eq_true']
  constructor
  · cases hfl : (out i).fails with
    | false => exact Or.inl rfl
    | true =>
      obtain ⟨e, he⟩ := Outcome.result_of_fails hfl
      obtain ⟨h3, h4⟩ := hid i e hfl he
      exact Or.inr (h1 e he _ h3 h4)
  · cases hpn : (out i).isPanic with
    | false => exact Or.inl rfl
    | true =>
      obtain ⟨p, ho⟩ := Outcome.panic_of_isPanic hpn
      exact Or.inr (h2 p ho)

theorem allUnits_of {o : Obs} {p : Nat → Bool} (h : ∀ i, p i = true) : allUnits o p = true := by
  simp [allUnits, List.all_eq_true, h]

theorem imp_bool {a b x : Bool} (h : a = true → b = true → x = true) : (!(a && b) || x) = true := by
  cases a <;> cases b <;> simp_all

theorem or_zero {a : Bool} {n : Nat} (h : n ≠ 0 → a = true) : (a || n == 0) = true := by
  by_cases hn : n = 0 <;> simp_all

namespace Orc

theorem Inv.live_task {s : St} (hi : Inv s) (ho : s.orch = .draining ∨ s.orch = .returned) {i : Nat}
    (hl : s.addSt i = .live) : s.task i ≠ .none :=
  (hi.handed_where i (by simp [hl])).resolve_left fun hq => by have := hi.over_queue ho i hq; rw [hl] at this; cases this

theorem Inv.live_done {s : St} (hi : Inv s) (hret : s.orch = .returned) {i : Nat} (hl : s.addSt i = .live) :
    s.task i = .done :=
  hi.ret_done hret i (hi.live_task (Or.inr hret) hl)

/-- `wg.Wait()` lets the orchestrator's Run return only when every service that was handed over before
    the context ended has returned -/
theorem Inv.return_enabled {c : Cfg} {s : St} (hi : Inv s) (hen : (step c s .orchReturn).isSome = true) {i : Nat}
    (hl : s.addSt i = .live) : s.phase i = .finished := by
  obtain ⟨s', hs⟩ := Option.isSome_iff_exists.mp hen
  obtain ⟨⟨ho, hw⟩, _⟩ := ite_some_eq hs
  exact (hi.done_fin i (hi.idle_done hw (hi.live_task (Or.inl ho) hl))).1

theorem Inv.live_collected {c : Cfg} {s : St} (hi : Inv s) (hret : s.orch = .returned) {i : Nat}
    (hl : s.addSt i = .live) : svcWait (c.outcome i) ∈ s.coll.reverse.map (entryErr c) :=
  List.mem_map.mpr ⟨.wait i true, List.mem_reverse.mpr (hi.done_fin i (hi.live_done hret hl)).2, rfl⟩

theorem allowed_of_inv {c : Cfg} {s : St} (hi : Inv s) (ident : Nat → Nat) (hid : Identifies c.outcome ident) (n : Nat) :
    allowedOrch c.outcome (obsOf c ident n s) = true := by
  refine allUnits_of fun i => ?_
  simp only [obsOf, reported, Bool.and_eq_true]
  refine ⟨⟨decide_eq_true (hi.once.le i), imp_bool fun hw hl => ?_⟩, imp_bool fun hw hb => ?_⟩
  · have hw := of_decide_eq_true hw
    have hl := of_decide_eq_true hl
    have hd := hi.live_done hw hl
    simp only [Bool.and_eq_true, beq_iff_eq]
    exact ⟨⟨hi.once.one (by simp [(hi.done_fin i hd).1]), hi.ret_snap hw i hd⟩,
      reported_of_mem hid (Or.inr (hi.live_collected hw hl))⟩
  · have hw := of_decide_eq_true hw
    exact hi.ret_snap hw i (hi.ret_done hw i (hi.byOrch_task i hb))

end Orc

namespace Grp

theorem Inv.done_member {c : Cfg} {s : St} (hi : Inv c s) (hd : s.gphase = .done) {i : Nat} (hlt : i < s.next) :
    i ∈ s.waiters ∧ s.phase i = .finished ∧ s.runs i = 1 ∧ s.retAtW i = true := by
  have hw := hi.closed_queued (hi.closed_ph.mpr (Or.inr (Or.inr hd))) hlt
  have hf := hi.rr_fin (hi.rr_ph.mpr (Or.inr hd)) i hw
  exact ⟨hw, hf, hi.once.one (by simp [hf]), hi.done_snap hd i hw⟩

/-- the group's Cleanup returns only when every member taken from the iterator has returned -/
theorem Inv.cleanup_enabled {c : Cfg} {s : St} (hi : Inv c s) (hen : (step c s .cleanupDone).isSome = true) {i : Nat}
    (hlt : i < s.next) : s.phase i = .finished := by
  obtain ⟨s', hs⟩ := Option.isSome_iff_exists.mp hen
  obtain ⟨⟨hg, hall, _⟩, _⟩ := ite_some_eq hs
  exact (allFinished_iff s).mp hall i (hi.closed_queued (hi.closed_ph.mpr (Or.inr (Or.inl hg))) hlt)

theorem Inv.untaken {c : Cfg} {s : St} (hi : Inv c s) {i : Nat} (h : ¬ i < s.next) : s.runs i = 0 :=
  (hi.once.zero_iff i).mpr (hi.st_fresh i h)

theorem mem_adds {c : Cfg} {s : St} {i : Nat} (h : i ∈ s.waiters) : svcWait (c.outcome i) ∈ collAdds c s :=
  List.mem_append_left _ (List.mem_map.mpr ⟨i, h, rfl⟩)

theorem allowed_of_inv {c : Cfg} {s : St} (hi : Inv c s) (ident : Nat → Nat) (hid : Identifies c.outcome ident) (n : Nat) :
    allowedGroup c.outcome (obsOf c ident n s) = true := by
  refine allUnits_of fun i => ?_
  simp only [obsOf, reported, Bool.and_eq_true]
  refine ⟨⟨⟨decide_eq_true (hi.once.le i), or_zero fun h0 => ?_⟩, by simp [hi.saw i]⟩, imp_bool fun hw hl => ?_⟩
  · exact decide_eq_true (Decidable.byContradiction fun hlt => h0 (hi.untaken hlt))
  · obtain ⟨hmem, _, hr, hsnap⟩ := hi.done_member (of_decide_eq_true hw) (of_decide_eq_true hl)
    simp only [Bool.and_eq_true, beq_iff_eq]
    exact ⟨⟨hr, hsnap⟩, reported_of_mem hid (Or.inr (mem_adds hmem))⟩

end Grp

namespace Pool

theorem reports_of_reportable (c : Cfg) (j : Nat) (hv : c.viaCollector j = true)
    (hr : (c.cls j).reportable c.conf = true) : c.reports j = true := by
  simp [Cfg.reports, hv, canContinue_reports, hr]

theorem reports_of_panic (c : Cfg) (j : Nat) (hp : (c.outcome j).isPanic = true) : c.reports j = true := by
  obtain ⟨p, ho⟩ := Outcome.panic_of_isPanic hp
  refine reports_of_reportable c j (by simp [Cfg.viaCollector, hp]) ?_
  have his : isOpt (parsePanicErr (some p)) idRecoveredPanic = true := by
    simp [parsePanicErr, join, resolve_is, flatten_eq, ErrList.partsAll, Err.parts, Err.is]
  cases hr : parsePanicErr (some p) with
  | none => rw [hr] at his; cases his
  | some r =>
    rw [hr] at his
    simp [Cfg.cls, ho, Outcome.result, hr, classify, ErrClass.reportable, show r.is idRecoveredPanic = true from his]

theorem allowed_of_inv {c : Cfg} {s : St} (hi : Inv c s) (ident : Nat → Nat) (hid : Identifies c.outcome ident)
    (hrep : ∀ i, (c.outcome i).fails = true → (c.cls i).reportable c.conf = true) (n : Nat) :
    allowedPool c.handler c.outcome (obsOf c ident n s) = true := by
  refine allUnits_of fun i => ?_
  simp only [obsOf, reported, Bool.and_eq_true]
  refine ⟨⟨decide_eq_true (hi.runs_le i), or_zero fun h0 => decide_eq_true (hi.runs_accepted i h0)⟩,
    imp_bool fun hw h1 => ?_⟩
  obtain ⟨hrr, hsnap⟩ := hi.svc hw
  have h1 : s.runs i = 1 := beq_iff_eq.mp h1
  have hspec := hi.coll_spec i (hi.fin_of_returned hrr h1)
  refine (Bool.and_eq_true _ _).mpr ⟨hsnap i h1, ?_⟩
  by_cases hbr : c.handler = true ∧ (c.outcome i).isPanic = false
  · -- HandlerWorkerPool: the error of a job that did not panic goes to the observer
    rw [if_pos (by simpa using hbr)]
    cases hfl : (c.outcome i).fails with
    | false => rfl
    | true =>
      obtain ⟨e, he⟩ := Outcome.result_of_fails hfl
      have hm := hspec.2 (by simp [Cfg.handles, hbr.1, hbr.2, he])
      simp [hm]
  · rw [if_neg (by simpa using hbr)]
    have hv : c.viaCollector i = true := by
      simp only [Cfg.viaCollector, Bool.or_eq_true, Bool.not_eq_true']
      exact Decidable.or_iff_not_imp_left.mpr fun hh => by simpa [hh] using hbr
    have hm : (c.outcome i).fails = true ∨ (c.outcome i).isPanic = true → i ∈ s.coll := fun h =>
      hspec.1 (h.elim (fun hfl => reports_of_reportable c i hv (hrep i hfl)) (reports_of_panic c i))
    by_cases hfp : (c.outcome i).fails = true ∨ (c.outcome i).isPanic = true
    · exact (Bool.and_eq_true _ _).mpr (reported_of_mem hid (Or.inl (mem_results (hm hfp))))
    · simp only [not_or, Bool.not_eq_true] at hfp
      simp [hfp.1, hfp.2]

/-- at a rest point of a pool that keeps running and has an idle worker, everything accepted has been started -/
theorem rest_all_started {c : Cfg} {s : St} (hi : Inv c s) (hq : Quiescent c s)
    (hlive : s.wctxEnded = false) (w : Nat) (hw : s.ws[w]? = some .idle) (j : Nat) (ha : s.addSt j = .accepted) :
    s.runs j = 1 := by
  obtain ⟨hst, hnr, _⟩ := hi.worker_live hw (by simp)
  have hcn : s.cancelled = false ∧ s.aborted = false := by
    simpa [St.wctxEnded] using hlive
  -- the reader has not returned (it does so only once a context has ended or the queue is closed)
  have hrd : s.rdDone = false := Bool.eq_false_iff.mpr fun hd => by
    rcases hi.rdDone_why hd with h1 | h1
    · simp [hlive] at h1
    · exact (hi.closed_ctx h1).elim (by simp [hcn.1]) hnr
  -- nothing waits at the reader (a handoff to the idle worker would be enabled)
  have hnone : s.rd = none := by
    cases hr : s.rd with
    | none => rfl
    | some x =>
      have := hq (.handoff w) rfl
      simp [step, hr, hw] at this
  -- the queue is empty (a read would be enabled)
  have hqe : s.queue = [] := by
    cases hqq : s.queue with
    | nil => rfl
    | cons x q =>
      have := hq .read rfl
      simp [step, hqq, hnone, hst, hrd, hlive] at this
  -- no worker holds an unstarted job (its `wstart` would be enabled)
  have hheld : held s = [] := by
    simp only [held, List.flatMap_eq_nil_iff]
    intro x hx
    cases x with
    | holding y =>
      obtain ⟨k, hk⟩ := List.getElem?_of_mem hx
      have := hq (.wstart k) rfl
      simp [step, hk] at this
    | _ => rfl
  have hdrop : s.dropped = [] := Decidable.byContradiction fun hd => by simp [hi.drop_ctx hd] at hlive
  have h1 := hi.cons j
  have h2 := hi.runs_eq j
  simp only [places, hqe, hnone, hheld, hdrop, ha, List.count_nil, Option.toList_none, decide_true, b2n_true] at h1
  omega

end Pool

namespace Cln

theorem Inv.runs_le {s : St} (hi : Inv s) (j : Nat) : s.runs j ≤ 1 := by
  by_cases hsw : s.swept
  · have := hi.swept_eq hsw j
    have := Bool.toNat_le (decide (s.addSt j = .accepted))
    omega
  · rw [hi.unswept hsw j]; exact Nat.zero_le 1

theorem Inv.ran {s : St} (hi : Inv s) {j : Nat} (h : s.runs j ≠ 0) : s.swept ∧ s.addSt j = .accepted := by
  have hsw : s.swept := Decidable.byContradiction fun hn => h (hi.unswept hn j)
  refine ⟨hsw, Decidable.byContradiction fun ha => ?_⟩
  have := hi.swept_eq hsw j
  simp only [ha, decide_false, Bool.toNat_false] at this
  omega

theorem Inv.swept_ran {s : St} (hi : Inv s) (hsw : s.swept) {j : Nat} (ha : s.addSt j = .accepted) (ht : j ∉ s.todo) :
    s.runs j = 1 ∧ j ∈ s.coll := by
  have hr : s.runs j = 1 := by simpa [List.count_eq_zero.mpr ht, ha] using hi.swept_eq hsw j
  exact ⟨hr, (hi.coll j).mpr (by omega)⟩

theorem Inv.done_ran {s : St} (hi : Inv s) (hd : s.cphase = .done) {j : Nat} (ha : s.addSt j = .accepted) :
    s.runs j = 1 ∧ j ∈ s.coll :=
  hi.swept_ran (Or.inr hd) ha (by simp [hi.done_todo hd])

theorem allowed_of_inv {c : Cfg} {s : St} (hi : Inv s) (ident : Nat → Nat) (hid : Identifies c.outcome ident) (n : Nat) :
    allowedCleanup c.outcome (obsOf c ident n s) = true := by
  refine allUnits_of fun i => ?_
  simp only [obsOf, reported, Bool.and_eq_true]
  refine ⟨⟨⟨decide_eq_true (hi.runs_le i), or_zero fun h0 => decide_eq_true (hi.ran h0).2⟩,
    by simp [hi.early i]⟩, imp_bool fun hw ha => ?_⟩
  have hw := of_decide_eq_true hw
  obtain ⟨hr, hm⟩ := hi.done_ran hw (of_decide_eq_true ha)
  simp only [Bool.and_eq_true, beq_iff_eq]
  exact ⟨⟨hr, decide_eq_true hr, decide_eq_true hw⟩, reported_of_mem hid (Or.inl (mem_results hm))⟩

end Cln
end FunModel.Orch
