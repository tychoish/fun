import FunGen.Sll
import FunProofs.SllHeap

/-! For the T-gen theorems of FunProps/C16StackGen.lean. The generated code (FunGen/Sll.lean) re-reads fields where the
    source does (`n.stack.head = n` after `n.stack = it.stack`), the model matches once on the pointers and writes a
    record at a time, so the two are not equal by `rfl`. A condition whose operands are reads of non-nil pointers is
    `some` of one Boolean (`ldI_some`, `eqP_some`, `orP_some`, …), which the cases of the model's test then decide;
    heaps are compared after their writes are in the normal form of FunProofs/SllHeap.lean, so a lost, added or
    re-ordered dependent write does not prove. -/
namespace FunProofs.GenTieSll
open FunModel.Sll FunModel.Sll.Heap FunGen.Sll

@[simp] theorem ldI_some {α : Type} (h : Heap) (f : Item → α) (a : Nat) :
    ldI h f (some (some a)) = some (f (h.item a)) := rfl
@[simp] theorem ldS_some {α : Type} (h : Heap) (f : SHdr → α) (a : Nat) :
    ldS h f (some (some a)) = some (f (h.hdr a)) := rfl

theorem eqP_some {α : Type} [DecidableEq α] (a b : α) : eqP (some a) (some b) = some (decide (a = b)) := rfl
theorem neP_some {α : Type} [DecidableEq α] (a b : α) : neP (some a) (some b) = some (decide (a ≠ b)) := rfl
theorem notP_some (a : Bool) : notP (some a) = some (!a) := rfl
theorem orP_some (a b : Bool) : orP (some a) (some b) = some (a || b) := by cases a <;> rfl
theorem andP_some (a b : Bool) : andP (some a) (some b) = some (a && b) := by cases a <;> rfl

theorem lazyInit_stack (h : Heap) (s it : Nat) (hs : (h.item it).stack = some s) :
    ((h.lazyInit s).item it).stack = some s := by
  unfold Heap.lazyInit
  cases hd : (h.hdr s).head with
  | some a => simpa using hs
  | none =>
    by_cases hi : it = h.ni
    · subst hi; simp
    · simp [hi, hs]

theorem Append_nil (h : Heap) (it : Nat) : Item_Append h (some it) none = some (h, some it) := rfl

/-- the fuel the model gives the loop of `Item.Remove` -/
def removeFuel (h : Heap) (it : Nat) : Nat :=
  match (h.item it).stack with
  | some s => ((h.hdr s).length.toNat + 2)
  | none => 0

end FunProofs.GenTieSll
