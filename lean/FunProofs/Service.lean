import FunModel.Service
import FunProofs.ListAux

/-! The transitions of the `srv.Service` model (FunModel/Service.lean) as relations, one constructor per branch of the
    step functions (for the callers: of the current code, `Cfg.current`), both ways (`stepX_sound`, `stepX_complete`):
    nothing else unfolds `stepRg`, `stepSd`, `stepEh` or `stepTh`. Induction over the reachable states
    (`reachable_induction`); the goroutines' locations in program order (`rank`). -/

namespace FunModel.Service

theorem run_nil (c : Cfg) (s : State) : run c s [] = some s := rfl

theorem reachable_step {c : Cfg} {ps : List (List Op)} {s s' : State} {a : Act}
    (hr : Reachable c ps s) (h : step c s a = some s') : Reachable c ps s' :=
  List.foldlM_option_reach_step hr h

theorem reachable_init (c : Cfg) (ps : List (List Op)) : Reachable c ps (init ps) := ⟨[], rfl⟩

inductive RgStep (c : Cfg) (s : State) : State → Prop
  | entryAbsent (h : s.rg = .entry) (hc : c.run = .absent) :
      RgStep c s ({ s with panicking := some idNilCall, rg := .returned }.tick [])
  | entry (h : s.rg = .entry) (hc : c.run ≠ .absent) :
      RgStep c s ({ s with rg := .inRun }.tick [.phBegin .run []])
  | runPanic (h : s.rg = .inRun) (hb : ¬ (c.runBlocks && !s.ctxDone) = true) (p : Nat) (hc : c.run = .panic p) :
      RgStep c s ({ s with panicking := some p, rg := .returned }.tick [.phEnd .run])
  | runRet (h : s.rg = .inRun) (hb : ¬ (c.runBlocks && !s.ctxDone) = true) (hc : ∀ p, c.run ≠ .panic p) :
      RgStep c s ({ s with coll := s.coll ++ c.run.adds, rg := .returned }.tick [.phEnd .run])
  | cancel (h : s.rg = .returned) :
      RgStep c s ({ s with cancelCalled := true, rg := .cancelled }.tick [])
  | recoverPanic (h : s.rg = .cancelled) (p : Nat) (hp : s.panicking = some p) :
      RgStep c s ({ s with coll := s.coll ++ [p, idPanic], panicking := none, rg := .recovered }.tick [])
  | recoverNone (h : s.rg = .cancelled) (hp : s.panicking = none) :
      RgStep c s ({ s with rg := .recovered }.tick [])
  | signal (h : s.rg = .recovered) (hg : s.shutdownSig = true) :
      RgStep c s ({ s with ehSig := true, rg := .signalled }.tick [])
  | cleanupAbsent (h : s.rg = .signalled) (hc : c.cleanup = .absent) :
      RgStep c s ({ s with rg := .cleaned }.tick [])
  | cleanupBegin (h : s.rg = .signalled) (hc : c.cleanup ≠ .absent) :
      RgStep c s ({ s with rg := .inCleanup }.tick [.phBegin .cleanup []])
  | cleanupEnd (h : s.rg = .inCleanup) :
      RgStep c s ({ s with coll := s.coll ++ c.cleanup.adds, rg := .cleaned }.tick [.phEnd .cleanup])
  | finish (h : s.rg = .cleaned) :
      RgStep c s ({ s with isFinished := true, rg := .finished }.tick [])
  | notRunning (h : s.rg = .finished) :
      RgStep c s ({ s with isRunning := false, rg := .closing }.tick [])
  | closeMain (h : s.rg = .closing) :
      RgStep c s ({ s with mainSig := true, rg := .exit }.tick [])
  | done (h : s.rg = .exit) :
      RgStep c s ({ s with wg := s.wg - 1, rg := .gone }.tick [])

theorem stepRg_sound {c : Cfg} {s s' : State} (h : stepRg c s = some s') : RgStep c s s' := by
  unfold stepRg at h
  repeat' split at h
  all_goals first | (cases h; constructor <;> assumption) | cases h

theorem stepRg_complete {c : Cfg} {s s' : State} (hs : RgStep c s s') : stepRg c s = some s' := by
  unfold stepRg
  cases hs <;> simp [*]

inductive SdStep (c : Cfg) (s : State) : State → Prop
  | entryAbsent (h : s.sd = .entry) (hd : s.ctxDone = true) (hc : c.shutdown = .absent) :
      SdStep c s ({ s with sd := .closing }.tick [])
  | entry (h : s.sd = .entry) (hd : s.ctxDone = true) (hc : c.shutdown ≠ .absent) :
      SdStep c s ({ s with sd := .inShutdown }.tick [.phBegin .shutdown []])
  | shutdownEnd (h : s.sd = .inShutdown) :
      SdStep c s ({ s with coll := s.coll ++ c.shutdown.adds, sd := .closing }.tick [.phEnd .shutdown])
  | closeSig (h : s.sd = .closing) :
      SdStep c s ({ s with shutdownSig := true, sd := .exit }.tick [])
  | done (h : s.sd = .exit) :
      SdStep c s ({ s with wg := s.wg - 1, sd := .gone }.tick [])

theorem stepSd_sound {c : Cfg} {s s' : State} (h : stepSd c s = some s') : SdStep c s s' := by
  unfold stepSd at h
  repeat' split at h
  all_goals first | (cases h; constructor <;> assumption) | cases h

theorem stepSd_complete {c : Cfg} {s s' : State} (hs : SdStep c s s') : stepSd c s = some s' := by
  unfold stepSd
  cases hs <;> simp [*]

inductive EhStep (c : Cfg) (s : State) : State → Prop
  | entry (h : s.eh = .entry) (hg : s.mainSig = true) :
      EhStep c s ({ s with eh := .main }.tick [])
  | call (h : s.eh = .main) (hg : s.ehSig = true) (hc : c.handler ≠ .absent ∧ s.coll ≠ []) :
      EhStep c s ({ s with eh := .inHandler }.tick [.phBegin .handler s.coll])
  | skip (h : s.eh = .main) (hg : s.ehSig = true) (hc : ¬ (c.handler ≠ .absent ∧ s.coll ≠ [])) :
      EhStep c s ({ s with eh := .exit }.tick [])
  | handlerPanic (h : s.eh = .inHandler) (p : Nat) (hc : c.handler = .panic p) :
      EhStep c s ({ s with coll := s.coll ++ [p, idPanic], eh := .exit }.tick [.phEnd .handler])
  | handlerEnd (h : s.eh = .inHandler) (hc : ∀ p, c.handler ≠ .panic p) :
      EhStep c s ({ s with eh := .exit }.tick [.phEnd .handler])
  | done (h : s.eh = .exit) :
      EhStep c s ({ s with wg := s.wg - 1, eh := .gone }.tick [])

theorem stepEh_sound {c : Cfg} {s s' : State} (h : stepEh c s = some s') : EhStep c s s' := by
  unfold stepEh at h
  repeat' split at h
  all_goals first | (cases h; constructor <;> assumption) | cases h

theorem stepEh_complete {c : Cfg} {s s' : State} (hs : EhStep c s s') : stepEh c s = some s' := by
  unfold stepEh
  cases hs <;> simp [*]

inductive ThStep (c : Cfg) (s : State) (t : Nat) (th : Thread) : Op → State → Prop
  | startReturned (p : Nat) (hl : th.loc = .idle) (hf : s.isFinished = true) :
      ThStep c s t th (.start p) (s.finish t th .startReturned [.call t th.pc (.start p)])
  | startCheck (p : Nat) (hl : th.loc = .idle) (hf : s.isFinished = false) :
      ThStep c s t th (.start p) (s.goto t th .startChecked [.call t th.pc (.start p)])
  | startAlready (p : Nat) (hl : th.loc = .startChecked) (hr : s.isRunning = true) :
      ThStep c s t th (.start p) (s.finish t th .startAlready)
  | startSwap (p : Nat) (hl : th.loc = .startChecked) (hr : s.isRunning = false) :
      ThStep c s t th (.start p) ({ s with isRunning := true }.goto t th .startSwapped)
  | startRecheck (p : Nat) (hl : th.loc = .startSwapped) (hf : s.isFinished = true) :
      ThStep c s t th (.start p) (s.goto t th .startRechecked)
  | startClaim (p : Nat) (hl : th.loc = .startSwapped) (hf : s.isFinished = false) :
      ThStep c s t th (.start p) ({ s with claimed := true }.goto t th .startClaimed)
  | startUndo (p : Nat) (hl : th.loc = .startRechecked) :
      ThStep c s t th (.start p) ({ s with isRunning := false }.finish t th .startReturned)
  | startLaunch (p : Nat) (hl : th.loc = .startClaimed) (hon : s.once = .fresh) :
      ThStep c s t th (.start p) ({ s with once := .running, wg := s.wg + 3, eh := .entry, sd := .entry, rg := .entry,
                                           cancelSet := true, svcParent := some p }.goto t th .startLaunched)
  | startOnceDone (p : Nat) (hl : th.loc = .startClaimed) (hon : s.once = .done) :
      ThStep c s t th (.start p) (s.finish t th .startNil)
  | startStore (p : Nat) (hl : th.loc = .startLaunched) :
      ThStep c s t th (.start p) ({ s with isStarted := true }.goto t th .startStarted)
  | startNil (p : Nat) (hl : th.loc = .startStarted) :
      ThStep c s t th (.start p) ({ s with once := .done }.finish t th .startNil)
  | close (hl : th.loc = .idle) :
      ThStep c s t th .close ({ s with cancelCalled := s.cancelCalled || (s.isRunning && s.cancelSet) }.finish t th .closed
        [.call t th.pc .close])
  | waitFinished (hl : th.loc = .idle) (hf : s.isFinished = true) :
      ThStep c s t th .wait (s.finish t th (.waitResult s.coll) [.call t th.pc .wait])
  | waitCheck (hl : th.loc = .idle) (hf : s.isFinished = false) :
      ThStep c s t th .wait (s.goto t th .waitChecked [.call t th.pc .wait])
  | waitStarted (hl : th.loc = .waitChecked) (hst : s.isStarted = true) :
      ThStep c s t th .wait (s.goto t th .waitStarted)
  | waitNotStarted (hl : th.loc = .waitChecked) (hst : s.isStarted = false) :
      ThStep c s t th .wait (s.finish t th .waitNotStarted)
  | waitDone (hl : th.loc = .waitStarted) (hw : s.wg = 0) :
      ThStep c s t th .wait (s.finish t th (.waitResult s.coll))
  | runningFinished (hl : th.loc = .idle) (hf : s.isFinished = true) :
      ThStep c s t th .running (s.finish t th (.running false) [.call t th.pc .running])
  | runningCheck (hl : th.loc = .idle) (hf : s.isFinished = false) :
      ThStep c s t th .running (s.goto t th .runningChecked [.call t th.pc .running])
  | runningLoad (hl : th.loc = .runningChecked) :
      ThStep c s t th .running (s.finish t th (.running s.isRunning))

theorem stepTh_sound {c : Cfg} (hc : c.current) {s s' : State} {t : Nat} (h : stepTh c s t = some s') :
    ∃ th op, s.ths[t]? = some th ∧ th.ops[th.pc]? = some op ∧ ThStep c s t th op s' := by
  obtain ⟨h19, h20, hrun⟩ := hc
  unfold stepTh at h
  simp only [h19, h20, hrun, Bool.true_and, if_true] at h
  repeat' split at h
  all_goals try simp only [Bool.not_eq_true] at *
  all_goals first | (cases h; exact ⟨_, _, ‹_›, ‹_›, by constructor <;> assumption⟩) | cases h

theorem stepTh_complete {c : Cfg} (hc : c.current) {s s' : State} {t : Nat} {th : Thread} {op : Op}
    (hth : s.ths[t]? = some th) (ho : th.ops[th.pc]? = some op) (hs : ThStep c s t th op s') :
    stepTh c s t = some s' := by
  obtain ⟨h19, h20, hrun⟩ := hc
  unfold stepTh
  rw [hth]; dsimp only; rw [ho]; dsimp only
  cases hs <;> simp [*]

inductive Trans (c : Cfg) (s : State) : State → Prop
  | th (t : Nat) (th : Thread) (op : Op) (hth : s.ths[t]? = some th) (ho : th.ops[th.pc]? = some op) {s' : State}
      (h : ThStep c s t th op s') : Trans c s s'
  | rg {s' : State} (h : RgStep c s s') : Trans c s s'
  | sd {s' : State} (h : SdStep c s s') : Trans c s s'
  | eh {s' : State} (h : EhStep c s s') : Trans c s s'
  | cancelParent (p : Nat) (hp : s.cancelled.contains p = false) :
      Trans c s ({ s with cancelled := p :: s.cancelled }.tick [.cancelParent p])

theorem step_sound {c : Cfg} (hc : c.current) {s s' : State} {a : Act} (h : step c s a = some s') : Trans c s s' := by
  cases a with
  | th t => obtain ⟨th, op, hth, ho, h'⟩ := stepTh_sound hc h; exact .th t th op hth ho h'
  | rg => exact .rg (stepRg_sound h)
  | sd => exact .sd (stepSd_sound h)
  | eh => exact .eh (stepEh_sound h)
  | cancelParent p =>
    simp only [step] at h
    cases hp : s.cancelled.contains p <;> simp only [hp] at h
    · simp at h; subst h; exact .cancelParent p hp
    · simp at h

theorem reachable_induction {c : Cfg} (hc : c.current) {ps : List (List Op)} (I : State → Prop) (h0 : I (init ps))
    (hstep : ∀ s s', Reachable c ps s → I s → Trans c s s' → I s') {s : State} : Reachable c ps s → I s :=
  List.foldlM_option_reach_induction I h0 fun s _ s' hr hi hs => hstep s s' hr hi (step_sound hc hs)

/-- Position of a location in program order. The invariants state each flag, signal and log fact as a threshold on a
    rank: `n ≤ s.rg.rank` reads "the Run goroutine has executed the operation that leads to the location of rank `n`"
    (9: `isFinished.Store(true)`, 11: `close(mainSignal)`, …). -/
def RgLoc.rank : RgLoc → Nat
  | .none => 0 | .entry => 1 | .inRun => 2 | .returned => 3 | .cancelled => 4 | .recovered => 5
  | .signalled => 6 | .inCleanup => 7 | .cleaned => 8 | .finished => 9 | .closing => 10 | .exit => 11 | .gone => 12
def SdLoc.rank : SdLoc → Nat
  | .none => 0 | .entry => 1 | .inShutdown => 2 | .closing => 3 | .exit => 4 | .gone => 5
def EhLoc.rank : EhLoc → Nat
  | .none => 0 | .entry => 1 | .main => 2 | .inHandler => 3 | .exit => 4 | .gone => 5

/-- 1 while the goroutine holds its count of the wait-group (`InvG.wgEq`) -/
def liveRg (l : RgLoc) : Nat := if l = .none ∨ l = .gone then 0 else 1
def liveSd (l : SdLoc) : Nat := if l = .none ∨ l = .gone then 0 else 1
def liveEh (l : EhLoc) : Nat := if l = .none ∨ l = .gone then 0 else 1

theorem init_thread {ps : List (List Op)} {t : Nat} {th : Thread} (h : (init ps).ths[t]? = some th) :
    th.loc = .idle ∧ th.pc = 0 := by
  simp only [init, List.getElem?_map] at h
  cases hp : ps[t]? <;> simp [hp] at h
  subst h; simp

end FunModel.Service
