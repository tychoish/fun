import FunProofs.Deque
import FunProofs.ConcStep

/-! The Deque model as a subject of the machine, over all schedules: what holds in every reachable
    state (`reach_of_eff`), when a segment parks and what it has done then (`seg_ret_or_park`: exactly
    when `parks` holds, and it has only signalled `condOf`, D28), the segment a scheduled thread runs (`segROf`). -/

namespace FunModel.Deque
open FunModel.Conc

theorem subject_start (x : St) (t : Nat) (op : Op) : subject.start x t op = (startR x op).out := rfl
theorem subject_resume (x : St) (t : Nat) (op : Op) (c : Bool) : subject.resume x t op c = (resumeR x op c).out := rfl

@[simp] theorem SegR.out_st (o : SegR) : o.out.st = o.st := rfl
@[simp] theorem SegR.out_sigs (o : SegR) : o.out.sigs = o.sigs := rfl
@[simp] theorem SegR.out_fin (o : SegR) : o.out.fin = o.fin.out := rfl

theorem FinR.out_park {f : FinR} {c : Nat} : f.out = .park c ↔ f = .park c := by
  cases f <;> simp [FinR.out]

theorem reach_of_eff {P : St → Prop} (hP : ∀ {x op o}, Eff x op o → P x → P o.st) {s0 s : Sys St Op} (hwf0 : s0.WF)
    (h0 : P s0.subj) (hr : Reach subject s0 s) : P s.subj :=
  hr.subj_inv P hwf0 h0 (fun x _ op => hP (startR_eff x op)) (fun x _ op c => hP (resumeR_eff x op c))

theorem reach_inv {s0 s : Sys St Op} (hwf0 : s0.WF) (h0 : Inv s0.subj) (hr : Reach subject s0 s) : Inv s.subj :=
  reach_of_eff Eff.keeps_inv hwf0 h0 hr

/-- the operation's condition holds: resumed, it would return -/
def Ready (x : St) (op : Op) (k : Bool) : Prop := parks x op k = false

theorem parks_blocking {x : St} {op : Op} {k : Bool} (h : parks x op k = true) : op.blocking = true ∧ k = false := by
  rw [parks_eq, Bool.and_eq_true, Bool.and_eq_true] at h
  refine ⟨?_, by simpa using h.2⟩
  have hw := h.1.1
  cases op with
  | next d b key => cases b with
    | true => rfl
    | false => cases hw
  | wait d | wpush d v => rfl
  | _ => cases hw

theorem parks_off {x : St} {op : Op} {k : Bool} (h : waits x op = false ∨ x.closed = true ∨ k = true) :
    parks x op k = false := by
  rw [parks_eq]
  rcases h with h | h | h <;> simp [h]

theorem loopSeg_ret_or_park {x : St} {k : Bool} {pre : List Sig} {c : Nat} {test : Bool} {work : SegR}
    (hw : ∃ r, work.fin = .ret r) :
    ((test && !x.closed && !k) = false ∧ ∃ r, (loopSeg x k pre c test work).fin = .ret r) ∨
    ((test && !x.closed && !k) = true ∧
      loopSeg x k pre c test work = { st := x, sigs := pre ++ [.signal c], fin := .park c }) := by
  rcases loopSeg_cases x k pre c test work with ⟨ht, e⟩ | ⟨_, hc, e⟩ | ⟨_, _, hk, e⟩ | ⟨ht, hc, hk, e⟩ <;> rw [e]
  · exact .inl ⟨by rw [ht]; rfl, hw⟩
  · exact .inl ⟨by rw [hc]; simp, _, rfl⟩
  · exact .inl ⟨by rw [hk]; simp, _, rfl⟩
  · exact .inr ⟨by rw [ht, hc, hk]; rfl, rfl⟩

theorem work_ret (x : St) (first : Bool) (op : Op) : ∃ r, (work x first op).fin = .ret r := by
  cases op with
  | next d b k => simp only [work, iterYield]; split <;> exact ⟨_, rfl⟩
  | _ => exact ⟨_, rfl⟩

theorem parks_condOf {x : St} {op : Op} {k : Bool} (h : parks x op k = true) :
    ∃ c, condOf x op = some c ∧ spawns x op = [.spawn c] := by
  cases op with
  | wait d => exact ⟨_, rfl, by simp [parks] at h; simp [spawns, condOf, h]⟩
  | wpush d v => exact ⟨_, rfl, rfl⟩
  | next d b key => cases b with
    | true => exact ⟨_, rfl, rfl⟩
    | false => cases h
  | _ => cases h

theorem seg_ret_or_park (x : St) (op : Op) (first k : Bool) :
    (parks x op k = false ∧ ∃ r, (seg x op first k).fin = .ret r) ∨
    (parks x op k = true ∧ ∃ c, condOf x op = some c ∧
      seg x op first k = { st := x, sigs := (if first then [.spawn c] else []) ++ [.signal c], fin := .park c }) := by
  rw [parks_eq]
  refine (loopSeg_ret_or_park (work_ret x first op)).imp id fun ⟨hp, he⟩ => ?_
  obtain ⟨c, hc, hs⟩ := parks_condOf ((parks_eq x op k).trans hp)
  exact ⟨hp, c, hc, by rw [seg, he, hc, hs]; cases first <;> rfl⟩

theorem resumeR_ret_or_park (x : St) (op : Op) (k : Bool) :
    (parks x op k = false ∧ ∃ r, (resumeR x op k).fin = .ret r) ∨
    (parks x op k = true ∧ ∃ c, condOf x op = some c ∧
      resumeR x op k = { st := x, sigs := [.signal c], fin := .park c }) := by
  rw [resumeR_eq]
  cases hb : op.blocking with
  | false => exact .inl ⟨Bool.eq_false_iff.2 (fun hp => nomatch (parks_blocking hp).1.symm.trans hb), _, rfl⟩
  | true => exact seg_ret_or_park x op false k

theorem startR_ret_or_park (x : St) (op : Op) :
    (parks x op false = false ∧ ∃ r, (startR x op).fin = .ret r) ∨
    (parks x op false = true ∧ ∃ c, condOf x op = some c ∧
      startR x op = { st := x, sigs := [.spawn c, .signal c], fin := .park c }) :=
  startR_eq x op ▸ seg_ret_or_park x op true false

/-- `wait_when_ready_returns` (C07) -/
theorem ready_returns (x : St) (op : Op) (k : Bool) :
    (parks x op false = false → ∃ r, (startR x op).fin = .ret r) ∧
    (parks x op k = false → ∃ r, (resumeR x op k).fin = .ret r) :=
  ⟨fun h => (startR_ret_or_park x op).elim (·.2) (fun h' => absurd h (by rw [h'.1]; nofun)),
   fun h => (resumeR_ret_or_park x op k).elim (·.2) (fun h' => absurd h (by rw [h'.1]; nofun))⟩

theorem startR_park {x : St} {op : Op} {c : Nat} (h : (startR x op).fin = .park c) :
    startR x op = { st := x, sigs := [.spawn c, .signal c], fin := .park c } ∧
      parks x op false = true ∧ condOf x op = some c := by
  rcases startR_ret_or_park x op with ⟨_, r, hr⟩ | ⟨hp, c', hc, heq⟩
  · rw [hr] at h; cases h
  · rw [heq] at h; cases h; exact ⟨heq, hp, hc⟩

theorem resumeR_park {x : St} {op : Op} {k : Bool} {c : Nat} (h : (resumeR x op k).fin = .park c) :
    resumeR x op k = { st := x, sigs := [.signal c], fin := .park c } ∧
      parks x op k = true ∧ condOf x op = some c := by
  rcases resumeR_ret_or_park x op k with ⟨_, r, hr⟩ | ⟨hp, c', hc, heq⟩
  · rw [hr] at h; cases h
  · rw [heq] at h; cases h; exact ⟨heq, hp, hc⟩

/-- the segment a thread in state `th0` runs when it is scheduled inside `op` (`isSeg_segR`) -/
def segROf (x : St) (th0 : Th Op) (op : Op) : SegR :=
  if th0.st = .idle then startR x op else resumeR x op th0.cancelled

theorem isSeg_segR {s : Sys St Op} {t : Nat} {a : Act} {th0 : Th Op} {op : Op} {o : SegOut St}
    (h : IsSeg subject s t a th0 op o) :
    o = (segROf s.subj th0 op).out ∧ (th0.st = .idle → th0.cancelled = false) ∧ (th0.st = .idle ∨ th0.st = .woken) := by
  cases h with
  | start _ hst _ => simp [segROf, hst, subject_start]
  | resume _ hst _ => simp [segROf, hst, subject_resume]

theorem segROf_eff (x : St) (th0 : Th Op) (op : Op) : Eff x op (segROf x th0 op) := by
  unfold segROf
  split
  · exact startR_eff x op
  · exact resumeR_eff x op _

theorem isSeg_park {s : Sys St Op} {t : Nat} {a : Act} {th0 : Th Op} {op : Op} {o : SegOut St} {c : Nat}
    (hseg : IsSeg subject s t a th0 op o) (hfin : o.fin = .park c) :
    parks s.subj op th0.cancelled = true ∧ condOf s.subj op = some c ∧ o.st = s.subj ∧
      o.sigs = (if th0.st = .idle then [.spawn c, .signal c] else [.signal c]) := by
  cases hseg with
  | start _ hst _ =>
    obtain ⟨heq, hp, hc⟩ := startR_park (FinR.out_park.1 hfin)
    exact ⟨hp, hc, by rw [subject_start, heq]; rfl, by rw [subject_start, heq, if_pos hst]; rfl⟩
  | resume _ hst _ =>
    obtain ⟨heq, hp, hc⟩ := resumeR_park (FinR.out_park.1 hfin)
    exact ⟨hp, hc, by rw [subject_resume, heq]; rfl, by rw [subject_resume, heq, if_neg (by rw [hst]; nofun)]; rfl⟩

theorem isSeg_park_blocking {s : Sys St Op} {t : Nat} {a : Act} {th0 : Th Op} {op : Op} {o : SegOut St}
    (hseg : IsSeg subject s t a th0 op o) (c : Nat) (hfin : o.fin = .park c) : op.blocking = true :=
  (parks_blocking (isSeg_park hseg hfin).1).1

theorem reach_waitingIn {s0 s : Sys St Op} (hwf0 : s0.WF) (h0 : WaitingIn (fun op => op.blocking = true) s0)
    (hr : Reach subject s0 s) : WaitingIn (fun op => op.blocking = true) s :=
  hr.waitingIn hwf0 h0 fun _ _ _ _ _ _ hseg => isSeg_park_blocking hseg

/-- inside an operation: parked, or woken and about to look at its loop test again -/
def Blocked (th : Th Op) : Prop := th.st = .woken ∨ ∃ c, th.st = .parked c

end FunModel.Deque
