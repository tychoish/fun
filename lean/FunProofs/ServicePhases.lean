import FunProofs.ServiceLog

/-! What the service goroutines leave behind as functions of their locations: the phase events in the log (`RunLog` and
    `SdLog`, both instances of `PhLog`; `EhLog`), the collector (`Coll`), and the reason in the log for the end of the
    service context (`CtxLog`). -/

namespace FunModel.Service

/-- the begin/end events of phase `ph` in a log, for a goroutine that has called it (`began`), has returned from it
    (`ended`), is inside it (`inside`) -/
structure PhLog (c : Cfg) (log : Log) (ph : Phase) (began ended inside : Bool) : Prop where
  beg : countEv log (isBegin ph) = if (began && (c.get ph).present) = true then 1 else 0
  fin : has log (isEnd ph) = (ended && (c.get ph).present)
  pres : inside = true → (c.get ph).present = true

section
variable {c : Cfg} {log : Log} {ph : Phase} {b e i : Bool}

theorem PhLog.once (f : PhLog c log ph b e i) :
    countEv log (isBegin ph) ≤ 1 ∧ ((c.get ph).present = false → countEv log (isBegin ph) = 0) :=
  ⟨by rw [f.beg]; split <;> omega, fun hp => by rw [f.beg, hp, Bool.and_false]; rfl⟩

theorem PhLog.begun (f : PhLog c log ph true e true) : has log (isBegin ph) = true :=
  has_of_count_pos (by rw [f.beg, f.pres rfl]; exact Nat.one_pos)

theorem PhLog.other (f : PhLog c log ph b e i) (k : Nat) (evs : List Ev) (hev : ∀ x ∈ evs, notPhase ph x) :
    PhLog c (log ++ stamp k evs) ph b e i :=
  ⟨by rw [countEv_append, count_stamp_zero (fun x hx => (hev x hx).1), f.beg]; rfl,
   by rw [has_append, has_stamp_false (fun x hx => (hev x hx).2), f.fin, Bool.or_false], f.pres⟩

theorem PhLog.same (f : PhLog c log ph b e i) (k : Nat) : PhLog c (log ++ stamp k []) ph b e i :=
  f.other k [] fun _ h => nomatch h

theorem PhLog.absent (f : PhLog c log ph b e i) (hp : (c.get ph).present = false) (b' e' : Bool) :
    PhLog c log ph b' e' false := by
  have h1 := f.beg; have h2 := f.fin
  rw [hp, Bool.and_false] at h1 h2
  exact ⟨by rw [hp, Bool.and_false]; exact h1, by rw [hp, Bool.and_false]; exact h2, nofun⟩

theorem PhLog.begin (f : PhLog c log ph false e false) (hp : (c.get ph).present = true) (k : Nat) (agg : List Nat) :
    PhLog c (log ++ stamp k [.phBegin ph agg]) ph true e true := by
  refine ⟨?_, ?_, fun _ => hp⟩
  · rw [countEv_append, countEv_stamp, f.beg, hp]; simp [isBegin]
  · rw [has_append, has_stamp, f.fin]; simp [isEnd]

theorem PhLog.end (f : PhLog c log ph true false true) (k : Nat) :
    PhLog c (log ++ stamp k [.phEnd ph]) ph true true false := by
  have hp := f.pres rfl
  refine ⟨?_, ?_, nofun⟩
  · rw [countEv_append, countEv_stamp, f.beg]; simp [isBegin]
  · rw [has_append, has_stamp, hp]; simp [isEnd]

end

/-- `PhLog` for Run and Cleanup at the location of the Run goroutine, unfolded (`RunLog.phases`, `RunLog.ofPhases`):
    ranks 2 = `inRun`, 3 = `returned`, 7 = `inCleanup`, 8 = `cleaned`. -/
structure RunLog (c : Cfg) (s : State) : Prop where
  runB : countEv s.log (isBegin .run) = if 2 ≤ s.rg.rank ∧ c.run.present = true then 1 else 0
  runE : has s.log (isEnd .run) = decide (3 ≤ s.rg.rank ∧ c.run.present = true)
  cuB : countEv s.log (isBegin .cleanup) = if 7 ≤ s.rg.rank ∧ c.cleanup.present = true then 1 else 0
  cuE : has s.log (isEnd .cleanup) = decide (8 ≤ s.rg.rank ∧ c.cleanup.present = true)
  inRunP : s.rg = .inRun → c.run.present = true
  inCuP : s.rg = .inCleanup → c.cleanup.present = true

theorem RunLog.phases {c : Cfg} {s : State} (h : RunLog c s) :
    PhLog c s.log .run (decide (2 ≤ s.rg.rank)) (decide (3 ≤ s.rg.rank)) (decide (s.rg = .inRun)) ∧
    PhLog c s.log .cleanup (decide (7 ≤ s.rg.rank)) (decide (8 ≤ s.rg.rank)) (decide (s.rg = .inCleanup)) :=
  ⟨⟨by simpa [Cfg.get] using h.runB, by simpa [Cfg.get] using h.runE, fun g => h.inRunP (of_decide_eq_true g)⟩,
   ⟨by simpa [Cfg.get] using h.cuB, by simpa [Cfg.get] using h.cuE, fun g => h.inCuP (of_decide_eq_true g)⟩⟩

theorem RunLog.ofPhases {c : Cfg} {s : State} {l : RgLoc} {log : Log} (hl : s.rg = l) (hlog : s.log = log)
    (fr : PhLog c log .run (decide (2 ≤ l.rank)) (decide (3 ≤ l.rank)) (decide (l = .inRun)))
    (fc : PhLog c log .cleanup (decide (7 ≤ l.rank)) (decide (8 ≤ l.rank)) (decide (l = .inCleanup))) :
    RunLog c s := by
  subst hl hlog
  exact ⟨by simpa [Cfg.get] using fr.beg, by simpa [Cfg.get] using fr.fin, by simpa [Cfg.get] using fc.beg,
   by simpa [Cfg.get] using fc.fin, fun g => fr.pres (decide_eq_true g), fun g => fc.pres (decide_eq_true g)⟩

theorem present_of_ne {o : Outcome} (h : o ≠ .absent) : o.present = true := by
  cases o <;> first | rfl | exact absurd rfl h

theorem RunLog.frame {c : Cfg} {s s' : State} (h : RunLog c s) (hrg : s'.rg = s.rg)
    (hl : Appends s s' (fun e => notPhase .run e ∧ notPhase .cleanup e)) : RunLog c s' := by
  obtain ⟨evs, hl, -, hev⟩ := hl
  obtain ⟨fr, fc⟩ := h.phases
  exact .ofPhases hrg hl (fr.other _ evs fun e he => (hev e he).1) (fc.other _ evs fun e he => (hev e he).2)

theorem RgStep.runLog {c : Cfg} {s s' : State} (h : RunLog c s) (hs : RgStep c s s') : RunLog c s' := by
  obtain ⟨fr, fc⟩ := h.phases
  cases hs with
  | cancel hr | recoverPanic hr | recoverNone hr | signal hr | finish hr | notRunning hr | closeMain hr | done hr =>
    rw [hr] at fr fc; exact .ofPhases rfl rfl (fr.same _) (fc.same _)
  | entryAbsent hr hc =>
    rw [hr] at fr fc; exact .ofPhases rfl rfl ((fr.absent (by rw [Cfg.get, hc]; rfl) _ _).same _) (fc.same _)
  | entry hr hc => rw [hr] at fr fc; exact .ofPhases rfl rfl (fr.begin (present_of_ne hc) _ _) (fc.other _ _ (by simp [notPhase, isBegin, isEnd]))
  | runPanic hr | runRet hr => rw [hr] at fr fc; exact .ofPhases rfl rfl (fr.end _) (fc.other _ _ (by simp [notPhase, isBegin, isEnd]))
  | cleanupAbsent hr hc =>
    rw [hr] at fr fc; exact .ofPhases rfl rfl (fr.same _) ((fc.absent (by rw [Cfg.get, hc]; rfl) _ _).same _)
  | cleanupBegin hr hc => rw [hr] at fr fc; exact .ofPhases rfl rfl (fr.other _ _ (by simp [notPhase, isBegin, isEnd])) (fc.begin (present_of_ne hc) _ _)
  | cleanupEnd hr => rw [hr] at fr fc; exact .ofPhases rfl rfl (fr.other _ _ (by simp [notPhase, isBegin, isEnd])) (fc.end _)

/-- `PhLog` for Shutdown at the location of the shutdown goroutine, unfolded (`SdLog.phase`, `SdLog.ofPhase`): ranks
    2 = `inShutdown`, 3 = `closing`. -/
structure SdLog (c : Cfg) (s : State) : Prop where
  sdB : countEv s.log (isBegin .shutdown) = if 2 ≤ s.sd.rank ∧ c.shutdown.present = true then 1 else 0
  sdE : has s.log (isEnd .shutdown) = decide (3 ≤ s.sd.rank ∧ c.shutdown.present = true)
  inSdP : s.sd = .inShutdown → c.shutdown.present = true

theorem SdLog.phase {c : Cfg} {s : State} (h : SdLog c s) :
    PhLog c s.log .shutdown (decide (2 ≤ s.sd.rank)) (decide (3 ≤ s.sd.rank)) (decide (s.sd = .inShutdown)) :=
  ⟨by simpa [Cfg.get] using h.sdB, by simpa [Cfg.get] using h.sdE, fun g => h.inSdP (of_decide_eq_true g)⟩

theorem SdLog.ofPhase {c : Cfg} {s : State}
    (f : PhLog c s.log .shutdown (decide (2 ≤ s.sd.rank)) (decide (3 ≤ s.sd.rank)) (decide (s.sd = .inShutdown))) :
    SdLog c s :=
  ⟨by simpa [Cfg.get] using f.beg, by simpa [Cfg.get] using f.fin, fun g => f.pres (decide_eq_true g)⟩

theorem SdLog.frame {c : Cfg} {s s' : State} (h : SdLog c s) (hsd : s'.sd = s.sd)
    (hl : Appends s s' (notPhase .shutdown)) : SdLog c s' := by
  obtain ⟨evs, hl, -, hev⟩ := hl
  refine .ofPhase ?_; rw [hl, hsd]; exact h.phase.other _ evs hev

theorem SdStep.sdLog {c : Cfg} {s s' : State} (h : SdLog c s) (hs : SdStep c s s') : SdLog c s' := by
  have f := h.phase
  cases hs with
  | closeSig hr | done hr => rw [hr] at f; exact .ofPhase (f.same _)
  | entryAbsent hr hd hc => rw [hr] at f; exact .ofPhase ((f.absent (by rw [Cfg.get, hc]; rfl) _ _).same _)
  | entry hr hd hc => rw [hr] at f; exact .ofPhase (f.begin (present_of_ne hc) _ _)
  | shutdownEnd hr => rw [hr] at f; exact .ofPhase (f.end _)

/-- The handler's begin event is not a function of the handler goroutine's location (past `main` it was logged only if
    the aggregate was non-nil), so it is bounded rather than counted, and its end event is not tracked at all: `evOk`
    asks of a `phEnd` only that its `phBegin` precedes it (`ehBeg`). -/
structure EhLog (c : Cfg) (s : State) : Prop where
  ehB0 : s.eh.rank ≤ 2 → countEv s.log (isBegin .handler) = 0
  ehB1 : countEv s.log (isBegin .handler) ≤ 1
  ehBeg : s.eh = .inHandler → has s.log (isBegin .handler) = true
  ehAbs : c.handler.present = false → countEv s.log (isBegin .handler) = 0

theorem EhLog.frame {c : Cfg} {s s' : State} (h : EhLog c s) (k : Nat) (evs : List Ev)
    (hr : s.eh.rank ≤ s'.eh.rank) (hin : s'.eh = .inHandler → s.eh = .inHandler) (hl : s'.log = s.log ++ stamp k evs)
    (hev : ∀ e ∈ evs, isBegin .handler e = false) : EhLog c s' := by
  have hz := count_stamp_zero (k := k) hev
  constructor <;> rw [hl] <;> simp only [countEv_append, has_append, hz, Nat.add_zero]
  · exact fun g => h.ehB0 (Nat.le_trans hr g)
  · exact h.ehB1
  · intro g; rw [h.ehBeg (hin g)]; rfl
  · exact h.ehAbs

theorem EhLog.frame' {c : Cfg} {s s' : State} (h : EhLog c s) (heh : s'.eh = s.eh)
    (hl : Appends s s' (fun e => isBegin .handler e = false)) : EhLog c s' := by
  obtain ⟨evs, h1, _, h2⟩ := hl; exact h.frame s.clock evs (Nat.le_of_eq (congrArg _ heh.symm)) (heh ▸ id) h1 h2

theorem EhStep.ehLog {c : Cfg} {s s' : State} (h : EhLog c s) (hs : EhStep c s s') : EhLog c s' := by
  cases hs with
  | call hr hg hc =>
    -- the one handler call: none was logged up to `main`
    have h1 : countEv (s.log ++ stamp s.clock [.phBegin .handler s.coll]) (isBegin .handler) = 1 := by
      rw [countEv_append, countEv_stamp, h.ehB0 (by rw [hr]; exact Nat.le_refl 2)]; rfl
    exact ⟨fun g => absurd g (by decide : ¬ 3 ≤ 2), Nat.le_of_eq h1, fun _ => has_of_count_pos (Nat.lt_of_lt_of_eq Nat.one_pos h1.symm),
      fun g => absurd (present_of_ne hc.1) (by simp [g])⟩
  | entry hr | skip hr | handlerPanic hr | handlerEnd hr | done hr =>
    exact h.frame _ _ (by rw [hr]; exact Nat.le_of_ble_eq_true rfl) nofun rfl (by simp [isBegin])

/-- the ids one phase outcome obliges Wait's result to contain -/
def oneIds : Outcome → List Nat
  | .err e => [e]
  | .panic _ => [idPanic]
  | _ => []

def runPanics (c : Cfg) : Prop := c.run = .absent ∨ ∃ p, c.run = .panic p

def quiet (o : Outcome) : Prop := o = .ok ∨ o = .absent

def noFail (c : Cfg) : Prop := c.run = .ok ∧ quiet c.shutdown ∧ quiet c.cleanup

theorem mustIds_eq (c : Cfg) :
    mustIds c = (match c.run with | .absent => [idPanic] | o => oneIds o) ++ oneIds c.shutdown ++ oneIds c.cleanup := rfl

theorem mem_oneIds {o : Outcome} {j : Nat} : j ∈ oneIds o ↔ o = .err j ∨ (j = idPanic ∧ ∃ p, o = .panic p) := by
  cases o <;> simp [oneIds, eq_comm]

theorem oneIds_nil {o : Outcome} : oneIds o = [] ↔ quiet o := by cases o <;> simp [oneIds, quiet]

theorem mustIds_nil_iff (c : Cfg) : mustIds c = [] ↔ noFail c := by
  rw [mustIds_eq, List.append_eq_nil_iff, List.append_eq_nil_iff, oneIds_nil, oneIds_nil, noFail]
  cases c.run <;> simp [oneIds]

/-- a nil Run counts as a panic of its goroutine -/
theorem mem_mustIds {c : Cfg} {j : Nat} : j ∈ mustIds c ↔
    (c.run = .err j ∨ j = idPanic ∧ runPanics c) ∨ (c.shutdown = .err j ∨ j = idPanic ∧ ∃ p, c.shutdown = .panic p) ∨
      (c.cleanup = .err j ∨ j = idPanic ∧ ∃ p, c.cleanup = .panic p) := by
  have hr : j ∈ (match c.run with | .absent => [idPanic] | o => oneIds o) ↔ c.run = .err j ∨ j = idPanic ∧ runPanics c := by
    unfold runPanics; cases c.run <;> simp [oneIds, eq_comm]
  rw [mustIds_eq, List.mem_append, List.mem_append, hr, mem_oneIds, mem_oneIds, or_assoc]

/-- What the collector holds, by location. An error a phase returns is in it once the phase has ended (`collRun`,
    `collSdE`, `collCuE`: Run goroutine rank 3 = `returned`, 8 = `cleaned`; shutdown goroutine rank 3 = `closing`). A panic
    of Shutdown or Cleanup is recovered in the step that ends the phase (`collSdP`, `collCuP`); a panic of Run (or the call
    of a nil Run) is carried in `panicking` from Run's end to the deferred `erc.Recover` two steps later (`collPan`,
    `panOnly`) and is in the collector from `recovered` = rank 5 on (`collRunP`). `collNil`: if nothing can fail the
    collector stays empty. -/
structure Coll (c : Cfg) (s : State) : Prop where
  collRun : 3 ≤ s.rg.rank → ∀ e, c.run = .err e → e ∈ s.coll
  collPan : s.rg = .returned ∨ s.rg = .cancelled → runPanics c → s.panicking ≠ none
  collRunP : 5 ≤ s.rg.rank → runPanics c → idPanic ∈ s.coll
  collSdE : 3 ≤ s.sd.rank → ∀ e, c.shutdown = .err e → e ∈ s.coll
  collSdP : 3 ≤ s.sd.rank → ∀ p, c.shutdown = .panic p → idPanic ∈ s.coll
  collCuE : 8 ≤ s.rg.rank → ∀ e, c.cleanup = .err e → e ∈ s.coll
  collCuP : 8 ≤ s.rg.rank → ∀ p, c.cleanup = .panic p → idPanic ∈ s.coll
  collNil : noFail c → s.coll = []
  ehNonnil : s.eh = .inHandler → s.coll ≠ []
  panOnly : s.panicking ≠ none → runPanics c

/-- `Coll` with the locations as parameters and `decide`d thresholds (cf. `Launched`) -/
structure CollAt (c : Cfg) (s : State) (l : RgLoc) (m : SdLoc) (n : EhLoc) : Prop where
  collRun : decide (3 ≤ l.rank) = true → ∀ e, c.run = .err e → e ∈ s.coll
  collPan : decide (l = .returned ∨ l = .cancelled) = true → runPanics c → s.panicking ≠ none
  collRunP : decide (5 ≤ l.rank) = true → runPanics c → idPanic ∈ s.coll
  collSdE : decide (3 ≤ m.rank) = true → ∀ e, c.shutdown = .err e → e ∈ s.coll
  collSdP : decide (3 ≤ m.rank) = true → ∀ p, c.shutdown = .panic p → idPanic ∈ s.coll
  collCuE : decide (8 ≤ l.rank) = true → ∀ e, c.cleanup = .err e → e ∈ s.coll
  collCuP : decide (8 ≤ l.rank) = true → ∀ p, c.cleanup = .panic p → idPanic ∈ s.coll
  collNil : noFail c → s.coll = []
  ehNonnil : decide (n = .inHandler) = true → s.coll ≠ []
  panOnly : s.panicking ≠ none → runPanics c

theorem Coll.at {c : Cfg} {s : State} (h : Coll c s) : CollAt c s s.rg s.sd s.eh :=
  ⟨fun g => h.collRun (of_decide_eq_true g), fun g => h.collPan (of_decide_eq_true g),
    fun g => h.collRunP (of_decide_eq_true g), fun g => h.collSdE (of_decide_eq_true g),
    fun g => h.collSdP (of_decide_eq_true g), fun g => h.collCuE (of_decide_eq_true g),
    fun g => h.collCuP (of_decide_eq_true g), h.collNil, fun g => h.ehNonnil (of_decide_eq_true g), h.panOnly⟩

theorem CollAt.coll {c : Cfg} {s : State} (f : CollAt c s s.rg s.sd s.eh) : Coll c s :=
  ⟨fun g => f.collRun (decide_eq_true g), fun g => f.collPan (decide_eq_true g),
    fun g => f.collRunP (decide_eq_true g), fun g => f.collSdE (decide_eq_true g),
    fun g => f.collSdP (decide_eq_true g), fun g => f.collCuE (decide_eq_true g),
    fun g => f.collCuP (decide_eq_true g), f.collNil, fun g => f.ehNonnil (decide_eq_true g), f.panOnly⟩

theorem Coll.move {c : Cfg} {s : State} (h : Coll c s) {t : Nat} {th : Thread} {evs : List Ev} :
    Coll c ((s.setTh t th).tick evs) := { h with }

theorem CollAt.append {c : Cfg} {s : State} {l : RgLoc} {m : SdLoc} {n : EhLoc} (f : CollAt c s l m n) (xs : List Nat)
    (hx : noFail c → xs = []) : CollAt c { s with coll := s.coll ++ xs } l m n where
  collRun g e he := List.mem_append_left _ (f.collRun g e he)
  collPan := f.collPan
  collRunP g hp := List.mem_append_left _ (f.collRunP g hp)
  collSdE g e he := List.mem_append_left _ (f.collSdE g e he)
  collSdP g p hp := List.mem_append_left _ (f.collSdP g p hp)
  collCuE g e he := List.mem_append_left _ (f.collCuE g e he)
  collCuP g p hp := List.mem_append_left _ (f.collCuP g p hp)
  collNil g := by show s.coll ++ xs = []; rw [f.collNil g, hx g]; rfl
  ehNonnil g h0 := f.ehNonnil g (List.append_eq_nil_iff.mp h0).1
  panOnly := f.panOnly

theorem RgStep.coll {c : Cfg} {s s' : State} (h : Coll c s) (hR : RunLog c s) (hs : RgStep c s s') : Coll c s' := by
  have f := h.at
  cases hs with
  | entry hr | cancel hr | signal hr | cleanupBegin hr | finish hr | notRunning hr | closeMain hr | done hr =>
    rw [hr] at f; exact CollAt.coll { f with }
  | entryAbsent hr hc =>
    rw [hr] at f
    exact CollAt.coll { f with
      collRun := fun _ e he => (nomatch hc ▸ he), collPan := fun _ _ => nofun, panOnly := fun _ => .inl hc }
  | runPanic hr hb p hc =>
    rw [hr] at f
    exact CollAt.coll { f with
      collRun := fun _ e he => (nomatch hc ▸ he), collPan := fun _ _ => nofun, panOnly := fun _ => .inr ⟨p, hc⟩ }
  | runRet hr hb hc =>
    rw [hr] at f
    -- the goroutine is inside Run, so Run is not nil (`hp`), and it did not panic (`hc`): `runPanics c` is false
    have hp := hR.inRunP hr
    exact CollAt.coll { f.append c.run.adds (fun g => by rw [g.1]; rfl) with
      collRun := fun _ e he => by simp [he, Outcome.adds]
      collPan := fun _ g => by rcases g with g | ⟨p, g⟩ <;> simp_all [Outcome.present] }
  | recoverPanic hr p hp =>
    rw [hr] at f
    have hx : noFail c → [p, idPanic] = [] := fun g => by
      rcases f.panOnly (by simp [hp]) with g' | ⟨q, g'⟩ <;> simp [g.1] at g'
    exact CollAt.coll { f.append [p, idPanic] hx with
      collRunP := fun _ _ => by simp, collPan := nofun, panOnly := fun g => absurd rfl g }
  | recoverNone hr hp =>
    rw [hr] at f
    exact CollAt.coll { f with collRunP := fun _ g => absurd hp (f.collPan rfl g), collPan := nofun }
  | cleanupAbsent hr hc =>
    rw [hr] at f
    exact CollAt.coll { f with collCuE := fun _ e he => (nomatch hc ▸ he), collCuP := fun _ p he => (nomatch hc ▸ he) }
  | cleanupEnd hr =>
    rw [hr] at f
    have hx : noFail c → c.cleanup.adds = [] := fun g => by rcases g.2.2 with g | g <;> rw [g] <;> rfl
    exact CollAt.coll { f.append c.cleanup.adds hx with
      collCuE := fun _ e he => by simp [he, Outcome.adds], collCuP := fun _ p he => by simp [he, Outcome.adds] }

theorem SdStep.coll {c : Cfg} {s s' : State} (h : Coll c s) (hs : SdStep c s s') : Coll c s' := by
  have f := h.at
  cases hs with
  | entry hr | closeSig hr | done hr => rw [hr] at f; exact CollAt.coll { f with }
  | entryAbsent hr hd hc =>
    rw [hr] at f
    exact CollAt.coll { f with collSdE := fun _ e he => (nomatch hc ▸ he), collSdP := fun _ p he => (nomatch hc ▸ he) }
  | shutdownEnd hr =>
    rw [hr] at f
    have hx : noFail c → c.shutdown.adds = [] := fun g => by rcases g.2.1 with g | g <;> rw [g] <;> rfl
    exact CollAt.coll { f.append c.shutdown.adds hx with
      collSdE := fun _ e he => by simp [he, Outcome.adds], collSdP := fun _ p he => by simp [he, Outcome.adds] }

theorem EhStep.coll {c : Cfg} {s s' : State} (h : Coll c s) (hs : EhStep c s s') : Coll c s' := by
  have f := h.at
  cases hs with
  | entry hr | skip hr | done hr => rw [hr] at f; exact CollAt.coll { f with }
  | call hr hg hc => rw [hr] at f; exact CollAt.coll { f with ehNonnil := fun _ => hc.2 }
  | handlerPanic hr p hc =>
    rw [hr] at f
    -- a handler that runs was given a non-nil aggregate, so some phase has failed
    exact CollAt.coll { f.append [p, idPanic] (fun g => absurd (f.collNil g) (f.ehNonnil rfl)) with ehNonnil := nofun }
  | handlerEnd hr hc => rw [hr] at f; exact CollAt.coll { f with ehNonnil := nofun }

/-- Each way `ctxDone` can become true has its reason in the log, in the form `ctxEndBefore` looks for: `s.cancel()` was
    called by the Run goroutine after Run (or Run is nil) or by a `Close` (`cc`); a cancelled parent has its
    `cancelParent` event (`pc1`) and the parent of the service context is that of a logged `Start` call (`pc2`). -/
structure CtxLog (c : Cfg) (s : State) : Prop where
  cc : s.cancelCalled = true → c.run.present = false ∨ has s.log (isEnd .run) = true ∨ has s.log isCloseCall = true
  pc1 : ∀ p ∈ s.cancelled, ∃ k, (k, Ev.cancelParent p) ∈ s.log
  pc2 : ∀ p, s.svcParent = some p → ∃ k t i, (k, Ev.call t i (.start p)) ∈ s.log

theorem CtxLog.step {c : Cfg} {s s' : State} (h : CtxLog c s) (k : Nat) (evs : List Ev)
    (hl : s'.log = s.log ++ stamp k evs)
    (e1 : s'.cancelCalled = true → s.cancelCalled = true ∨
      c.run.present = false ∨ has s'.log (isEnd .run) = true ∨ has s'.log isCloseCall = true)
    (e2 : ∀ p ∈ s'.cancelled, p ∈ s.cancelled ∨ ∃ k, (k, Ev.cancelParent p) ∈ s'.log)
    (e3 : ∀ p, s'.svcParent = some p → s.svcParent = some p ∨ ∃ k t i, (k, Ev.call t i (.start p)) ∈ s'.log) :
    CtxLog c s' := by
  have hsub : ∀ x ∈ s.log, x ∈ s'.log := fun x hx => hl ▸ List.mem_append_left _ hx
  have hhas : ∀ p, has s.log p = true → has s'.log p = true := fun p hp => by rw [hl, has_append, hp]; rfl
  refine ⟨fun hc => (e1 hc).elim (fun g => (h.cc g).imp_right (Or.imp (hhas _) (hhas _))) id,
    fun p hp => (e2 p hp).elim (fun g => (h.pc1 p g).imp fun k hk => hsub _ hk) id, fun p hp => (e3 p hp).elim (fun g => ?_) id⟩
  obtain ⟨k, t, i, hk⟩ := h.pc2 p g
  exact ⟨k, t, i, hsub _ hk⟩

theorem CtxLog.frame {c : Cfg} {s s' : State} (h : CtxLog c s) (k : Nat) (evs : List Ev)
    (hl : s'.log = s.log ++ stamp k evs) (e1 : s'.cancelCalled = s.cancelCalled)
    (e2 : s'.cancelled = s.cancelled) (e3 : s'.svcParent = s.svcParent) : CtxLog c s' :=
  h.step k evs hl (fun g => .inl (e1 ▸ g)) (fun _ hp => .inl (e2 ▸ hp)) (fun _ hp => .inl (e3 ▸ hp))

theorem CtxLog.frame' {c : Cfg} {s s' : State} (h : CtxLog c s) (e1 : s'.cancelCalled = s.cancelCalled)
    (e2 : s'.cancelled = s.cancelled) (e3 : s'.svcParent = s.svcParent)
    (hl : Appends s s' (fun _ => True)) : CtxLog c s' := by
  obtain ⟨evs, h1, _, _⟩ := hl; exact h.frame s.clock evs h1 e1 e2 e3

theorem RgStep.ctxLog {c : Cfg} {s s' : State} (h : CtxLog c s) (hR : RunLog c s) (hs : RgStep c s s') : CtxLog c s' := by
  cases hs with
  | cancel hr =>
    -- the goroutine cancels the context after Run has returned
    refine h.step _ [] rfl (fun _ => .inr ?_) (fun _ => .inl) (fun _ => .inl)
    have hE := hR.runE
    rw [hr] at hE
    cases hp : c.run.present
    · exact .inl rfl
    · exact .inr (.inl (by simpa [hp, RgLoc.rank] using hE))
  | _ => exact h.frame _ _ rfl rfl rfl rfl

theorem SdStep.ctxLog {c : Cfg} {s s' : State} (h : CtxLog c s) (hs : SdStep c s s') : CtxLog c s' := by
  cases hs <;> exact h.frame _ _ rfl rfl rfl rfl

theorem EhStep.ctxLog {c : Cfg} {s s' : State} (h : CtxLog c s) (hs : EhStep c s s') : CtxLog c s' := by
  cases hs <;> exact h.frame _ _ rfl rfl rfl rfl

theorem CtxLog.cancelParent {c : Cfg} {s : State} (h : CtxLog c s) (p : Nat) :
    CtxLog c ({ s with cancelled := p :: s.cancelled }.tick [.cancelParent p]) := by
  refine h.step _ _ rfl .inl (fun q hq => ?_) (fun _ => .inl)
  rcases List.mem_cons.mp hq with rfl | hq
  · exact .inr ⟨s.clock, List.mem_append_right _ (List.mem_singleton.mpr rfl)⟩
  · exact .inl hq

theorem CtxLog.move {c : Cfg} {s : State} (h : CtxLog c s) {t : Nat} {th : Thread} {evs : List Ev} :
    CtxLog c ((s.setTh t th).tick evs) := h.frame _ _ rfl rfl rfl rfl

theorem ThStep.ctxLog {c : Cfg} {s s' : State} {t : Nat} {th : Thread} {op : Op} (h : CtxLog c s)
    (hcall : th.loc ≠ .idle → ∃ k, (k, Ev.call t th.pc op) ∈ s.log) (hs : ThStep c s t th op s') : CtxLog c s' := by
  cases hs with
  | close hl =>
    exact h.step _ _ rfl (fun _ => .inr (.inr (.inr (by simp [State.finish, has_append, has_stamp])))) (fun _ => .inl)
      (fun _ => .inl)
  | startLaunch p hl hon =>
    -- the parent of the service context is the one given to this `Start`, whose call is in the log
    obtain ⟨k, hk⟩ := hcall (by simp [hl])
    exact h.step _ [] rfl .inl (fun _ => .inl) fun q hq => .inr ⟨k, t, th.pc, List.mem_append_left _ (Option.some.inj hq ▸ hk)⟩
  | startSwap | startClaim | startStore | startUndo | startNil => apply CtxLog.move; exact { h with }
  | _ => exact h.move

end FunModel.Service
