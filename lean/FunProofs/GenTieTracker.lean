import FunGen.Tracker
import FunModel.Queue

/-! T-gen tie, vocabulary: how a `Tracker` of the model is read as one of the structures that
    tools/go2lean regenerates from pubsub/tracker.go on every run. The ties are FunProps/C05Gen.lean: if the
    Go code changes, the generated definitions change and those theorems are re-checked against them. -/

namespace FunProofs.GenTie
open FunModel FunGen FunModel.Queue FunGen.Tracker

def errOf : Queue.Tracker.AddRes → GErr
  | .ok => .nil
  | .full => .ErrQueueFull
  | .noCredit => .ErrQueueNoCredit

def genSoft (sq hl l : Nat) (cr : Float) : queueLimitTrackerImpl :=
  { softQuota := sq, hardLimit := hl, length := l, credit := cr }

/-- only ever applied to the `add`/`remove` of a `.soft` tracker, which is `.soft`; the `.noLimit` case is
    a filler -/
def genOfSoft : Queue.Tracker → queueLimitTrackerImpl
  | .soft sq hl l cr => genSoft sq hl l cr
  | .noLimit l => genSoft 0 0 l 0

theorem float_ofInt_sub (a b : Nat) (h : b ≤ a) : Float.ofInt ((a : Int) - (b : Int)) = Float.ofNat (a - b) := by
  have : ((a : Int) - (b : Int)) = ((a - b : Nat) : Int) := by omega
  rw [this]; rfl

theorem float_ofInt_nat (a : Nat) : Float.ofInt (a : Int) = Float.ofNat a := rfl

def genNoLimit (l : Nat) : queueNoLimitTrackerImpl := { length := l }

end FunProofs.GenTie
