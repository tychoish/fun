import FunModel.Stream
import FunProofs.ListAux

/-! Functional specification of sequential iterator pipelines (C02). A stream is compared with its specification
    through how it ends (`ends`: its values, and whether it stopped on anything but exhaustion or `io.EOF`): each
    combinator's ending is a function of its operands' endings, `Join` and `Chain` are `concatStop` over them, and
    `Sim` says how far the specification describes an ending. -/

namespace FunModel.Stream

/-- the values of a raw call stream as an iterator over it reports them: `skip` results are dropped,
    the first other non-value result ends the sequence -/
def valsSkip : S → List Int
  | [] => []
  | .val a :: r => a :: valsSkip r
  | .skip :: r => valsSkip r
  | _ :: _ => []

/-- the first result of a raw call stream that is neither a value nor a skip (`none`: the script is
    exhausted, i.e. `eof` forever) -/
def stopEv : S → Option Ev
  | [] => none
  | .val _ :: r => stopEv r
  | .skip :: r => stopEv r
  | t :: _ => some t

/-- the user function `f` applied to `xs` in order, from call counter `n`: the values produced and
    the injected event that stopped it, if any -/
def applyFnE (f : Fn) : Nat → List Int → List Int × Option Ev
  | _, [] => ([], none)
  | n, x :: r =>
    match f.call n x with
    | .val b => (b :: (applyFnE f (n + 1) r).1, (applyFnE f (n + 1) r).2)
    | .skip => applyFnE f (n + 1) r
    | ev => ([], some ev)

/-- `applyFnE` with the stopping event forgotten: (values, failed?), the shape of `spec` -/
def applyFn (f : Fn) (n : Nat) (xs : List Int) : List Int × Bool :=
  ((applyFnE f n xs).1, (applyFnE f n xs).2.isSome)

/-- `itertool.Uniq` on lists: the first occurrence of each value is kept (`C02.dedupeFirst_spec`) -/
def dedupeFirst : List Int → List Int
  | [] => []
  | x :: r => x :: (dedupeFirst r).filter (fun y => y != x)

/-- `itertool.Indexed` as the harness encodes its pairs: `index * 1000 + value` -/
def enumerate (xs : List Int) : List Int := xs.zipIdx.map (fun p => (p.2 : Int) * 1000 + p.1)

/-- operands (values, failed?) read one after the other, as `Join` and `Chain` are specified: the values up to
    and including those of the first operand that failed, and whether one failed -/
def concatStop : List (List Int × Bool) → List Int × Bool
  | [] => ([], false)
  | p :: r => if p.2 then (p.1, true) else (p.1 ++ (concatStop r).1, (concatStop r).2)

mutual
/-- the functional specification: (values, failed?) -/
def spec : Op → List Int × Bool
  | .slice xs => (xs, false)
  | .stack xs => (xs.reverse, false)
  | .gen evs => (valsSkip evs, (stopEv evs).isSome)
  | .filter m r t => ((spec t).1.filter (keep m r), (spec t).2)
  | .map f t => ((applyFn f 0 (spec t).1).1, (applyFn f 0 (spec t).1).2 || (spec t).2)
  | .join t rest => concatStop (spec t :: specAll rest)
  | .chain ts => concatStop (specAll ts)
  | .pipe _ t => spec t
  | .uniq t => (dedupeFirst (spec t).1, (spec t).2)
  | .dropZero t => ((spec t).1.filter (fun x => x != 0), (spec t).2)
  | .indexed t => (enumerate (spec t).1, (spec t).2)
  | .mergeSlices sls => (sls.flatten, false)
  | .jsonRound t => spec t
def specAll : List Op → List (List Int × Bool)
  | [] => []
  | t :: ts => spec t :: specAll ts
end

/-- no operand but the last has failed -/
def initOK : List (List Int × Bool) → Bool
  | [] => true
  | [_] => true
  | p :: q :: r => !p.2 && initOK (q :: r)

mutual
/-- in every `join`/`chain` node every operand except the last has not failed (according to `spec`),
    recursively for all sub-pipelines -/
def NoInnerFailure : Op → Bool
  | .slice _ => true
  | .stack _ => true
  | .gen _ => true
  | .filter _ _ t => NoInnerFailure t
  | .map _ t => NoInnerFailure t
  | .join t rest => NoInnerFailure t && NoInnerFailureAll rest && initOK (spec t :: specAll rest)
  | .chain ts => NoInnerFailureAll ts && initOK (specAll ts)
  | .pipe _ t => NoInnerFailure t
  | .uniq t => NoInnerFailure t
  | .dropZero t => NoInnerFailure t
  | .indexed t => NoInnerFailure t
  | .mergeSlices _ => true
  | .jsonRound t => NoInnerFailure t
def NoInnerFailureAll : List Op → Bool
  | [] => true
  | t :: ts => NoInnerFailure t && NoInnerFailureAll ts
end

mutual
/-- the identities of all `.err` events injected anywhere in a pipeline -/
def injErrs : Op → List Nat
  | .slice _ => []
  | .stack _ => []
  | .gen evs => evs.filterMap (fun e => match e with | .err n => some n | _ => none)
  | .filter _ _ t => injErrs t
  | .map f t => f.inj.filterMap (fun p => match p.2 with | .err n => some n | _ => none) ++ injErrs t
  | .join t rest => injErrs t ++ injErrsAll rest
  | .chain ts => injErrsAll ts
  | .pipe _ t => injErrs t
  | .uniq t => injErrs t
  | .dropZero t => injErrs t
  | .indexed t => injErrs t
  | .mergeSlices _ => []
  | .jsonRound t => injErrs t
def injErrsAll : List Op → List Nat
  | [] => []
  | t :: ts => injErrs t ++ injErrsAll ts
end

/-- what `Reduce` reports for the event that stopped it -/
def reduceErr : Option Ev → Option Nat
  | some .ctx => some 0
  | some (.err e) => some e
  | _ => none

/-- the stream ended by exhaustion / `io.EOF` (the only endings after which `Join` moves on) -/
def okFin : Option Ev → Bool
  | none => true
  | some .eof => true
  | _ => false

/-- the (at most one) trailing non-value event of an iterator's call stream -/
def tailOf : Option Ev → S
  | some .eof => [.eof]
  | some (.err _) => [.eof]
  | some .abort => [.abort]
  | some .ctx => [.ctx]
  | _ => []

theorem applyFn_nil (f : Fn) (n : Nat) : applyFn f n [] = ([], false) := rfl

theorem applyFn_cons_val (f : Fn) (n : Nat) (x b : Int) (r : List Int) (h : f.call n x = .val b) :
    applyFn f n (x :: r) = (b :: (applyFn f (n + 1) r).1, (applyFn f (n + 1) r).2) := by
  simp [applyFn, applyFnE, h]

theorem applyFn_cons_skip (f : Fn) (n : Nat) (x : Int) (r : List Int) (h : f.call n x = .skip) :
    applyFn f n (x :: r) = applyFn f (n + 1) r := by
  simp [applyFn, applyFnE, h]

theorem applyFn_cons_stop (f : Fn) (n : Nat) (x : Int) (r : List Int)
    (h1 : ∀ b, f.call n x ≠ .val b) (h2 : f.call n x ≠ .skip) :
    applyFn f n (x :: r) = ([], true) := by
  cases h : f.call n x with
  | val b => exact absurd h (h1 b)
  | skip => exact absurd h h2
  | _ => simp [applyFn, applyFnE, h]

theorem applyFn_of_call_val (f : Fn) (n : Nat) (xs : List Int)
    (h : ∀ m y, n ≤ m → f.call m y = .val (y * f.mul + f.add)) :
    applyFn f n xs = (xs.map (fun x => x * f.mul + f.add), false) := by
  induction xs generalizing n with
  | nil => rfl
  | cons x r ih =>
    rw [applyFn_cons_val f n x _ r (h n x (Nat.le_refl n)),
      ih (n + 1) (fun m y hm => h m y (Nat.le_of_succ_le hm))]
    rfl

theorem call_of_inj_nil (f : Fn) (h : f.inj = []) (n : Nat) (x : Int) :
    f.call n x = .val (x * f.mul + f.add) := by
  simp [Fn.call, h]

theorem call_single_self (f : Fn) (k : Nat) (e : Ev) (h : f.inj = [(k, e)]) (x : Int) :
    f.call k x = e := by
  simp [Fn.call, h]

theorem call_single_ne (f : Fn) (k : Nat) (e : Ev) (h : f.inj = [(k, e)]) {n : Nat} (hk : k ≠ n)
    (x : Int) : f.call n x = .val (x * f.mul + f.add) := by
  simp [Fn.call, h, hk]

theorem applyFn_single_skip (f : Fn) (n i : Nat) (h : f.inj = [(i + n, .skip)]) (xs : List Int) :
    applyFn f n xs = ((xs.eraseIdx i).map (fun x => x * f.mul + f.add), false) := by
  induction xs generalizing n i with
  | nil => rfl
  | cons x r ih =>
    cases i with
    | zero =>
      rw [Nat.zero_add] at h
      rw [applyFn_cons_skip f n x r (call_single_self f n .skip h x), applyFn_of_call_val f (n + 1) r
        (fun m y hm => call_single_ne f n .skip h (Nat.ne_of_lt hm) y)]
      rfl
    | succ i =>
      rw [applyFn_cons_val f n x _ r (call_single_ne f _ .skip h (by omega) x),
        ih (n + 1) i (by rw [h, Nat.add_right_comm, Nat.add_assoc])]
      rfl

theorem applyFn_single_stop (f : Fn) (n i : Nat) (e : Ev) (h : f.inj = [(i + n, e)])
    (h1 : ∀ b, e ≠ .val b) (h2 : e ≠ .skip) (xs : List Int) :
    applyFn f n xs = ((xs.take i).map (fun x => x * f.mul + f.add), decide (i < xs.length)) := by
  induction xs generalizing n i with
  | nil => simp [applyFn_nil]
  | cons x r ih =>
    cases i with
    | zero =>
      rw [Nat.zero_add] at h
      have hc := call_single_self f n e h x
      rw [applyFn_cons_stop f n x r (hc ▸ h1) (hc ▸ h2)]
      rfl
    | succ i =>
      rw [applyFn_cons_val f n x _ r (call_single_ne f _ e h (by omega) x),
        ih (n + 1) i (by rw [h, Nat.add_right_comm, Nat.add_assoc])]
      simp

theorem applyFnE_prefix (f : Fn) (n : Nat) (xs ys : List Int) (h : xs <+: ys) :
    (applyFnE f n xs).1 <+: (applyFnE f n ys).1 := by
  obtain ⟨zs, rfl⟩ := h
  induction xs generalizing n with
  | nil => exact List.nil_prefix
  | cons x r ih =>
    cases h : f.call n x with
    | val b => simp only [applyFnE, h, List.cons_append, List.prefix_cons_inj]; exact ih (n + 1)
    | skip => simp only [applyFnE, h, List.cons_append]; exact ih (n + 1)
    | _ => simp [applyFnE, h]

theorem dedupeFirst_eq_eraseDups (xs : List Int) : dedupeFirst xs = xs.eraseDups := by
  induction xs with
  | nil => rfl
  | cons x r ih => rw [dedupeFirst, ih, List.eraseDups_cons, List.eraseDups_filter]; rfl

theorem mem_dedupeFirst (xs : List Int) (y : Int) : y ∈ dedupeFirst xs ↔ y ∈ xs :=
  dedupeFirst_eq_eraseDups xs ▸ List.mem_eraseDups

theorem dedupeFirst_nodup (xs : List Int) : (dedupeFirst xs).Nodup := by
  induction xs with
  | nil => simp [dedupeFirst]
  | cons x r ih =>
    simp only [dedupeFirst, List.nodup_cons]
    refine ⟨?_, ih.sublist List.filter_sublist⟩
    simp [List.mem_filter]

theorem dedupeFirst_prefix (xs ys : List Int) (h : xs <+: ys) : dedupeFirst xs <+: dedupeFirst ys := by
  obtain ⟨zs, rfl⟩ := h
  induction xs with
  | nil => exact List.nil_prefix
  | cons x r ih =>
    simp only [dedupeFirst, List.cons_append, List.prefix_cons_inj]
    exact ih.filter _

theorem enumerate_prefix (xs ys : List Int) (h : xs <+: ys) : enumerate xs <+: enumerate ys := by
  obtain ⟨zs, rfl⟩ := h
  unfold enumerate
  rw [List.zipIdx_append]
  exact (List.prefix_append _ _).map _

theorem uniqGo_eq (xs : List Int) (seen : List Int) :
    uniqGo seen xs = (dedupeFirst xs).filter (fun y => !seen.contains y) := by
  induction xs generalizing seen with
  | nil => rfl
  | cons x r ih =>
    rw [uniqGo, dedupeFirst, List.filter_cons, List.filter_filter, ih, ih]
    cases hx : seen.contains x with
    | false =>
      refine congrArg (x :: ·) (List.filter_congr fun y _ => ?_)
      by_cases hy : y = x <;> simp [hy]
    | true =>
      -- `x` has been seen already, so excluding it again changes nothing
      refine List.filter_congr fun y _ => ?_
      by_cases hy : y = x
      · subst hy; simpa using hx
      · simp [hy]

theorem uniqGo_nil (xs : List Int) : uniqGo [] xs = dedupeFirst xs := by
  rw [uniqGo_eq]; simp

@[simp] theorem vals_map_val_append (vs : List Int) (tl : S) :
    vals (vs.map .val ++ tl) = vs ++ vals tl := by
  induction vs with
  | nil => rfl
  | cons v r ih => exact congrArg (v :: ·) ih

@[simp] theorem valsSkip_map_val_append (vs : List Int) (tl : S) :
    valsSkip (vs.map .val ++ tl) = vs ++ valsSkip tl := by
  induction vs with
  | nil => rfl
  | cons v r ih => exact congrArg (v :: ·) ih

@[simp] theorem stopEv_map_val_append (vs : List Int) (tl : S) :
    stopEv (vs.map .val ++ tl) = stopEv tl := by
  induction vs with
  | nil => rfl
  | cons v r ih => exact ih

@[simp] theorem vals_map_val (vs : List Int) : vals (vs.map .val) = vs := by
  rw [← List.append_nil (vs.map _), vals_map_val_append]; exact List.append_nil vs

@[simp] theorem valsSkip_map_val (vs : List Int) : valsSkip (vs.map .val) = vs := by
  rw [← List.append_nil (vs.map _), valsSkip_map_val_append]; exact List.append_nil vs

@[simp] theorem stopEv_map_val (vs : List Int) : stopEv (vs.map .val) = none := by
  rw [← List.append_nil (vs.map _), stopEv_map_val_append]; rfl

/-- the raw streams of the goroutine-backed stages, `Chain`, `Uniq` and `MergeSlices` are values
    followed by `eof` -/
theorem map_val_eof_spec (vs : List Int) :
    vals (vs.map .val ++ [.eof]) = vs ∧ valsSkip (vs.map .val ++ [.eof]) = vs ∧
      okFin (stopEv (vs.map .val ++ [.eof])) = true := by
  rw [vals_map_val_append, valsSkip_map_val_append, stopEv_map_val_append]
  exact ⟨List.append_nil vs, List.append_nil vs, rfl⟩

@[simp] theorem okFin_none : okFin none = true := rfl
@[simp] theorem okFin_eof : okFin (some .eof) = true := rfl
@[simp] theorem okFin_abort : okFin (some .abort) = false := rfl
@[simp] theorem okFin_ctx : okFin (some .ctx) = false := rfl
@[simp] theorem okFin_err (e : Nat) : okFin (some (.err e)) = false := rfl

@[simp] theorem tailOf_spec (o : Option Ev) :
    vals (tailOf o) = [] ∧ valsSkip (tailOf o) = [] ∧ tailOf (stopEv (tailOf o)) = tailOf o := by
  cases o with
  | none => exact ⟨rfl, rfl, rfl⟩
  | some t => cases t <;> exact ⟨rfl, rfl, rfl⟩

theorem tailOf_cases (o : Option Ev) :
    tailOf o = [] ∨ ∃ t, (t = .eof ∨ t = .abort ∨ t = .ctx) ∧ tailOf o = [t] :=
  match o with
  | some .eof | some (.err _) => .inr ⟨.eof, .inl rfl, rfl⟩
  | some .abort => .inr ⟨.abort, .inr (.inl rfl), rfl⟩
  | some .ctx => .inr ⟨.ctx, .inr (.inr rfl), rfl⟩
  | none | some (.val _) | some .skip => .inl rfl

theorem okFin_of_isSome_eq_false (o : Option Ev) (h : o.isSome = false) : okFin o = true := by
  cases o with
  | none => rfl
  | some t => simp at h

theorem tailOf_of_okFin : ∀ o, okFin o = true → tailOf o = [] ∨ tailOf o = [.eof]
  | none, _ => .inl rfl
  | some .eof, _ => .inr rfl
  | some (.val _), h | some .skip, h | some .abort, h | some .ctx, h | some (.err _), h => Bool.noConfusion h

theorem iter_eq (s : S) : iter s = (valsSkip s).map .val ++ tailOf (stopEv s) := by
  induction s with
  | nil => rfl
  | cons e r ih =>
    cases e with
    | val a => exact congrArg (Ev.val a :: ·) ih
    | skip => exact ih
    | _ => rfl

theorem vals_iter (s : S) : vals (iter s) = valsSkip s := by
  rw [iter_eq]; simp

theorem valsSkip_iter (s : S) : valsSkip (iter s) = valsSkip s := by
  rw [iter_eq]; simp

theorem okFin_stopEv_iter (s : S) (h : okFin (stopEv s) = true) : okFin (stopEv (iter s)) = true := by
  rw [iter_eq, stopEv_map_val_append]
  rcases tailOf_of_okFin _ h with h' | h' <;> rw [h'] <;> rfl

theorem iter_idem (s : S) : iter (iter s) = iter s := by
  rw [iter_eq (iter s), valsSkip_iter, iter_eq s, stopEv_map_val_append, (tailOf_spec _).2.2]

theorem readOne_sticky (s : S) : ∀ pre post e, (readOne s).1 = pre ++ e :: post → (∀ a, e ≠ .val a) → post = [] := by
  induction s with
  | nil => intro pre post e h; cases pre <;> nomatch h
  | cons x r ih =>
    intro pre post e h he
    cases x with
    | val a =>
      cases pre with
      | nil => exact absurd (List.cons.inj h).1.symm (he a)
      | cons p pre' => exact ih pre' post e (List.cons.inj h).2 he
    | skip => exact ih pre post e h he
    | _ =>
      -- the stream is a single event
      cases pre with
      | nil => exact (List.cons.inj h).2.symm
      | cons p pre' => cases pre' <;> nomatch (List.cons.inj h).2

theorem mem_iterErrs (s : S) (e : Nat) (h : e ∈ iterErrs s) : .err e ∈ s := by
  induction s with
  | nil => exact absurd h List.not_mem_nil
  | cons x r ih =>
    cases x with
    | val _ | skip => exact List.mem_cons_of_mem _ (ih h)
    | err e' => rw [List.mem_singleton.1 h]; exact List.mem_cons_self
    | _ => exact absurd h List.not_mem_nil

theorem err_not_mem_iter (s : S) (e : Nat) : .err e ∉ iter s := by
  rw [iter_eq]
  cases h : stopEv s with
  | none => simp [tailOf]
  | some t => cases t <;> simp [tailOf]

theorem filterS_spec (p : Int → Bool) (s : S) :
    vals (filterS p s) = (vals s).filter p ∧ valsSkip (filterS p s) = (valsSkip s).filter p ∧
      stopEv (filterS p s) = stopEv s := by
  induction s with
  | nil => exact ⟨rfl, rfl, rfl⟩
  | cons e r ih =>
    cases e with
    | val a =>
      simp only [filterS, vals, valsSkip, List.filter_cons]
      cases p a with
      | true => exact ⟨congrArg (a :: ·) ih.1, congrArg (a :: ·) ih.2.1, ih.2.2⟩
      | false => exact ih
    | skip => exact ⟨rfl, ih.2.1, ih.2.2⟩
    | _ => exact ⟨rfl, rfl, rfl⟩

theorem dropZeroS_eq_filterS (s : S) : dropZeroS s = filterS (fun x => x != 0) s := by
  induction s with
  | nil => rfl
  | cons e r ih =>
    cases e with
    | val a => by_cases h : a = 0 <;> simp [dropZeroS, filterS, h, ih]
    | _ => exact congrArg (_ :: ·) ih

theorem indexedS_spec (n : Nat) (s : S) :
    vals (indexedS n s) = ((vals s).zipIdx n).map (fun p => (p.2 : Int) * 1000 + p.1) ∧
      valsSkip (indexedS n s) = ((valsSkip s).zipIdx n).map (fun p => (p.2 : Int) * 1000 + p.1) ∧
      stopEv (indexedS n s) = stopEv s := by
  induction s generalizing n with
  | nil => exact ⟨rfl, rfl, rfl⟩
  | cons e r ih =>
    cases e with
    | val a => exact ⟨congrArg (_ :: ·) (ih _).1, congrArg (_ :: ·) (ih _).2.1, (ih _).2.2⟩
    | skip => exact ⟨rfl, (ih n).2.1, (ih n).2.2⟩
    | _ => exact ⟨rfl, rfl, rfl⟩

theorem transformS_spec (f : Fn) (n : Nat) (s : S) :
    vals (transformS f n s) = (applyFnE f n (valsSkip s)).1 ∧
      valsSkip (transformS f n s) = (applyFnE f n (valsSkip s)).1 ∧
      stopEv (transformS f n s) = ((applyFnE f n (valsSkip s)).2).or (stopEv s) := by
  induction s generalizing n with
  | nil => exact ⟨rfl, rfl, rfl⟩
  | cons e r ih =>
    cases e with
    | val a =>
      simp only [transformS, valsSkip, applyFnE]
      cases f.call n a with
      | val b => exact ⟨congrArg (b :: ·) (ih _).1, congrArg (b :: ·) (ih _).2.1, (ih _).2.2⟩
      | skip => exact ih _
      | _ => exact ⟨rfl, rfl, rfl⟩
    | skip => exact ih n
    | _ => exact ⟨rfl, rfl, rfl⟩

theorem joinSecond_spec (b : S) :
    vals (joinSecond b) = valsSkip b ∧ valsSkip (joinSecond b) = valsSkip b ∧
      stopEv (joinSecond b) = stopEv b := by
  induction b with
  | nil => exact ⟨rfl, rfl, rfl⟩
  | cons e r ih =>
    cases e with
    | val x => exact ⟨congrArg (x :: ·) ih.1, congrArg (x :: ·) ih.2.1, ih.2.2⟩
    | skip => exact ih
    | _ => exact ⟨rfl, rfl, rfl⟩

theorem joinS_spec (a b : S) :
    vals (joinS a b) = valsSkip a ++ (if okFin (stopEv a) then valsSkip b else []) ∧
      valsSkip (joinS a b) = valsSkip a ++ (if okFin (stopEv a) then valsSkip b else []) ∧
      stopEv (joinS a b) = if okFin (stopEv a) then stopEv b else stopEv a := by
  induction a with
  | nil => exact joinSecond_spec b
  | cons e r ih =>
    cases e with
    | val x => exact ⟨congrArg (x :: ·) ih.1, congrArg (x :: ·) ih.2.1, ih.2.2⟩
    | skip => exact ih
    | eof => exact joinSecond_spec b
    | _ => exact ⟨rfl, rfl, rfl⟩

theorem denote_iter (op : Op) : iter (denote op) = denote op := by
  cases op <;> exact iter_idem _

theorem valsSkip_denote (op : Op) : valsSkip (denote op) = vals (denote op) := by
  rw [← vals_iter, denote_iter]

theorem denote_eq (op : Op) :
    denote op = (vals (denote op)).map .val ++ tailOf (stopEv (denote op)) := by
  have h := iter_eq (denote op)
  rw [denote_iter, valsSkip_denote] at h
  exact h

theorem concatStop_pair (p q : List Int × Bool) :
    concatStop [p, q] = if p.2 then (p.1, true) else (p.1 ++ q.1, q.2) := by
  cases hp : p.2 <;> cases hq : q.2 <;> simp [concatStop, hp, hq]

theorem concatStop_single (p : List Int × Bool) : concatStop [p] = p := by
  obtain ⟨l, b⟩ := p
  cases b <;> simp [concatStop]

/-- `concatStop` as a left fold, the way `Join` is built up -/
theorem concatStop_cons_cons (p q : List Int × Bool) (r : List (List Int × Bool)) :
    concatStop (p :: q :: r) = concatStop (concatStop [p, q] :: r) := by
  cases hp : p.2 <;> cases hq : q.2 <;> simp [concatStop, hp, hq]

/-- as seen by a reader that retries skips -/
def ends (D : S) : List Int × Bool := (valsSkip D, !okFin (stopEv D))

/-- the specification `sp` against the ending `e` of the stream: the specified values come first; unless the
    specification reports a failure it is exact, clean ending included; under `c` the values are exactly the
    specified ones even then. `Pre` (below, what `FunProps/C02.lean` reads) is the first two clauses, `Rel` all
    three with `c` true. -/
def Sim (c : Bool) (sp e : List Int × Bool) : Prop :=
  sp.1 <+: e.1 ∧ (sp.2 = false → e = sp) ∧ (c = true → e.1 = sp.1)

theorem Sim.of_vals {c : Bool} {sp e : List Int × Bool} (hv : e.1 = sp.1) (hs : sp.2 = false → e.2 = false) :
    Sim c sp e :=
  ⟨hv ▸ List.prefix_rfl, fun hf => Prod.ext hv ((hs hf).trans hf.symm), fun _ => hv⟩

theorem Sim.weaken {c : Bool} {sp : List Int × Bool} {vs : List Int} {b b' : Bool} (h : Sim c sp (vs, b))
    (hb : b = false → b' = false) : Sim c sp (vs, b') :=
  ⟨h.1, fun hf => by
    obtain rfl := h.2.1 hf
    exact congrArg (vs, ·) ((hb hf).trans hf.symm), h.2.2⟩

/-- the iterator over `X` yields the values of `X`, and ends cleanly if `X` does: this is where an `err`
    becomes `io.EOF` -/
theorem Sim.toIter {c : Bool} {sp : List Int × Bool} {X : S} (h : Sim c sp (ends X)) : Sim c sp (ends (iter X)) := by
  unfold ends; rw [valsSkip_iter]
  refine h.weaken fun hb => ?_
  rw [okFin_stopEv_iter X (by simpa using hb)]; rfl

/-- `Sim` operand by operand. The conditions are combined with `&&` so that the index computed for the operands of
    a `join`/`chain` node is, by unfolding, what `NoInnerFailure` says of them. -/
inductive SimAll : Bool → List (List Int × Bool) → List (List Int × Bool) → Prop
  | nil : SimAll true [] []
  | cons {c cs sp e sps es} : Sim c sp e → SimAll cs sps es → SimAll (c && cs) (sp :: sps) (e :: es)

theorem SimAll.concat {c : Bool} {sps es : List (List Int × Bool)} (h : SimAll c sps es) :
    Sim (c && initOK sps) (concatStop sps) (concatStop es) := by
  induction h with
  | nil => exact .of_vals rfl id
  | @cons c cs sp e sps es h hr ih =>
    cases hf : sp.2 with
    | true =>
      refine ⟨?_, fun h' => by simp [concatStop, hf] at h', fun hc => ?_⟩
      · simp only [concatStop, hf, if_true]
        split
        · exact h.1
        · exact h.1.trans (List.prefix_append _ _)
      · -- a failed operand can only be the last one
        cases hr with
        | cons _ _ => simp [initOK, hf] at hc
        | nil => rw [concatStop_single, concatStop_single]; exact h.2.2 (by simp_all)
    | false =>
      obtain rfl := h.2.1 hf
      simp only [concatStop, hf, Bool.false_eq_true, if_false]
      refine ⟨(List.prefix_append_right_inj _).2 ih.1, fun h' => by rw [ih.2.1 h'], fun hc => ?_⟩
      refine congrArg (e.1 ++ ·) (ih.2.2 ?_)
      cases hr <;> simp_all [initOK]

theorem ends_joinS (a b : S) : ends (joinS a b) = concatStop [ends a, ends b] := by
  have h := joinS_spec a b
  rw [concatStop_pair]
  unfold ends
  rw [h.2.1, h.2.2]
  cases h' : okFin (stopEv a) <;> simp [h']

theorem ends_foldl_joinS (ss : List S) (a : S) :
    ends (ss.foldl joinS a) = concatStop (ends a :: ss.map ends) := by
  induction ss generalizing a with
  | nil => exact (concatStop_single _).symm
  | cons D ss ih => rw [List.foldl_cons, ih, ends_joinS, List.map_cons, ← concatStop_cons_cons]

/-- `Chain` reads every operand to its first error, whatever that error is -/
theorem ends_chainS (ss : List S) : ends (chainS ss) = concatStop (ss.map fun D => (vals D, false)) := by
  have h : ∀ ss : List S, concatStop (ss.map fun D => (vals D, false)) = (ss.flatMap vals, false) := by
    intro ss
    induction ss with
    | nil => rfl
    | cons D ss ih => rw [List.map_cons, concatStop, if_neg Bool.false_ne_true, ih]; rfl
  exact (h ss).symm ▸ Prod.ext (map_val_eof_spec _).2.1 (congrArg (!·) (map_val_eof_spec _).2.2)

theorem Sim.source {c : Bool} {sp : List Int × Bool} {X : S} (hv : valsSkip X = sp.1)
    (hs : sp.2 = false → okFin (stopEv X) = true) : Sim c sp (ends (iter X)) :=
  Sim.toIter (.of_vals hv fun hf => congrArg (!·) (hs hf))

/-- a stage whose values are a monotone function `F` of its operand's values, which fails (`b`) at least where
    its operand does, and which otherwise ends cleanly if its operand does -/
theorem Sim.stage {F : List Int → List Int} (hF : ∀ xs ys, xs <+: ys → F xs <+: F ys) {c b : Bool}
    {sp : List Int × Bool} {D X : S} (h : Sim c sp (ends D)) (hv : valsSkip X = F (valsSkip D))
    (hb : b = false → sp.2 = false)
    (hs : b = false → valsSkip D = sp.1 → okFin (stopEv D) = true → okFin (stopEv X) = true) :
    Sim c (F sp.1, b) (ends (iter X)) := by
  refine Sim.toIter ⟨show _ <+: valsSkip X from hv ▸ hF _ _ h.1, fun hf => ?_, fun hc => hv.trans (congrArg F (h.2.2 hc))⟩
  have hD := h.2.1 (hb hf)
  have hv' : valsSkip D = sp.1 := congrArg Prod.fst hD
  have hok : okFin (stopEv D) = true := by simpa [ends, hb hf] using congrArg Prod.snd hD
  exact Prod.ext (hv.trans (congrArg F hv')) ((congrArg (!·) (hs hf hv' hok)).trans hf.symm)

mutual
/-- the main invariant; `c` is `NoInnerFailure` because a `join`/`chain` node reads on after an operand whose
    `err` its iterator has turned into `io.EOF` (`Sim.toIter`), where the specification stops -/
theorem denote_spec : (op : Op) → Sim (NoInnerFailure op) (spec op) (ends (denote op))
  | .slice _ | .stack _ => .source (valsSkip_map_val _) fun _ => congrArg okFin (stopEv_map_val _)
  | .gen evs => .source rfl (okFin_of_isSome_eq_false _)
  | .filter m r t =>
    .stage (F := List.filter (keep m r)) (fun _ _ h => h.filter _) (denote_spec t)
      (filterS_spec _ _).2.1 id fun _ _ => (congrArg okFin (filterS_spec _ _).2.2).trans
  | .map f t =>
    have ht := transformS_spec f 0 (denote t)
    .stage (F := fun xs => (applyFnE f 0 xs).1) (applyFnE_prefix f 0) (denote_spec t) ht.2.1
      (fun hb => (Bool.or_eq_false_iff.1 hb).2) fun hb hv hok => by
        have hb : (applyFnE f 0 (spec t).1).2.isSome = false := (Bool.or_eq_false_iff.1 hb).1
        rw [ht.2.2, hv, Option.not_isSome_iff_eq_none.1 (ne_true_of_eq_false hb)]; exact hok
  | .join t rest => Sim.toIter (ends_foldl_joinS _ _ ▸ (SimAll.cons (denote_spec t) (denoteAll_spec rest).1).concat)
  | .chain ts => Sim.toIter (ends_chainS _ ▸ (denoteAll_spec ts).2.concat)
  | .pipe _ t =>
    .stage (F := id) (fun _ _ h => h) (denote_spec t)
      ((map_val_eof_spec _).2.1.trans (valsSkip_denote t).symm) id fun _ _ _ => (map_val_eof_spec _).2.2
  | .uniq t =>
    .stage (F := dedupeFirst) dedupeFirst_prefix (denote_spec t)
      (by rw [uniqS, (map_val_eof_spec _).2.1, uniqGo_nil, valsSkip_denote])
      id fun _ _ _ => (map_val_eof_spec _).2.2
  | .dropZero t =>
    .stage (F := List.filter (fun x => x != 0)) (fun _ _ h => h.filter _) (denote_spec t)
      (dropZeroS_eq_filterS _ ▸ (filterS_spec _ _).2.1)
      id fun _ _ => (congrArg okFin (dropZeroS_eq_filterS _ ▸ (filterS_spec _ _).2.2)).trans
  | .indexed t =>
    .stage (F := enumerate) enumerate_prefix (denote_spec t)
      (indexedS_spec 0 _).2.1 id fun _ _ => (congrArg okFin (indexedS_spec 0 _).2.2).trans
  | .mergeSlices sls =>
    .source (by rw [mergeSlicesS, List.flatMap_id, (map_val_eof_spec _).2.1]; rfl)
      (fun _ => (map_val_eof_spec _).2.2)
  | .jsonRound t =>
    -- `joinS []` over a stream of values only yields those values and ends by exhaustion
    have hj := joinS_spec [] ((vals (denote t)).map .val)
    .stage (F := id) (fun _ _ h => h) (denote_spec t)
      (by rw [hj.2.1, valsSkip_map_val, valsSkip_denote]; rfl)
      id fun _ _ _ => by rw [hj.2.2, stopEv_map_val]; rfl
/-- the operands as `Join` sees them, and as `Chain` does, which reads on whatever the ending -/
theorem denoteAll_spec : (ts : List Op) →
    SimAll (NoInnerFailureAll ts) (specAll ts) ((denoteAll ts).map ends) ∧
      SimAll (NoInnerFailureAll ts) (specAll ts) ((denoteAll ts).map fun D => (vals D, false))
  | [] => ⟨.nil, .nil⟩
  | t :: ts =>
    ⟨.cons (denote_spec t) (denoteAll_spec ts).1,
      .cons (show Sim _ _ (vals (denote t), false) from valsSkip_denote t ▸ (denote_spec t).weaken fun _ => rfl)
        (denoteAll_spec ts).2⟩
end

/-- the exact relation; it holds of a pipeline under `NoInnerFailure` (`rel_denote`) -/
def Rel (D : S) (sp : List Int × Bool) : Prop :=
  vals D = sp.1 ∧ valsSkip D = sp.1 ∧ (sp.2 = false → okFin (stopEv D) = true)

def RelAll : List S → List (List Int × Bool) → Prop
  | [], [] => True
  | D :: ds, p :: ps => Rel D p ∧ RelAll ds ps
  | _, _ => False

/-- the unconditional relation (`pre_denote`) -/
def Pre (D : S) (sp : List Int × Bool) : Prop :=
  vals D = valsSkip D ∧ sp.1 <+: valsSkip D ∧
    (sp.2 = false → valsSkip D = sp.1 ∧ okFin (stopEv D) = true)

def PreAll : List S → List (List Int × Bool) → Prop
  | [], [] => True
  | D :: ds, p :: ps => Pre D p ∧ PreAll ds ps
  | _, _ => False

theorem rel_of_pre {D : S} {sp : List Int × Bool} (h : Pre D sp) (hv : valsSkip D = sp.1) : Rel D sp :=
  ⟨h.1.trans hv, hv, fun hf => (h.2.2 hf).2⟩

theorem Sim.pre {c : Bool} {sp : List Int × Bool} {D : S} (h : Sim c sp (ends D)) (hv : vals D = valsSkip D) :
    Pre D sp :=
  ⟨hv, h.1, fun hf => ⟨congrArg Prod.fst (h.2.1 hf), by simpa [ends, hf] using congrArg Prod.snd (h.2.1 hf)⟩⟩

theorem pre_denote (op : Op) : Pre (denote op) (spec op) := (denote_spec op).pre (valsSkip_denote op).symm

theorem rel_denote (op : Op) (h : NoInnerFailure op = true) : Rel (denote op) (spec op) :=
  rel_of_pre (pre_denote op) ((denote_spec op).2.2 h)

theorem pre_denoteAll : (ts : List Op) → PreAll (denoteAll ts) (specAll ts)
  | [] => trivial
  | t :: ts => ⟨pre_denote t, pre_denoteAll ts⟩

theorem rel_denoteAll : (ts : List Op) → NoInnerFailureAll ts = true →
    RelAll (denoteAll ts) (specAll ts)
  | [], _ => trivial
  | t :: ts, h => by
    have h : (NoInnerFailure t && NoInnerFailureAll ts) = true := h
    rw [Bool.and_eq_true] at h
    exact ⟨rel_denote t h.1, rel_denoteAll ts h.2⟩

theorem call_err_mem (f : Fn) (n : Nat) (x : Int) (e : Nat) (h : f.call n x = .err e) :
    ∃ k, (k, Ev.err e) ∈ f.inj := by
  unfold Fn.call at h
  cases hf : f.inj.find? (fun p => p.1 == n) with
  | none => simp [hf] at h
  | some p =>
    simp only [hf] at h
    have := List.mem_of_find?_eq_some hf
    exact ⟨p.1, by rw [← h]; exact this⟩

theorem mem_transformS (f : Fn) (t : Ev) (s : S) (n : Nat) (h : t ∈ transformS f n s) :
    t ∈ s ∨ ∃ m a, f.call m a = t := by
  induction s generalizing n with
  | nil => exact absurd h List.not_mem_nil
  | cons x r ih =>
    have tail : ∀ n, t ∈ transformS f n r → t ∈ x :: r ∨ ∃ m a, f.call m a = t :=
      fun n h => (ih n h).imp_left (List.mem_cons_of_mem _)
    cases x with
    | val a =>
      have : t = f.call n a ∨ t ∈ transformS f (n + 1) r := by
        cases hc : f.call n a with
        | skip => exact .inr (by simpa [transformS, hc] using h)
        | _ => simpa [transformS, hc] using h
      exact this.elim (fun h => .inr ⟨n, a, h.symm⟩) (tail _)
    | skip => exact tail n h
    | _ =>
      rcases List.mem_cons.1 h with rfl | h
      · exact .inl List.mem_cons_self
      · exact tail n h

mutual
theorem closeErrs_sub : (op : Op) → ∀ e, e ∈ closeErrs op → e ∈ injErrs op
  | .gen evs => fun e h => List.mem_filterMap.2 ⟨.err e, mem_iterErrs _ _ h, rfl⟩
  | .map f t => fun e h => by
    -- the iterator over `t` has turned every error of `t` into `eof`
    rcases mem_transformS f _ _ _ (mem_iterErrs _ _ h) with h' | ⟨m, a, hc⟩
    · rw [← denote_iter] at h'; exact absurd h' (err_not_mem_iter _ _)
    · obtain ⟨k, hk⟩ := call_err_mem f m a e hc
      exact List.mem_append.2 (.inl (List.mem_filterMap.2 ⟨(k, .err e), hk, rfl⟩))
  | .chain ts => closeErrsAll_sub ts
  | .pipe true t | .uniq t | .dropZero t => closeErrs_sub t
  | .slice _ | .stack _ | .filter _ _ _ | .join _ _ | .pipe false _ | .indexed _ | .mergeSlices _
  | .jsonRound _ => fun _ h => absurd h List.not_mem_nil
theorem closeErrsAll_sub : (ts : List Op) → ∀ e, e ∈ closeErrsAll ts → e ∈ injErrsAll ts
  | [] => fun _ h => absurd h List.not_mem_nil
  | t :: ts => fun e h =>
    List.mem_append.2 ((List.mem_append.1 h).imp (closeErrs_sub t e) (closeErrsAll_sub ts e))
end

end FunModel.Stream
