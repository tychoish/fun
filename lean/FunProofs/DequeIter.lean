import FunProofs.DequeLive

/-! The non-destructive Deque iterators (C20): what a call yields while the element it stands on
    is still linked (`ahead`), what pushes do to the unseen part, and that every yielded value
    belongs to an element that was created by a push. -/

namespace FunModel.Deque
open FunModel.Conc

/-- the entries after `c` in `l` (`c = 0`: all of `l`) -/
def aheadL (l : List (Nat × Int)) (c : Nat) : List (Nat × Int) :=
  if c = 0 then l else (l.dropWhile (fun p => p.1 != c)).tail

/-- what an iterator in direction `d` standing on `c` has not yet passed, in iteration order -/
def ahead (x : St) (d : End) (c : Nat) : List (Nat × Int) :=
  aheadL (match d with | .front => x.q | .back => x.q.reverse) c

theorem aheadL_cons_ne (p : Nat × Int) (l : List (Nat × Int)) {c : Nat} (h0 : c ≠ 0) (hne : p.1 ≠ c) :
    aheadL (p :: l) c = aheadL l c := by
  have : (p.1 != c) = true := by simpa using hne
  simp [aheadL, h0, this]

theorem aheadL_cons_self (p : Nat × Int) (l : List (Nat × Int)) (h0 : p.1 ≠ 0) : aheadL (p :: l) p.1 = l := by
  simp [aheadL, h0]

theorem after_map_eq {l : List (Nat × Int)} {c : Nat} (hc : c ≠ 0) (hm : c ∈ l.map (·.1)) :
    after (l.map (·.1)) c = some (((aheadL l c).map (·.1)).headD 0) := by
  induction l with
  | nil => cases hm
  | cons p r ih =>
    by_cases hp : p.1 = c
    · subst hp
      rw [List.map_cons, after_cons_self, aheadL_cons_self p r hc]
    · rw [List.map_cons, after_cons_ne _ (Ne.symm hp), aheadL_cons_ne p r hc hp]
      exact ih ((List.mem_cons.1 hm).resolve_left (Ne.symm hp))

theorem aheadL_sub {l : List (Nat × Int)} {c : Nat} {p : Nat × Int} (h : p ∈ aheadL l c) : p ∈ l := by
  unfold aheadL at h
  split at h
  · exact h
  · exact (List.dropWhile_sublist _).subset (List.mem_of_mem_tail h)

/-- stepping onto the first unseen element leaves the rest unseen; identities must be distinct, or `e`
    could occur earlier in `l` and `aheadL l e` would start there -/
theorem aheadL_step {l : List (Nat × Int)} (hn : (l.map (·.1)).Nodup) {c e : Nat} {v : Int} {rest : List (Nat × Int)}
    (he : e ≠ 0) (h : aheadL l c = (e, v) :: rest) : aheadL l e = rest := by
  by_cases h0 : c = 0
  · subst h0
    simp only [aheadL, ite_true] at h
    subst h
    exact aheadL_cons_self (e, v) rest he
  · induction l with
    | nil => simp [aheadL, h0] at h
    | cons p r ih =>
      simp only [List.map_cons, List.nodup_cons] at hn
      have hmem : (e, v) ∈ aheadL (p :: r) c := by rw [h]; exact List.mem_cons_self
      by_cases hp : p.1 = c
      · have hr : r = (e, v) :: rest := by
          rw [← hp] at h
          rw [aheadL_cons_self p r (by rw [hp]; exact h0)] at h
          exact h
        have hpe : p.1 ≠ e := by
          intro heq; apply hn.1; rw [heq, hr]; simp
        rw [aheadL_cons_ne p r he hpe, hr]
        exact aheadL_cons_self (e, v) rest he
      · rw [aheadL_cons_ne p r h0 hp] at h hmem
        have hin : e ∈ r.map (·.1) := List.mem_map.2 ⟨(e, v), aheadL_sub hmem, rfl⟩
        have hpe : p.1 ≠ e := by intro heq; apply hn.1; rw [heq]; exact hin
        rw [aheadL_cons_ne p r he hpe]
        exact ih hn.2 h

theorem dropWhile_ne_nil {α : Type} (P : α → Bool) {l : List α} {x : α} (hx : x ∈ l) (hp : P x = false) :
    l.dropWhile P ≠ [] := fun h => by
  have := List.any_dropWhile (p := P) (l := l)
  rw [h, List.any_nil, eq_comm, Bool.not_eq_false', List.all_eq_true] at this
  exact Bool.false_ne_true (hp ▸ this x hx)

theorem aheadL_append (l : List (Nat × Int)) (p : Nat × Int) (c : Nat) (hc : c = 0 ∨ c ∈ l.map (·.1)) :
    aheadL (l ++ [p]) c = aheadL l c ++ [p] := by
  by_cases h0 : c = 0
  · simp [aheadL, h0]
  · obtain ⟨q, hq, hqc⟩ := List.mem_map.1 (hc.resolve_left h0)
    have hne := dropWhile_ne_nil (fun x : Nat × Int => x.1 != c) hq (by simp [hqc])
    simp only [aheadL, h0, ite_false, List.dropWhile_append, List.isEmpty_iff, hne]
    exact List.tail_append_of_ne_nil hne

theorem ahead_eq (x : St) (d : End) (c : Nat) : ahead x d c = aheadL (dirL d x.q) c := by cases d <;> rfl

theorem nbr_ahead (x : St) (d : End) (c : Nat) (hc : c = 0 ∨ c ∈ x.ids) :
    x.nbr d c = ((ahead x d c).map (·.1)).headD 0 := by
  rw [nbr_eq, ahead_eq, St.ids, dirL_map]
  by_cases h0 : c = 0
  · rw [if_pos h0, aheadL, if_pos h0]
  · have hm : c ∈ (dirL d x.q).map (·.1) := by
      rw [← dirL_map]; exact mem_dirL.2 (hc.resolve_left h0)
    rw [if_neg h0, after_map_eq h0 hm]

/-- everything a cursor can come to stand on is the root or an element created by a push (`vals`),
    and `vals` maps each id to one item -/
structure Inv3 (x : St) : Prop where
  ids_pos : ∀ i ∈ x.ids, 0 < i
  q_vals : ∀ p ∈ x.q, p ∈ x.vals
  vals_lt : ∀ p ∈ x.vals, p.1 < x.nextId
  vals_nodup : (x.vals.map (·.1)).Nodup
  cur_vals : ∀ p ∈ x.cursors, p.2 = 0 ∨ p.2 ∈ x.vals.map (·.1)
  stale_vals : ∀ p ∈ x.stale, (p.2.1 = 0 ∨ p.2.1 ∈ x.vals.map (·.1)) ∧ (p.2.2 = 0 ∨ p.2.2 ∈ x.vals.map (·.1))

theorem valOf_of_mem {x : St} (h : Inv3 x) {e : Nat} {v : Int} (hm : (e, v) ∈ x.vals) : x.valOf e = v := by
  rw [St.valOf, List.find?_of_mem_of_nodup h.vals_nodup hm]; rfl

theorem valOf_mem {x : St} {e : Nat} (hm : e ∈ x.vals.map (·.1)) : (e, x.valOf e) ∈ x.vals := by
  obtain ⟨p, hf, hp, rfl⟩ := List.exists_find?_of_mem_map hm
  rw [St.valOf, hf]; exact hp

theorem Inv3.ids_vals {x : St} (h : Inv3 x) {i : Nat} (hi : i ∈ x.ids) : i ∈ x.vals.map (·.1) := by
  obtain ⟨p, hp, rfl⟩ := List.mem_map.1 hi
  exact List.mem_map_of_mem (h.q_vals p hp)

theorem Inv3.links {x : St} (h : Inv3 x) : Links (fun i => i = 0 ∨ i ∈ x.vals.map (·.1)) x :=
  ⟨.inl rfl, fun _ hi => .inr (h.ids_vals hi), h.cur_vals, h.stale_vals⟩

theorem Inv3.cursor_valid {x : St} (h : Inv3 x) (k : Nat) : x.cursor k = 0 ∨ x.cursor k ∈ x.vals.map (·.1) :=
  h.links.cursor k

theorem Inv3.nbr_valid {x : St} (h : Inv3 x) (d : End) (e : Nat) : x.nbr d e = 0 ∨ x.nbr d e ∈ x.vals.map (·.1) :=
  h.links.nbr d e

theorem addEnd_inv3 (x : St) (d : End) (v : Int) (h2 : Inv2 x) (h : Inv3 x) : Inv3 (addEnd x d v).1 := by
  by_cases hok : (addEnd x d v).2.1 = .ok
  · rw [(addEnd_ok_eq hok).2.1]
    have hl : Links (fun i => i = 0 ∨ i ∈ ((x.nextId, v) :: x.vals).map (·.1)) (pushed x d v) :=
      h.links.pushed d v (fun _ hi => hi.imp id (List.mem_cons_of_mem _)) (.inr List.mem_cons_self)
    refine ⟨?_, ?_, ?_, ?_, hl.cur, hl.stale⟩
    · intro i hi
      rcases List.mem_cons.1 ((pushed_ids_perm x d v).mem_iff.1 hi) with rfl | hi
      · exact h2.next_pos
      · exact h.ids_pos i hi
    · intro p hp
      rcases mem_addQ.1 hp with rfl | hp
      · exact List.mem_cons_self
      · exact List.mem_cons_of_mem _ (h.q_vals p hp)
    · intro p hp
      rcases List.mem_cons.1 hp with rfl | hp
      · exact Nat.lt_succ_self _
      · exact Nat.lt_succ_of_lt (h.vals_lt p hp)
    · refine List.nodup_cons.2 ⟨?_, h.vals_nodup⟩
      intro hm
      obtain ⟨p, hp, hpe⟩ := List.mem_map.1 hm
      exact Nat.lt_irrefl _ (hpe ▸ h.vals_lt p hp)
  · rw [addEnd_fail_eq x d v hok]; exact h

theorem popEnd_inv3 (x : St) (d : End) (h : Inv3 x) : Inv3 (popEnd x d).1 := by
  cases hp : (popEnd x d).2.1 with
  | none => rw [popEnd_none_eq x d hp]; exact h
  | some v =>
    obtain ⟨_, e, rest, hq, heq⟩ := popEnd_some hp
    have hl := h.links.popped hq
    have hsub : ∀ p ∈ rest, p ∈ x.q := fun p hp => by rw [hq]; exact mem_addQ.2 (.inr hp)
    rw [heq]
    refine ⟨?_, fun p hp => h.q_vals p (hsub p hp), h.vals_lt, h.vals_nodup, hl.cur, hl.stale⟩
    intro i hi
    obtain ⟨p, hp, rfl⟩ := List.mem_map.1 hi
    exact h.ids_pos _ (List.mem_map_of_mem (hsub p hp))

theorem setCursor_inv3 {x : St} (h : Inv3 x) (key : Nat) (d : End) (c : Nat) : Inv3 (x.setCursor key (x.nbr d c)) :=
  have hl := h.links.setCursor key (h.links.nbr d c)
  ⟨h.ids_pos, h.q_vals, h.vals_lt, h.vals_nodup, hl.cur, hl.stale⟩

/-- both identity invariants; `addEnd` keeps `Inv3` only together with `Inv2` (the fresh identity is
    positive), so they travel as one through `Eff.inv` -/
structure Inv23 (x : St) : Prop where
  i2 : Inv2 x
  i3 : Inv3 x

theorem inv23_of_empty {x : St} (hq : x.q = []) (hs : x.stale = []) (hc : x.cursors = []) (hv : x.vals = [])
    (hn : 1 ≤ x.nextId) : Inv23 x := by
  have hi : x.ids = [] := by rw [St.ids, hq]; rfl
  refine ⟨inv2_of_empty hq hs hc hn, ?_, ?_, ?_, ?_, ?_, ?_⟩
  · rw [hi]; nofun
  · rw [hq]; nofun
  · rw [hv]; nofun
  · rw [hv]; exact List.nodup_nil
  · rw [hc]; nofun
  · rw [hs]; nofun

theorem Eff.inv23 {x : St} {op : Op} {o : SegR} (e : Eff x op o) (h : Inv23 x) : Inv23 o.st :=
  e.inv h (fun y d v hy => ⟨addEnd_inv2 y d v hy.i2, addEnd_inv3 y d v hy.i2 hy.i3⟩)
    (fun y d hy => ⟨popEnd_inv2 y d hy.i2, popEnd_inv3 y d hy.i3⟩)
    ⟨⟨h.i2.next_pos, h.i2.ids_lt, h.i2.nodup, h.i2.cur_lt, h.i2.stale_lt⟩,
     ⟨h.i3.ids_pos, h.i3.q_vals, h.i3.vals_lt, h.i3.vals_nodup, h.i3.cur_vals, h.i3.stale_vals⟩⟩
    (fun d _ _ _ => ⟨setCursor_inv2 h.i2 _ d _, setCursor_inv3 h.i3 _ d _⟩)

theorem reach_inv23 {s0 s : Sys St Op} (hwf0 : s0.WF) (h0 : Inv23 s0.subj) (hr : Reach subject s0 s) : Inv23 s.subj :=
  reach_of_eff Eff.inv23 hwf0 h0 hr

theorem pushed_q (x : St) (d : End) (v : Int) : (pushed x d v).q = addQ d (x.nextId, v) x.q := rfl

theorem ahead_push_far (x : St) (d : End) (v : Int) (c : Nat) (hc : c = 0 ∨ c ∈ x.ids) :
    ahead (pushed x d.opp v) d c = ahead x d c ++ [(x.nextId, v)] := by
  have := dirL_addQ_far d.opp (x.nextId, v) x.q
  rw [End.opp_opp] at this
  rw [ahead_eq, ahead_eq, pushed_q, this]
  refine aheadL_append _ _ c (hc.imp id fun hm => ?_)
  rw [← dirL_map]; exact mem_dirL.2 hm

theorem ahead_push_near (x : St) (h2 : Inv2 x) (d : End) (v : Int) (c : Nat) (hc : c = 0 ∨ c ∈ x.ids) :
    ahead (pushed x d v) d c = if c = 0 then (x.nextId, v) :: ahead x d c else ahead x d c := by
  rw [ahead_eq, ahead_eq, pushed_q, dirL_addQ_near]
  by_cases h0 : c = 0
  · rw [if_pos h0, aheadL, aheadL, if_pos h0, if_pos h0]
  · rw [if_neg h0]
    exact aheadL_cons_ne _ _ h0 (fun heq => Nat.lt_irrefl _ (heq ▸ h2.ids_lt c (hc.resolve_left h0)))

theorem ahead_setCursor (x : St) (key n : Nat) (d : End) (c : Nat) : ahead (x.setCursor key n) d c = ahead x d c := rfl

theorem ahead_sub {x : St} {d : End} {c : Nat} {p : Nat × Int} (h : p ∈ ahead x d c) : p ∈ x.q := by
  rw [ahead_eq] at h
  exact mem_dirL.1 (aheadL_sub h)

/-- the link an iterator watches is the root exactly when nothing is ahead of it (ids are positive) -/
theorem nbr_eq_zero_iff {x : St} (h3 : Inv3 x) (d : End) {c : Nat} (hc : c = 0 ∨ c ∈ x.ids) :
    x.nbr d c = 0 ↔ ahead x d c = [] := by
  rw [nbr_ahead x d c hc]
  cases ha : ahead x d c with
  | nil => simp
  | cons p rest =>
    have := h3.ids_pos p.1 (List.mem_map.2 ⟨p, ahead_sub (by rw [ha]; exact List.mem_cons_self), rfl⟩)
    simp only [List.map_cons, List.headD_cons, reduceCtorEq, iff_false]; omega

theorem iter_step_none (x : St) (d : End) (b : Bool) (k : Nat)
    (hc : x.cursor (cursorKey d b k) = 0 ∨ x.cursor (cursorKey d b k) ∈ x.ids)
    (ha : ahead x d (x.cursor (cursorKey d b k)) = []) :
    x.nbr d (x.cursor (cursorKey d b k)) = 0 ∧
    (b = false → startR x (.next d b k) = { st := x, fin := .ret .eof }) ∧
    (b = true → x.closed = true → (startR x (.next d b k)).fin = .ret .closed ∧ (startR x (.next d b k)).st = x) ∧
    (b = true → x.closed = false → (startR x (.next d b k)).fin = .park (iterCond d (x.cursor (cursorKey d b k))) ∧
      (startR x (.next d b k)).st = x) := by
  have hn : x.nbr d (x.cursor (cursorKey d b k)) = 0 := by rw [nbr_ahead x d _ hc, ha]; rfl
  refine ⟨hn, ?_, ?_, ?_⟩
  · intro hb; subst hb; simp [startR, hn, iterYield]
  · intro hb hcl; subst hb; simp [startR, hn, iterLoop, hcl]
  · intro hb hcl; subst hb; simp [startR, hn, iterLoop, hcl]

theorem iter_step_some (x : St) (h2 : Inv2 x) (h3 : Inv3 x) (d : End) (b : Bool) (k : Nat)
    (hc : x.cursor (cursorKey d b k) = 0 ∨ x.cursor (cursorKey d b k) ∈ x.ids)
    {e : Nat} {v : Int} {rest : List (Nat × Int)} (ha : ahead x d (x.cursor (cursorKey d b k)) = (e, v) :: rest) :
    startR x (.next d b k) = { st := x.setCursor (cursorKey d b k) e, fin := .ret (.val v) } ∧
    e ∈ x.ids ∧ ahead (x.setCursor (cursorKey d b k) e) d e = rest := by
  have hmem : (e, v) ∈ x.q := ahead_sub (by rw [ha]; exact List.mem_cons_self)
  have heids : e ∈ x.ids := List.mem_map.2 ⟨(e, v), hmem, rfl⟩
  have hepos : e ≠ 0 := Nat.ne_of_gt (h3.ids_pos e heids)
  have hn : x.nbr d (x.cursor (cursorKey d b k)) = e := by rw [nbr_ahead x d _ hc, ha]; rfl
  have hval : x.valOf e = v := valOf_of_mem h3 (h3.q_vals _ hmem)
  refine ⟨?_, heids, ?_⟩
  · have h0 : (e == 0) = false := by simpa using hepos
    simp [startR, hn, h0, iterYield, hval]
  · rw [ahead_setCursor, ahead_eq] at *
    refine aheadL_step ?_ hepos ha
    rw [← dirL_map]
    exact (dirL_perm d _).nodup_iff.2 h2.nodup

/-- `n` successive calls of iterator `k` (nothing else running): final state and what the calls returned -/
def iterRun (x : St) (d : End) (b : Bool) (k : Nat) : Nat → St × List FinR
  | 0 => (x, [])
  | n + 1 =>
    let o := startR x (.next d b k)
    let r := iterRun o.st d b k n
    (r.1, o.fin :: r.2)

/-- `iter_complete_in_order` (C20), by induction on the unseen part -/
theorem iterRun_ahead (d : End) (b : Bool) (k : Nat) (L : List (Nat × Int)) :
    ∀ (x : St), Inv2 x → Inv3 x →
      (x.cursor (cursorKey d b k) = 0 ∨ x.cursor (cursorKey d b k) ∈ x.ids) →
      ahead x d (x.cursor (cursorKey d b k)) = L →
      (iterRun x d b k L.length).2 = L.map (fun p => FinR.ret (.val p.2)) ∧
      abs (iterRun x d b k L.length).1 = abs x ∧
      ((iterRun x d b k L.length).1.cursor (cursorKey d b k) = 0 ∨
        (iterRun x d b k L.length).1.cursor (cursorKey d b k) ∈ (iterRun x d b k L.length).1.ids) ∧
      ahead (iterRun x d b k L.length).1 d ((iterRun x d b k L.length).1.cursor (cursorKey d b k)) = [] := by
  induction L with
  | nil => intro x _ _ hc ha; exact ⟨rfl, rfl, hc, ha⟩
  | cons p rest ih =>
    intro x h2 h3 hc ha
    obtain ⟨e, v⟩ := p
    obtain ⟨hstep, heids, hrest⟩ := iter_step_some x h2 h3 d b k hc ha
    have h23 : Inv23 (x.setCursor (cursorKey d b k) e) := by
      have := (startR_eff x (.next d b k)).inv23 ⟨h2, h3⟩
      rwa [hstep] at this
    have hcur := cursor_setCursor_same x (cursorKey d b k) e
    obtain ⟨i1, i2, i3, i4⟩ := ih _ h23.i2 h23.i3 (by rw [hcur]; exact .inr heids) (by rw [hcur]; exact hrest)
    simp only [List.length_cons, iterRun, hstep, List.map_cons]
    exact ⟨by rw [i1], by rw [i2]; rfl, i3, i4⟩

/-- `iter_safe_under_removal` (C20): a call yields the item of the element its link leads to, and
    that is a created one (`Inv3.nbr_valid`) -/
theorem iter_yield_created (x : St) (h3 : Inv3 x) (d : End) (b : Bool) (k : Nat) (kc : Bool) (v : Int) :
    ((startR x (.next d b k)).fin = .ret (.val v) → ∃ e, e ≠ 0 ∧ (e, v) ∈ x.vals) ∧
    ((resumeR x (.next d b k) kc).fin = .ret (.val v) → ∃ e, e ≠ 0 ∧ (e, v) ∈ x.vals) := by
  have hs : ∀ first kk, (seg x (.next d b k) first kk).fin = .ret (.val v) → ∃ e, e ≠ 0 ∧ (e, v) ∈ x.vals := by
    intro first kk h
    -- a value comes from the work, never from the loop
    rcases loopSeg_cases x kk (if first then spawns x (.next d b k) else []) ((condOf x (.next d b k)).getD 0)
      (waits x (.next d b k)) (work x first (.next d b k)) with ⟨_, e⟩ | ⟨_, _, e⟩ | ⟨_, _, _, e⟩ | ⟨_, _, _, e⟩ <;>
      rw [seg, e] at h
    · simp only [work, iterYield] at h
      split at h
      · cases h
      · rename_i hn
        have hne : x.nbr d (x.cursor (cursorKey d b k)) ≠ 0 := by simpa using hn
        cases h
        exact ⟨_, hne, valOf_mem ((h3.nbr_valid d _).resolve_left hne)⟩
    · cases h
    · cases h
    · cases h
  constructor
  · rw [startR_eq]; exact hs true false
  · rw [resumeR_eq]; split
    · exact hs false kc
    · nofun

theorem addEnd_vals (x : St) (d : End) (v : Int) :
    (addEnd x d v).1.vals = x.vals ∨
    ((addEnd x d v).1.vals = (x.nextId, v) :: x.vals ∧ (x.nextId, v) ∈ (addEnd x d v).1.q) := by
  by_cases hok : (addEnd x d v).2.1 = .ok
  · right
    rw [(addEnd_ok_eq hok).2.1]
    exact ⟨rfl, mem_addQ.2 (.inl rfl)⟩
  · left; rw [addEnd_fail_eq x d v hok]

end FunModel.Deque
