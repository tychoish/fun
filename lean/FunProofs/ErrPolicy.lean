import FunModel.ErrPolicy

/-! The decision table of `WorkerGroupConf.CanContinueOnError` (`FunModel/ErrPolicy.lean`), read by C03 (the
    worker group) and C11 (the worker pool). -/
namespace FunModel

/-- the method's branch tree answers the two questions the properties ask separately -/
theorem canContinue_table (o : Conf) (k : ErrClass) :
    (canContinue o k).reports = (if k.reportable o then 1 else 0) ∧ (canContinue o k).cont = k.continues o := by
  rcases o with ⟨cp, ce, ic⟩
  rcases k with ⟨n, p, s, e, x, a, ex⟩
  simp only [canContinue, ErrClass.reportable, ErrClass.continues]
  -- branch by branch, in the order the method tests
  cases n
  case true => simp
  cases p
  case true => cases cp <;> simp
  cases s
  case true => simp
  cases e
  case true => simp
  cases x <;> cases ex <;> cases ic <;> simp

theorem canContinue_reports (o : Conf) (k : ErrClass) : ((canContinue o k).reports != 0) = k.reportable o := by
  rw [(canContinue_table o k).1]; cases k.reportable o <;> rfl

end FunModel
