import FunProofs.BrokerOnce

/-! C08/C09: the log of a reachable state mirrors its history (what was received, what was published,
    which subscribers are in the map); every event of the log passes the check of the outcome
    predicate against its past (`eventsOk`). -/
namespace FunProofs.Broker
open FunModel.Broker

def callSubIds (cl : Call) : List Sub :=
  match cl.kind with
  | .sub k => [k]
  | _ => []

/-- the ids the pending Subscribe calls are going to return -/
def subIds (calls : List Call) : List Sub := calls.flatMap callSubIds

theorem contains_cons_of {e a : Ev} {l : List Ev} (h : l.contains a = true) : (e :: l).contains a = true := by
  rw [List.contains_cons, h, Bool.or_true]

theorem subsOf_of_seenAfter {k : Sub} {b : Ev} {l : List Ev} (h : seenAfter (.subRet k) b l = true) :
    k ∈ subsOf l := by
  have mem : ∀ {l : List Ev}, l.contains (.subRet k) = true → k ∈ subsOf l := by
    intro l hl
    induction l with
    | nil => cases hl
    | cons e rest ih =>
      rw [List.contains_cons, Bool.or_eq_true] at hl
      rcases hl with hl | hl
      · cases beq_iff_eq.mp hl; exact List.mem_cons_self
      · cases e <;> first | exact ih hl | exact List.mem_cons_of_mem _ (ih hl)
  induction l with
  | nil => cases h
  | cons e rest ih =>
    simp only [seenAfter, Bool.or_eq_true, Bool.and_eq_true] at h
    have : k ∈ subsOf rest := h.elim (fun h => mem h.2) ih
    cases e <;> first | exact this | exact List.mem_cons_of_mem _ this

/-- Stated in the observables the outcome predicate reads off a log (`recvs`, `stopped`, `subsOf`, `contains`,
    `seenAfter`): an event that an observable ignores drops out of the statement by computation, so that only
    the actions logging something an item reads need an argument. -/
structure LogInv (c : Cfg) (s : St) : Prop where
  recvs : ∀ k, recvs k s.log = s.recvd k
  live : stopped s.log = !s.live
  pubc : ∀ m ∈ s.published, s.log.contains (.pubCall m) = true
  pubr : ∀ m, s.log.contains (.pubRet m) = true → m ∈ s.published
  subsNodup : s.subs.Nodup
  subRetLt : ∀ k ∈ subsOf s.log, k < s.nextSub
  /-- an id is returned once, and then no Subscribe call is pending for it: when `loopSub` puts `k` into the map,
      no `subRet k` is in the log yet -/
  subOnce : ∀ k, (subIds s.calls).count k + (subsOf s.log).count k ≤ 1
  /-- with `unsubQ`: what keeps `inMap` when the event loop takes a subscriber out of the map -/
  unsub : ∀ cl ∈ s.calls, ∀ k, cl.kind = CallKind.unsub k → s.log.contains (.unsubCall k) = true
  unsubQ : ∀ k ∈ s.unsubQ, s.log.contains (.unsubCall k) = true
  subQ : s.subQ.length ≤ c.bufSize
  /- The last two tie the window the log shows (`inWindow`) to the window the event loop keeps (`since`). They
     hold for `BufferSize = 0` only: then `subCh` is unbuffered, `enqSub` is never enabled, and Subscribe returns
     (`subRet`) in the very step that puts the key into the map (`loopSub`). With a buffered `subCh` Subscribe
     returns at `enqSub`, and the event loop may take a Publish call made after that before it takes the key
     out of `subQ`. -/
  inMap : c.bufSize = 0 → ∀ k ∈ subsOf s.log, s.log.contains (.unsubCall k) = false → k ∈ s.subs
  since : c.bufSize = 0 → ∀ k ∈ s.subs, ∀ m,
      seenAfter (.subRet k) (.pubCall m) s.log = true → s.log.contains (.pubRet m) = true → m ∈ s.since k

theorem LogInv.dead {c : Cfg} {s : St} (hi : LogInv c s) (h : stopped s.log = true) : s.live = false := by
  have := hi.live
  rw [h] at this
  simpa using this.symm

theorem loginv_init (c : Cfg) : LogInv c (init c) :=
  ⟨fun _ => rfl, rfl, nofun, nofun, .nil, nofun, fun _ => Nat.zero_le _, nofun, nofun,
    Nat.zero_le _, fun _ => nofun, fun _ => nofun⟩

theorem loginv_step {c : Cfg} {s s' : St} {a : Act} (hu : Uniq s) (hw : WF c s) (hi : LogInv c s)
    (h : Step c s a s') : LogInv c s' := by
  have once_snoc : ∀ {cl : Call}, callSubIds cl = [] →
      ∀ k, (subIds (s.calls ++ [cl])).count k + (subsOf s.log).count k ≤ 1 := by
    intro cl hz k
    simp only [subIds, List.flatMap_append, List.flatMap_cons, List.flatMap_nil, hz, List.append_nil]
    exact hi.subOnce k
  have once_erase : ∀ {i : Nat} {cl : Call}, s.calls[i]? = some cl →
      ∀ k, (subIds (s.calls.eraseIdx i)).count k + (subsOf s.log).count k ≤ 1 := by
    intro i cl hc k
    have := List.count_flatMap_eraseIdx callSubIds k hc
    have := hi.subOnce k
    simp only [subIds] at this ⊢
    omega
  -- a pending Subscribe call returns `k0`: the id moves from the calls to the log
  have once_ret : ∀ {i : Nat} {k0 : Sub} {x : Bool}, s.calls[i]? = some { kind := .sub k0, cancelled := x } →
      ∀ k, (subIds (s.calls.eraseIdx i)).count k + (k0 :: subsOf s.log).count k ≤ 1 := by
    intro i k0 x hc k
    have h1 := List.count_flatMap_eraseIdx callSubIds k hc
    rw [show callSubIds { kind := CallKind.sub k0, cancelled := x } = [k0] from rfl] at h1
    have := hi.subOnce k
    simp only [subIds, List.count_cons, List.count_nil] at h1 this ⊢
    omega
  have unsub_snoc : ∀ {cl0 : Call} {l : List Ev}, (∀ a, s.log.contains a = true → l.contains a = true) →
      (∀ k, cl0.kind = CallKind.unsub k → l.contains (.unsubCall k) = true) →
      ∀ cl ∈ s.calls ++ [cl0], ∀ k, cl.kind = CallKind.unsub k → l.contains (.unsubCall k) = true := by
    intro cl0 l hl h0 cl hcl k hk
    rcases List.mem_append.mp hcl with hcl | hcl
    · exact hl _ (hi.unsub cl hcl k hk)
    · cases List.mem_singleton.mp hcl; exact h0 k hk
  have unsub_erase : ∀ i, ∀ cl ∈ s.calls.eraseIdx i, ∀ k, cl.kind = CallKind.unsub k →
      s.log.contains (.unsubCall k) = true := fun i cl hcl => hi.unsub cl (List.mem_of_mem_eraseIdx hcl)
  have since_erase : ∀ k0, c.bufSize = 0 → ∀ k ∈ s.subs.erase k0, ∀ m,
      seenAfter (.subRet k) (.pubCall m) s.log = true → s.log.contains (.pubRet m) = true →
      m ∈ upd s.since k0 [] k := by
    intro k0 hb k hk m hsa hpm
    have hne : k ≠ k0 := fun he => ((List.Nodup.mem_erase_iff hi.subsNodup).mp (he ▸ hk)).1 rfl
    rw [upd_other _ _ hne]
    exact hi.since hb k (List.mem_of_mem_erase hk) m hsa hpm
  cases h
  case subCall =>
    refine { hi with
      subRetLt := fun k hk => Nat.lt_succ_of_lt (hi.subRetLt k hk)
      unsub := unsub_snoc (fun _ h => h) nofun
      subOnce := fun k => ?_ }
    -- the new id is fresh: pending and returned ids are below `nextSub`
    have h1 : (subIds s.calls).count s.nextSub = 0 := List.count_eq_zero.mpr fun hmem => by
      obtain ⟨cl, hcl, hin⟩ := List.mem_flatMap.mp hmem
      simp only [callSubIds] at hin
      split at hin
      · rename_i k' hk'
        exact Nat.lt_irrefl _ (List.mem_singleton.mp hin ▸ hw.callLt cl hcl k' hk')
      · cases hin
    have h2 : (subsOf s.log).count s.nextSub = 0 :=
      List.count_eq_zero.mpr fun hmem => Nat.lt_irrefl _ (hi.subRetLt _ hmem)
    have := hi.subOnce k
    simp only [subIds, List.flatMap_append, List.flatMap_cons, List.flatMap_nil, callSubIds, List.append_nil,
      List.count_append, List.count_singleton, beq_iff_eq] at h1 this ⊢
    split
    · rename_i he; rw [← he, h1, h2]; omega
    · omega
  case unsubCall k0 =>
    exact { hi with
      subOnce := once_snoc rfl
      unsub := unsub_snoc (fun _ => contains_cons_of) fun k hk => by cases hk; simp
      unsubQ := fun k hk => contains_cons_of (hi.unsubQ k hk)
      inMap := fun hb k hk hn => hi.inMap hb k hk (by
        rw [List.contains_cons, Bool.or_eq_false_iff] at hn; exact hn.2) }
  case pubCall p hp =>
    refine { hi with
      pubc := fun m hm => ?_
      pubr := fun m hm => List.mem_cons_of_mem _ (hi.pubr m hm)
      subOnce := once_snoc rfl
      unsub := unsub_snoc (fun _ => contains_cons_of) nofun
      since := fun hb k hk m hsa hpm => ?_ }
    · rcases List.mem_cons.mp hm with rfl | hm
      · simp
      · exact contains_cons_of (hi.pubc m hm)
    · -- a message whose Publish returned is not the one being published now
      have hne : m ≠ (p, s.nextSeq p) := fun he => Nat.lt_irrefl _ (he ▸ hu.seq m (hi.pubr m hpm))
      have : (Ev.pubCall (p, s.nextSeq p) == Ev.pubCall m) = false :=
        beq_eq_false_iff_ne.mpr fun h => hne (Ev.pubCall.inj h).symm
      simp only [seenAfter, this, Bool.false_and, Bool.false_or] at hsa
      exact hi.since hb k hk m hsa hpm
  case statsCall | waitCall =>
    exact { hi with subOnce := once_snoc rfl, unsub := unsub_snoc (fun _ h => h) nofun }
  case cancelCall i cl hc =>
    refine { hi with subOnce := fun k => ?_, unsub := fun x hx k hk => ?_ }
    · have := hi.subOnce k
      have := List.count_flatMap_set callSubIds k { cl with cancelled := true } hc
      simp only [subIds] at *
      simp only [callSubIds] at this
      omega
    · rcases List.mem_or_eq_of_mem_set hx with hx | rfl
      · exact hi.unsub x hx k hk
      · exact hi.unsub cl (List.mem_of_getElem? hc) k hk
  case stop => exact { hi with live := rfl }
  case enqSub i k0 x hc hq =>
    exact { hi with
      subRetLt := fun k hk =>
        (List.mem_cons.mp hk).elim (· ▸ hw.callLt _ (List.mem_of_getElem? hc) k0 rfl) (hi.subRetLt k)
      subOnce := once_ret hc
      unsub := unsub_erase i
      subQ := by simp only [List.length_append, List.length_singleton]; omega
      -- the guard `hq` of `enqSub` is false for `BufferSize = 0`
      inMap := fun hb => by omega
      since := fun hb => by omega }
  case enqUnsub i k0 x hc hq =>
    refine { hi with subOnce := once_erase hc, unsub := unsub_erase i, unsubQ := fun k hk => ?_ }
    rcases List.mem_append.mp hk with hk | hk
    · exact hi.unsubQ k hk
    · exact List.mem_singleton.mp hk ▸ hi.unsub _ (List.mem_of_getElem? hc) k0 rfl
  case callAbort hc _ | waitRet hc _ _ | loopStats hc =>
    exact { hi with subOnce := once_erase hc, unsub := unsub_erase _ }
  case loopSubQ k0 rest hl hq =>
    have hQ := hi.subQ
    rw [hq] at hQ
    exact { hi with
      subsNodup := insertSub_nodup hi.subsNodup
      subQ := Nat.le_of_succ_le hQ
      inMap := fun hb k hk hn => mem_insertSub.mpr (.inl (hi.inMap hb k hk hn))
      -- `subQ` is not empty here, which `BufferSize = 0` excludes
      since := fun hb => by rw [hb] at hQ; cases hQ }
  case loopSub i k0 x hl hc =>
    refine { hi with
      subsNodup := insertSub_nodup hi.subsNodup
      subRetLt := fun k hk =>
        (List.mem_cons.mp hk).elim (· ▸ hw.callLt _ (List.mem_of_getElem? hc) k0 rfl) (hi.subRetLt k)
      subOnce := once_ret hc
      unsub := unsub_erase i
      inMap := fun hb k hk hn =>
        mem_insertSub.mpr ((List.mem_cons.mp hk).elim .inr fun hk => .inl (hi.inMap hb k hk hn))
      since := fun hb k hk m hsa hpm => ?_ }
    rcases mem_insertSub.mp hk with h | rfl
    · exact hi.since hb k h m hsa hpm
    · -- `k` was still in a pending Subscribe call, so no `subRet k` is in the log
      have h1 : 0 < (subsOf s.log).count k := List.count_pos_iff.mpr (subsOf_of_seenAfter hsa)
      have h2 := List.count_flatMap_ge callSubIds k hc
      have := hi.subOnce k
      simp only [callSubIds, List.count_cons_self, List.count_nil, subIds] at h2 this
      omega
  case loopUnsubQ k0 rest hl hq =>
    have hlog := hi.unsubQ k0 (hq ▸ List.mem_cons_self)
    exact { hi with
      subsNodup := hi.subsNodup.erase _
      unsubQ := fun k hk => hi.unsubQ k (hq ▸ List.mem_cons_of_mem _ hk)
      inMap := fun hb k hk hn =>
        (List.mem_erase_of_ne fun he => nomatch (he ▸ hn).symm.trans hlog).mpr (hi.inMap hb k hk hn)
      since := since_erase k0 }
  case loopUnsub i k0 x hl hc =>
    have hlog := hi.unsub _ (List.mem_of_getElem? hc) k0 rfl
    exact { hi with
      subsNodup := hi.subsNodup.erase _
      subOnce := once_erase hc
      unsub := unsub_erase i
      inMap := fun hb k hk hn =>
        (List.mem_erase_of_ne fun he => nomatch (he ▸ hn).symm.trans hlog).mpr (hi.inMap hb k hk hn)
      since := since_erase k0 }
  case loopTake i m0 x hl hc =>
    refine { hi with
      pubr := fun m hm => ?_
      subOnce := once_erase hc
      unsub := unsub_erase i
      since := fun hb k hk m hsa hpm => ?_ }
    · rw [List.contains_cons, Bool.or_eq_true] at hm
      rcases hm with hm | hm
      · cases beq_iff_eq.mp hm; exact hu.published_of_call hc
      · exact hi.pubr m hm
    · show m ∈ if k ∈ s.subs then s.since k ++ [m0] else s.since k
      rw [if_pos hk]
      rw [List.contains_cons, Bool.or_eq_true] at hpm
      rcases hpm with hpm | hpm
      · cases beq_iff_eq.mp hpm; exact List.mem_append_right _ List.mem_cons_self
      · exact List.mem_append_left _ (hi.since hb k hk m hsa hpm)
  case handoff k0 m _ _ _ | recv k0 m _ _ _ =>
    refine { hi with recvs := fun k => ?_ }
    show (if k0 = k then recvs k s.log ++ [m] else recvs k s.log) = upd s.recvd k0 (s.recvd k0 ++ [m]) k
    rw [upd_apply, hi.recvs k]
    by_cases he : k = k0
    · subst he; simp
    · simp [he, Ne.symm he]
  all_goals exact { hi with }

theorem loginv_reachable {c : Cfg} {s : St} (h : Reachable c s) : LogInv c s :=
  reachable_induction (LogInv c) (loginv_init c)
    (fun _ _ _ hr hp hs => loginv_step (uniq_reachable hr) (wf_reachable hr) hp hs) h

theorem check_quiet {c : Cfg} (hv : Cfg.valid c) {s : St} (hr : Reachable c s) (hq : quiescent c s = true) :
    checkEvent c s.log (.quiet (s.live && allOpen s) (pendingApi s.calls) (pendingWaits s.calls)
      (zombies s.calls)) = true := by
  have hli := loginv_reachable hr
  simp only [checkEvent, Bool.and_eq_true, Bool.or_eq_true, Bool.not_eq_true', beq_iff_eq, List.all_eq_true]
  refine ⟨⟨⟨zombies_zero hq, ?_⟩, ?_⟩, ?_⟩
  · cases hg : (s.live && allOpen s) with
    | false => exact .inl rfl
    | true =>
      rw [Bool.and_eq_true] at hg
      exact .inr (pendingApi_zero (idle_of_quiescent hv (wf_reachable hr) hg.1 hg.2 hq))
  · cases hg : (s.live && allOpen s && c.lossless) with
    | false => exact .inl rfl
    | true =>
      simp only [Cfg.lossless, Bool.and_eq_true, beq_iff_eq] at hg
      obtain ⟨⟨hl, ho⟩, hloss, hb⟩ := hg
      refine .inr fun k hk m _ => ?_
      cases hwin : inWindow s.log k m with
      | false => exact .inl rfl
      | true =>
        simp only [inWindow, Bool.and_eq_true, Bool.not_eq_true'] at hwin
        have hin : k ∈ s.subs := hli.inMap hb k hk hwin.2
        have hone := once_at_quiet hloss hr hl ho hq hin (hli.since hb k hin m hwin.1.1 hwin.1.2)
        rw [hli.recvs k, List.contains_iff_mem]
        exact .inr (List.count_pos_iff.mp (by omega))
  · cases hst : stopped s.log with
    | false => exact .inl rfl
    | true => exact .inr (pendingWaits_zero (down_of_quiescent (hli.dead hst) hq))

theorem check_census {c : Cfg} {s : St} (hr : Reachable c s) (hq : quiescent c s = true) :
    checkEvent c s.log (.census (alive s)) = true := by
  have hli := loginv_reachable hr
  simp only [checkEvent, Bool.or_eq_true, Bool.not_eq_true', beq_iff_eq]
  cases hst : stopped s.log with
  | false => exact .inl rfl
  | true => exact .inr (alive_zero (down_of_quiescent (hli.dead hst) hq))

theorem check_recv {c : Cfg} {s : St} (hr : Reachable c s) {k : Sub} {m : Msg}
    (h : m ∈ s.chan k ∨ (k, m) ∈ s.sends) : checkEvent c s.log (.recv k m) = true := by
  have hli := loginv_reachable hr
  have hu := uniq_reachable hr
  have hpos : 0 < (s.chan k).count m + s.sends.count (k, m) := by
    rcases h with h | h <;> have := List.count_pos_iff.mpr h <;> omega
  have hd := hu.donce k m
  simp only [dcount] at hd
  simp only [checkEvent, Bool.and_eq_true, Bool.not_eq_true']
  constructor
  · rw [hli.recvs k]
    cases hc : (s.recvd k).contains m with
    | false => rfl
    | true =>
      have := List.count_pos_iff.mpr (List.contains_iff_mem.mp hc)
      omega
  · exact hli.pubc m (hu.published_of_dcount (k := k) (by simp only [dcount]; omega))

theorem eventsOk_step {c : Cfg} (hv : Cfg.valid c) {s s' : St} {a : Act} (hr : Reachable c s)
    (hi : eventsOk c s.log = true) (h : Step c s a s') : eventsOk c s'.log = true := by
  cases h
  case observeQuiet hq => exact Bool.and_eq_true_iff.mpr ⟨check_quiet hv hr hq, hi⟩
  case census hq => exact Bool.and_eq_true_iff.mpr ⟨check_census hr hq, hi⟩
  case handoff k m hs hb ho => exact Bool.and_eq_true_iff.mpr ⟨check_recv hr (Or.inr hs), hi⟩
  case recv k m rest hb ho =>
    exact Bool.and_eq_true_iff.mpr ⟨check_recv hr (Or.inl (hb ▸ List.mem_cons_self)), hi⟩
  -- the other events pass the check whatever their past
  all_goals exact hi

theorem eventsOk_reachable {c : Cfg} (hv : Cfg.valid c) {s : St} (h : Reachable c s) : eventsOk c s.log = true :=
  reachable_induction (fun s => eventsOk c s.log = true) rfl
    (fun _ _ _ hr hp hs => eventsOk_step hv hr hp hs) h

end FunProofs.Broker
