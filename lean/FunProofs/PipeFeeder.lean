import FunModel.Pipe
import FunProofs.ListAux

/-! The Feeder process model (C01/C04). `Step` is `step` as a relation (`step_sound`, `step_complete`); nothing else
    unfolds `step`: invariant and measure are one `cases` on it, an action is enabled because its constructor applies.
    `Quiet`: what each goroutine waits for when none can move; hence `stuck_terminal`, and no deadlock by contraposition. -/
namespace FunModel.Pipe.Feeder

variable {c : Cfg} {input : List Nat} {s s' : St} {a : Act}

inductive Step (c : Cfg) (s : St) : Act → St → Prop
  | close : 0 < s.closeBudget →
      Step c s .close { s with closed := true, envStopped := true, closeBudget := s.closeBudget - 1 }
  | cancel : 0 < s.cancelBudget →
      Step c s .cancel { s with ucancel := true, envStopped := true, cancelBudget := s.cancelBudget - 1 }
  | cStartDone : s.cons = .idle → s.wdone = true → Step c s .cStart { s with cons := .done }
  | cStartSpawn : s.cons = .idle → s.wdone = false → s.fd = .notStarted →
      Step c s .cStart { s with cons := .parked, fd := .running none }
  | cStartWait {h} : s.cons = .idle → s.wdone = false → s.fd = .running h →
      Step c s .cStart { s with cons := .parked, waiters := if c.onceGo then s.waiters + 1 else s.waiters }
  | cStartLate : s.cons = .idle → s.wdone = false → s.fd = .exited → Step c s .cStart { s with cons := .parked }
  | cRecv {x rest} : s.cons = .parked → s.pipe = x :: rest →
      Step c s .cRecv { s with cons := .idle, pipe := rest, got := s.got ++ [x] }
  | cEof : s.cons = .parked → s.pipe = [] → s.pclosed = true → Step c s .cEof { s with cons := .done, closed := true }
  | cCtx : s.cons = .parked → s.wdone = true → Step c s .cCtx { s with cons := .done, closed := true }
  | fRead {x xs} : s.fd = .running none → s.src = x :: xs → (c.srcChecksCtx && s.wdone) = false →
      Step c s .fRead { s with fd := .running (some x), src := xs }
  | fSend {x} : s.fd = .running (some x) → s.pipe.length < c.cap →
      Step c s .fSend { s with fd := .running none, pipe := s.pipe ++ [x] }
  | fHandoff {x} : s.fd = .running (some x) → s.cons = .parked → s.pipe = [] →
      Step c s .fHandoff { s with fd := .running none, cons := .idle, got := s.got ++ [x] }
  | fCtx {h} : s.fd = .running h → s.wdone = true →
      Step c s .fCtx { s with fd := .exited, pclosed := true, dropped := s.dropped ++ h.toList }
  | fEof : s.fd = .running none → s.src = [] → Step c s .fEof { s with fd := .exited, pclosed := true }
  | wExit : s.fd = .exited → 0 < s.waiters → Step c s .wExit { s with waiters := s.waiters - 1 }

theorem step_sound (hs : step c s a = some s') : Step c s a s' := by
  -- `try cases hs` ends the splitting at each `some`, before the `if` inside a new state
  cases a <;> simp only [step] at hs <;> (repeat' (split at hs <;> try cases hs))
  all_goals (constructor <;> first | assumption | simp_all [St.wdone])

theorem step_complete (hs : Step c s a s') : step c s a = some s' := by
  cases hs <;> simp_all [step, St.wdone]

theorem stuck_step {p : Act → Prop} (hq : ∀ a, p a → step c s a = none) (hs : Step c s a s') (ha : p a) : False := by
  simpa [hq _ ha] using step_complete hs

structure Inv (c : Cfg) (input : List Nat) (s : St) : Prop where
  order : s.got ++ s.pipe ++ s.fd.held ++ s.dropped ++ s.src = input
  pclosed_iff : s.pclosed = true ↔ s.fd = .exited
  parked_started : s.cons = .parked → s.fd ≠ .notStarted
  done_wdone : s.cons = .done → s.wdone = true
  dropped_exited : s.fd ≠ .exited → s.dropped = []
  /-- without an environment close/cancel the run is failure-free -/
  clean : s.envStopped = false →
     s.dropped = [] ∧ s.ucancel = false ∧ (s.fd = .exited → s.src = []) ∧
     (s.closed = true → s.cons = .done ∧ s.pipe = [] ∧ s.fd = .exited)
  waiters_started : s.fd = .notStarted → s.waiters = 0

theorem inv_init (c : Cfg) (input : List Nat) (k1 k2 : Nat) : Inv c input (init c input k1 k2) := by
  constructor <;> cases hc : c.eager <;> simp [init, hc, GState.held, St.wdone]

theorem inv_step (h : Inv c input s) (hs : Step c s a s') : Inv c input s' := by
  cases hs with
  | close | cancel => exact { h with done_wdone := fun _ => by simp [St.wdone], clean := by simp }
  | cStartDone _ hw =>
    exact { h with parked_started := nofun, done_wdone := fun _ => hw
                   clean := by have := h.clean; simp_all [St.wdone] }
  | cStartSpawn _ _ hf =>
    exact { h with order := by have := h.order; simp_all [GState.held]
                   pclosed_iff := by have := h.pclosed_iff; simp_all
                   parked_started := nofun, done_wdone := nofun, dropped_exited := fun _ => h.dropped_exited (by simp [hf])
                   clean := by have := h.clean; simp_all [St.wdone]
                   waiters_started := nofun }
  | cStartWait _ _ hf =>
    exact { h with parked_started := by simp [hf], done_wdone := nofun
                   clean := by have := h.clean; simp_all [St.wdone]
                   waiters_started := by simp [hf] }
  | cStartLate _ _ hf =>
    exact { h with parked_started := by simp [hf], done_wdone := nofun
                   clean := by have := h.clean; simp_all [St.wdone] }
  | cRecv =>
    exact { h with order := by have := h.order; simp_all
                   parked_started := nofun, done_wdone := nofun
                   clean := by have := h.clean; simp_all }
  | cEof | cCtx =>
    -- `clean`: at io.EOF the pipe is empty and closed, so the feeder has left; `cCtx` needs a done context, which a
    -- failure-free run has only once its consumer is `done`, not `parked`
    exact { h with parked_started := nofun, done_wdone := by simp [St.wdone]
                   clean := by have := h.clean; have := h.pclosed_iff; grind [St.wdone] }
  | fRead hf | fSend hf | fHandoff hf =>
    exact { h with order := by have := h.order; have := h.dropped_exited; simp_all [GState.held]
                   pclosed_iff := by have := h.pclosed_iff; simp_all
                   parked_started := fun _ => nofun, done_wdone := by have := h.done_wdone; simp_all [St.wdone]
                   dropped_exited := fun _ => h.dropped_exited (by simp [hf])
                   clean := by have := h.clean; simp_all
                   waiters_started := nofun }
  | fCtx | fEof =>
    -- `clean`: `fCtx` needs a done context, which a failure-free run has only after the feeder left; `fEof` leaves
    -- at the end of the source
    exact { h with order := by have := h.order; have := h.dropped_exited; simp_all [GState.held]
                   pclosed_iff := by simp
                   parked_started := fun _ => nofun, dropped_exited := fun hne => absurd rfl hne
                   clean := by have := h.clean; grind [St.wdone]
                   waiters_started := nofun }
  | wExit hf =>
    exact { h with waiters_started := by simp [hf] }

theorem reachable_inv {k1 k2 : Nat} (h : Reachable c input k1 k2 s) : Inv c input s :=
  List.foldlM_option_reach_induction _ (inv_init c input k1 k2) (fun _ _ _ _ h hs => inv_step h (step_sound hs)) h

/-- Where the weights of `measure` come from: an item gets lighter at every move (source 5, held 4, pipe 3,
    delivered 0), and a delivery sheds at least 3, more than the 2 it gives back to the consumer (`parked` 1 → `idle` 3);
    `idle` weighs 3 and not 2 because `cStart` (`idle` → `parked`) may add a `once.Do` waiter. -/
theorem measure_step (hs : Step c s a s') : measure s' < measure s := by
  cases hs <;> simp [measure, GState.held, GState.rank, CState.rank, *] <;> (try split) <;> omega

theorem nostop_step (hs : Step c s a s') (h : s.envStopped = false ∧ s.closeBudget = 0 ∧ s.cancelBudget = 0) :
    s'.envStopped = false ∧ s'.closeBudget = 0 ∧ s'.cancelBudget = 0 := by
  cases hs with
  | close | cancel => omega
  | _ => exact h

theorem run_nostop {c : Cfg} (as : List Act) : ∀ {s s' : St},
    s.envStopped = false ∧ s.closeBudget = 0 ∧ s.cancelBudget = 0 → run c s as = some s' →
    s'.envStopped = false ∧ s'.closeBudget = 0 ∧ s'.cancelBudget = 0 :=
  List.foldlM_option_inv _ (fun _ _ _ h hs => nostop_step (step_sound hs) h) as

/-- `pclosed` at a finished consumer: its last ReadOne returned io.EOF (`outcome`'s `eof`) -/
theorem terminal_clean (h : Inv c input s) (hclean : s.envStopped = false) (hdone : s.cons = .done) :
    s.got = input ∧ s.pclosed = true := by
  obtain ⟨hd, hu, hsrc, hcl⟩ := h.clean hclean
  obtain ⟨_, hp, hfd⟩ := hcl (by simpa [St.wdone, hu] using h.done_wdone hdone)
  exact ⟨by simpa [hp, hfd, hd, hsrc hfd, GState.held] using h.order, h.pclosed_iff.mpr hfd⟩

theorem leaked_eq_zero_iff : (outcome s).leaked = 0 ↔ s.allExited = true := by
  cases hr : (s.fd = .exited || s.fd = .notStarted) <;> simp [outcome, St.allExited, hr]

/-- No goroutine can move: what each of them is then waiting for. -/
structure Quiet (c : Cfg) (s : St) : Prop where
  /-- the feeder waits for the consumer, blocked sending into the full pipe -/
  feeder : ∀ {h}, s.fd = .running h → s.wdone = false ∧ (s.cons = .parked → s.pipe ≠ [])
  waiters : s.fd = .exited → s.waiters = 0

theorem quiet_of_stuck (hq : ∀ a, a.isGoroutine = true → step c s a = none) : Quiet c s where
  feeder {h} hfd := by
    cases hw : s.wdone with
    | true => exact (stuck_step hq (.fCtx hfd hw) rfl).elim
    | false =>
      cases h with
      | some x => exact ⟨rfl, fun hc hp => stuck_step hq (.fHandoff hfd hc hp) rfl⟩
      | none =>
        cases hsrc : s.src with
        | nil => exact (stuck_step hq (.fEof hfd hsrc) rfl).elim
        | cons x xs => exact (stuck_step hq (.fRead hfd hsrc (by simp [hw])) rfl).elim
  waiters hfd := Nat.eq_zero_of_not_pos fun hw => stuck_step hq (.wExit hfd hw) rfl

/-- after Close / cancellation the feeder and the once.Do waiters move on without the consumer -/
theorem Quiet.allExited (q : Quiet c s) (h : Inv c input s) (hw : s.wdone = true) : s.allExited = true := by
  cases hfd : s.fd with
  | running r => have := (q.feeder hfd).1; simp [hw] at this
  | notStarted => simp [St.allExited, hfd, h.waiters_started hfd]
  | exited => simp [St.allExited, hfd, q.waiters hfd]

theorem stuck_allExited (h : Inv c input s) (hw : s.wdone = true)
    (hq : ∀ a, a.isGoroutine = true → step c s a = none) : s.allExited = true :=
  (quiet_of_stuck hq).allExited h hw

theorem stuck_terminal (h : Inv c input s) (hmax : ∀ a, a.isEnv = false → step c s a = none) : s.terminal = true := by
  have q : Quiet c s := quiet_of_stuck fun a ha => hmax a (by cases a <;> first | rfl | cases ha)
  cases hc : s.cons with
  | idle =>
    cases hw : s.wdone with
    | true => exact (stuck_step hmax (.cStartDone hc hw) rfl).elim
    | false =>
      cases hfd : s.fd with
      | notStarted => exact (stuck_step hmax (.cStartSpawn hc hw hfd) rfl).elim
      | running r => exact (stuck_step hmax (.cStartWait hc hw hfd) rfl).elim
      | exited => exact (stuck_step hmax (.cStartLate hc hw hfd) rfl).elim
  | done =>
    simp [St.terminal, hc, q.allExited h (h.done_wdone hc)]
  | parked =>
    -- a parked consumer finds the pipe empty (so the feeder is not waiting for it) and open (so the feeder has not left)
    cases hp : s.pipe with
    | cons x rest => exact (stuck_step hmax (.cRecv hc hp) rfl).elim
    | nil =>
      cases hfd : s.fd with
      | notStarted => exact absurd hfd (h.parked_started hc)
      | running r => exact ((q.feeder hfd).2 hc hp).elim
      | exited => exact (stuck_step hmax (.cEof hc hp (h.pclosed_iff.mpr hfd)) rfl).elim

theorem no_deadlock_stopped (h : Inv c input s) (hw : s.wdone = true) (hne : s.allExited = false) :
    ∃ a, a.isGoroutine = true ∧ (step c s a).isSome = true :=
  List.exists_enabled_of_stuck (stuck_allExited h hw) hne

theorem no_deadlock_internal (h : Inv c input s) (hnt : s.terminal = false) :
    ∃ a, a.isEnv = false ∧ (step c s a).isSome = true :=
  List.exists_enabled_of_stuck (stuck_terminal h) hnt

end FunModel.Pipe.Feeder
