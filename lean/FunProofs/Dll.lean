import FunProofs.DllHeap
import FunProofs.DllChain

/-! Invariant `WF h g` of the pointer-level model of `dt.List`: every list is a `next`/`prev` cycle through its sentinel
    that visits a ghost sequence `g l` (`Chain h r (g l) r`). All mutation goes through six steps that keep it
    (`WF.uncheckedAppend`, `WF.uncheckedRemove`, `WF.alloc`, `WF.allocList`, `WF.lazySetup`, `WF.setData`); the public
    operations are compositions. -/

namespace FunModel.Dll

/-- how every operation's effect on the ghost state is written -/
def upd (g : Nat → List Nat) (l : Nat) (xs : List Nat) : Nat → List Nat :=
  fun i => if i = l then xs else g i

@[simp] theorem upd_same (g : Nat → List Nat) (l : Nat) (xs : List Nat) : upd g l xs l = xs := by
  simp [upd]
theorem upd_other (g : Nat → List Nat) {l i : Nat} (xs : List Nat) (h : i ≠ l) : upd g l xs i = g i := by
  simp [upd, h]
theorem upd_apply (g : Nat → List Nat) (l i : Nat) (xs : List Nat) :
    upd g l xs i = if i = l then xs else g i := rfl
@[simp] theorem upd_self (g : Nat → List Nat) (l : Nat) : upd g l (g l) = g := by
  funext i; by_cases h : i = l <;> simp [upd, h]
theorem upd_eq_self {g : Nat → List Nat} {l : Nat} {xs : List Nat} (hg : g l = xs) : upd g l xs = g := by
  rw [← hg]; exact upd_self g l
theorem upd_comm (g : Nat → List Nat) {l m : Nat} (xs ys : List Nat) (h : l ≠ m) :
    upd (upd g l xs) m ys = upd (upd g m ys) l xs := by
  funext i; by_cases h1 : i = m
  · subst h1; simp [upd, h.symm]
  · simp [upd, h1]
theorem upd_upd (g : Nat → List Nat) (l : Nat) (xs ys : List Nat) : upd (upd g l xs) l ys = upd g l ys := by
  funext i; by_cases h : i = l <;> simp [upd, h]

theorem mem_upd {g : Nat → List Nat} {l l' x : Nat} {xs : List Nat} (h : x ∈ upd g l xs l') :
    x ∈ xs ∨ x ∈ g l' := by
  rw [upd_apply] at h
  split at h
  · exact Or.inl h
  · exact Or.inr h

/-- a sequence as the iterator that pops from the back (`true`) or from the front sees it -/
def seen : Bool → List Nat → List Nat
  | true, xs => xs.reverse
  | false, xs => xs

@[simp] theorem seen_nil (b : Bool) : seen b [] = [] := by cases b <;> rfl
@[simp] theorem seen_seen (b : Bool) (xs : List Nat) : seen b (seen b xs) = xs := by
  cases b <;> simp [seen]

theorem Frame.map_item {h h' : Heap} (f : Frame h h') {xs : List Nat} (hx : ∀ x, x ∈ xs → x < h.nn) :
    xs.map (fun a => (h'.node a).item) = xs.map (fun a => (h.node a).item) :=
  List.map_congr_left (fun a ha => (f.data a (hx a ha)).2)

/-- like `Frame`, but says nothing about the data of `e` -/
structure FrameExcept (e : Nat) (h h' : Heap) : Prop where
  nn : h.nn ≤ h'.nn
  nl : h.nl ≤ h'.nl
  data : ∀ a, a < h.nn → a ≠ e → (h'.node a).ok = (h.node a).ok ∧ (h'.node a).item = (h.node a).item
  root : ∀ l r, (h.hdr l).root = some r → (h'.hdr l).root = some r

theorem Frame.except {h h' : Heap} (f : Frame h h') (e : Nat) : FrameExcept e h h' :=
  ⟨f.nn, f.nl, fun a ha _ => f.data a ha, f.root⟩

theorem FrameExcept.setData (h : Heap) (e : Nat) (b : Bool) (v : Int) : FrameExcept e h (h.setData e b v) :=
  ⟨Nat.le_refl _, Nat.le_refl _, fun a _ hae => by simp [hae], fun _ _ hr => hr⟩

theorem FrameExcept.map_item {e : Nat} {h h' : Heap} (f : FrameExcept e h h') {xs : List Nat}
    (hx : ∀ x, x ∈ xs → x < h.nn) (he : e ∉ xs) :
    xs.map (fun a => (h'.node a).item) = xs.map (fun a => (h.node a).item) :=
  List.map_congr_left (fun a ha => (f.data a (hx a ha) (fun hae => he (hae ▸ ha))).2)

/-- `g l`: the addresses of the elements of `l`, front to back, without the sentinel -/
structure LWF (h : Heap) (g : Nat → List Nat) (l : Nat) : Prop where
  /-- an address `allocList` has not handed out yet carries the zero header (with `empty` and `len`), so the
      `&List{}` that `allocList` writes there changes nothing (`WF.allocList_hdr`) -/
  unalloc : h.nl ≤ l → (h.hdr l).root = none
  /-- `root == nil`: the zero-value list on which `lazySetup` has not run -/
  empty : (h.hdr l).root = none → g l = []
  root : ∀ r, (h.hdr l).root = some r →
    r < h.nn ∧ (h.node r).ok = false ∧ (h.node r).list = some l ∧ Chain h r (g l) r
  len : (h.hdr l).length = (g l).length
  elem : ∀ x, x ∈ g l → x < h.nn ∧ (h.node x).ok = true ∧ (h.node x).list = some l
  nodup : (g l).Nodup

structure WF (h : Heap) (g : Nat → List Nat) : Prop where
  lwf : ∀ l, LWF h g l
  /-- for every address, allocated or not: cells beyond `h.nn` are detached (`WF.list_none_of_ge`) -/
  owner : ∀ a l, (h.node a).list = some l → (h.hdr l).root = some a ∨ a ∈ g l

/-- of the cells of `l`, the invariant reads `next`, `prev`, `list` and `ok` -/
theorem LWF.frame {h h' : Heap} {g g' : Nat → List Nat} {l : Nat} (hl : LWF h g l)
    (hn : h.nn ≤ h'.nn) (hnl : h.nl ≤ h'.nl) (hh : h'.hdr l = h.hdr l) (hg : g' l = g l)
    (hnode : ∀ c, (h.node c).list = some l → (h'.node c).next = (h.node c).next ∧
      (h'.node c).prev = (h.node c).prev ∧ (h'.node c).list = (h.node c).list ∧
      (h'.node c).ok = (h.node c).ok) : LWF h' g' l := by
  refine ⟨?_, ?_, ?_, ?_, ?_, ?_⟩
  · intro hle; rw [hh]; exact hl.unalloc (Nat.le_trans hnl hle)
  · intro hr; rw [hg]; rw [hh] at hr; exact hl.empty hr
  · intro r hr
    rw [hh] at hr
    obtain ⟨h1, h2, h3, h4⟩ := hl.root r hr
    have hcyc : ∀ c, c = r ∨ c ∈ g l → (h.node c).list = some l :=
      fun c hc => hc.elim (fun e => e ▸ h3) fun hc => (hl.elem c hc).2.2
    obtain ⟨_, _, e3, e4⟩ := hnode r h3
    rw [hg, e3, e4]
    exact ⟨Nat.lt_of_lt_of_le h1 hn, h2, h3,
      h4.frame (fun c hc => (hnode c (hcyc c hc)).1) (fun c hc => (hnode c (hcyc c hc.symm)).2.1)⟩
  · rw [hh, hg]; exact hl.len
  · intro x hx
    rw [hg] at hx
    obtain ⟨h1, h2, h3⟩ := hl.elem x hx
    obtain ⟨_, _, e3, e4⟩ := hnode x h3
    rw [e3, e4]
    exact ⟨Nat.lt_of_lt_of_le h1 hn, h2, h3⟩
  · rw [hg]; exact hl.nodup

theorem WF.empty : WF {} (fun _ => []) := by
  refine ⟨fun l => ⟨fun _ => rfl, fun _ => rfl, ?_, rfl, ?_, List.nodup_nil⟩, ?_⟩
  · intro r hr; cases hr
  · intro x hx; cases hx
  · intro a l ha; cases ha

theorem WF.elem_lt {h : Heap} {g : Nat → List Nat} (hw : WF h g) {l x : Nat} (hx : x ∈ g l) : x < h.nn :=
  ((hw.lwf l).elem x hx).1

theorem WF.elem_list {h : Heap} {g : Nat → List Nat} (hw : WF h g) {l x : Nat} (hx : x ∈ g l) :
    (h.node x).list = some l :=
  ((hw.lwf l).elem x hx).2.2

theorem WF.disjoint {h : Heap} {g : Nat → List Nat} (hw : WF h g) {l l' x : Nat} (hx : x ∈ g l)
    (hx' : x ∈ g l') : l = l' := by
  have h1 := hw.elem_list hx
  have h2 := hw.elem_list hx'
  rw [h1] at h2; exact Option.some.inj h2

theorem WF.root_list {h : Heap} {g : Nat → List Nat} (hw : WF h g) {l r : Nat} (hr : (h.hdr l).root = some r) :
    (h.node r).list = some l :=
  ((hw.lwf l).root r hr).2.2.1

theorem WF.root_ok {h : Heap} {g : Nat → List Nat} (hw : WF h g) {l r : Nat} (hr : (h.hdr l).root = some r) :
    (h.node r).ok = false :=
  ((hw.lwf l).root r hr).2.1

theorem WF.chain {h : Heap} {g : Nat → List Nat} (hw : WF h g) {l r : Nat} (hr : (h.hdr l).root = some r) :
    Chain h r (g l) r :=
  ((hw.lwf l).root r hr).2.2.2

theorem WF.lt_nl_of_root {h : Heap} {g : Nat → List Nat} (hw : WF h g) {l r : Nat} (hr : (h.hdr l).root = some r) :
    l < h.nl := by
  apply Nat.lt_of_not_le
  intro hle
  have := (hw.lwf l).unalloc hle
  rw [hr] at this; cases this

theorem WF.len_eq_zero {h : Heap} {g : Nat → List Nat} (hw : WF h g) {l : Nat} :
    (h.hdr l).length = 0 ↔ g l = [] := by
  rw [(hw.lwf l).len]
  cases g l <;> simp
  omega

theorem WF.len_toNat {h : Heap} {g : Nat → List Nat} (hw : WF h g) (l : Nat) :
    (h.hdr l).length.toNat = (g l).length := by
  rw [(hw.lwf l).len]; simp

theorem WF.mem_root {h : Heap} {g : Nat → List Nat} (hw : WF h g) {l x : Nat} (hx : x ∈ g l) :
    ∃ r, (h.hdr l).root = some r := by
  cases hr : (h.hdr l).root with
  | some r => exact ⟨r, rfl⟩
  | none =>
    have := (hw.lwf l).empty hr
    rw [this] at hx; cases hx

theorem WF.root_not_mem {h : Heap} {g : Nat → List Nat} (hw : WF h g) {l l' r : Nat}
    (hr : (h.hdr l).root = some r) : r ∉ g l' := by
  intro hm
  have h1 := hw.root_ok hr
  have h2 := ((hw.lwf l').elem r hm).2.1
  rw [h1] at h2; cases h2

theorem WF.detached {h : Heap} {g : Nat → List Nat} (hw : WF h g) {a : Nat}
    (hr : ∀ l, (h.hdr l).root ≠ some a) (hm : ∀ l, a ∉ g l) : (h.node a).list = none := by
  cases hl : (h.node a).list with
  | none => rfl
  | some l =>
    rcases hw.owner a l hl with h1 | h1
    · exact absurd h1 (hr l)
    · exact absurd h1 (hm l)

theorem WF.list_none_of_ge {h : Heap} {g : Nat → List Nat} (hw : WF h g) {a : Nat} (ha : h.nn ≤ a) :
    (h.node a).list = none :=
  hw.detached (fun l hr => Nat.not_lt.2 ha ((hw.lwf l).root a hr).1) fun _ hm => Nat.not_lt.2 ha (hw.elem_lt hm)

theorem WF.attached_lt {h : Heap} {g : Nat → List Nat} (hw : WF h g) {c l : Nat}
    (hc : (h.node c).list = some l) : c < h.nn :=
  Nat.lt_of_not_le fun hle => by rw [hw.list_none_of_ge hle] at hc; cases hc

theorem WF.list_of_cycle {h : Heap} {g : Nat → List Nat} (hw : WF h g) {l r c : Nat}
    (hr : (h.hdr l).root = some r) (hc : c = r ∨ c ∈ g l) : (h.node c).list = some l := by
  rcases hc with rfl | hc
  · exact hw.root_list hr
  · exact hw.elem_list hc

theorem Frame.elem_ok {h h' : Heap} {g : Nat → List Nat} (f : Frame h h') (hw : WF h g) {l x : Nat}
    (hx : x ∈ g l) : (h'.node x).ok = true := by
  rw [(f.data x (hw.elem_lt hx)).1]
  exact ((hw.lwf l).elem x hx).2.1

def vals (h : Heap) (g : Nat → List Nat) (l : Nat) : List Int := (g l).map (fun a => (h.node a).item)

theorem Frame.vals {h h' : Heap} {g g' : Nat → List Nat} (f : Frame h h') (hw : WF h g) {l : Nat}
    (hg : g' l = g l) : vals h' g' l = vals h g l := by
  unfold Dll.vals; rw [hg]
  exact f.map_item (fun x hx => hw.elem_lt hx)

theorem WF.cycle_nodup {h : Heap} {g : Nat → List Nat} (hw : WF h g) {l r : Nat}
    (hr : (h.hdr l).root = some r) : (r :: g l).Nodup :=
  List.nodup_cons.2 ⟨hw.root_not_mem hr, (hw.lwf l).nodup⟩

theorem WF.list_of_split {h : Heap} {g : Nat → List Nat} (hw : WF h g) {l r e : Nat} {pre post : List Nat}
    (hr : (h.hdr l).root = some r) (hg : g l = pre ++ e :: post) :
    (h.node (lastOr r pre)).list = some l ∧ (h.node (post.headD r)).list = some l := by
  refine ⟨hw.list_of_cycle hr ((lastOr_mem r pre).imp id fun hx => ?_),
    hw.list_of_cycle hr ((List.headD_mem r post).imp id fun hx => ?_)⟩
  · rw [hg]; exact List.mem_append_left _ hx
  · rw [hg]; exact List.mem_append_right _ (List.mem_cons_of_mem _ hx)

/-- the invariant after the splice, once the cycle of `l` is known to be closed again: the other
    lists own none of the three cells that were written -/
theorem WF.append_core {h : Heap} {g : Nat → List Nat} (hw : WF h g) {l e new r n : Nat} {xs' : List Nat}
    (hr : (h.hdr l).root = some r) (he : (h.node e).list = some l) (hn : (h.node n).list = some l)
    (hlt : new < h.nn) (hok : (h.node new).ok = true) (hdet : (h.node new).list = none)
    (hperm : xs'.Perm (new :: g l))
    (hch : Chain (h.appendResult l e new n) r xs' r) :
    WF (h.appendResult l e new n) (upd g l xs') := by
  have hnew_ne : ∀ c l', (h.node c).list = some l' → c ≠ new := by
    intro c l' hc hcn; rw [hcn, hdet] at hc; cases hc
  have hnot : new ∉ g l := fun hx => hnew_ne _ _ (hw.elem_list hx) rfl
  obtain ⟨hr1, hr2, hr3, _⟩ := (hw.lwf l).root r hr
  refine ⟨fun l' => ?_, fun a l' ha => ?_⟩
  · by_cases hl' : l' = l
    · subst hl'
      refine ⟨?_, ?_, ?_, ?_, ?_, ?_⟩
      · intro hle; simpa using (hw.lwf l').unalloc hle
      · intro hx; simp [hr] at hx
      · intro r' hr'
        simp [hr] at hr'; subst hr'
        simp [hr2, hr3, hnew_ne _ _ hr3, hch]; exact hr1
      · simp [hperm.length_eq, (hw.lwf l').len]
      · intro x hx
        rw [upd_same, hperm.mem_iff, List.mem_cons] at hx
        rcases hx with rfl | hx
        · simp [hlt, hok]
        · obtain ⟨h1, h2, h3⟩ := (hw.lwf l').elem x hx
          simp [h1, h2, h3, hnew_ne _ _ h3]
      · rw [upd_same, hperm.nodup_iff]
        exact List.nodup_cons.2 ⟨hnot, (hw.lwf l').nodup⟩
    · refine (hw.lwf l').frame (Nat.le_refl _) (Nat.le_refl _)
        (Heap.appendResult_hdr_other h e new n hl') (upd_other g xs' hl') ?_
      intro c hc
      have h1 : c ≠ new := hnew_ne _ _ hc
      have h2 : c ≠ e := by intro hce; rw [hce, he] at hc; exact hl' (Option.some.inj hc).symm
      have h3 : c ≠ n := by intro hce; rw [hce, hn] at hc; exact hl' (Option.some.inj hc).symm
      simp [h1, h2, h3]
  · rw [Heap.appendResult_list] at ha
    by_cases han : a = new
    · rw [if_pos han, Option.some.injEq] at ha
      subst ha
      exact Or.inr (by simp [hperm.mem_iff, han])
    · rw [if_neg han] at ha
      refine (hw.owner a l' ha).imp (by simp) fun h1 => ?_
      by_cases hl' : l' = l
      · subst hl'; simp [hperm.mem_iff, h1]
      · rw [upd_other g xs' hl']; exact h1

/-- `e` attached to `l` is `l`'s sentinel (then `new` becomes the front; `cycle_insert`) or an element of `g l`
    (`chain_insert_mid`) -/
theorem WF.uncheckedAppend {h : Heap} {g : Nat → List Nat} (hw : WF h g) {l e new : Nat}
    (he : (h.node e).list = some l)
    (hlt : new < h.nn) (hok : (h.node new).ok = true) (hdet : (h.node new).list = none) :
    ∃ h', h.uncheckedAppend e new = some h' ∧
      WF h' (upd g l (if (h.hdr l).root = some e then new :: g l else insertAfter e new (g l))) ∧
      Frame h h' ∧ h'.nn = h.nn ∧ h'.nl = h.nl := by
  have hne : new ≠ e := by intro hx; rw [hx, he] at hdet; cases hdet
  obtain ⟨r, hr⟩ : ∃ r, (h.hdr l).root = some r := (hw.owner e l he).elim (fun hr => ⟨e, hr⟩) hw.mem_root
  have hch := hw.chain hr
  have hcyc := hw.cycle_nodup hr
  have hnew : new ∉ r :: g l := fun hx => by
    have := hw.list_of_cycle hr (List.mem_cons.1 hx)
    rw [hdet] at this; cases this
  rcases hw.owner e l he with hre | hm
  · obtain rfl : e = r := Option.some.inj (hre.symm.trans hr)
    have hn := hch.next_first
    refine ⟨_, Heap.uncheckedAppend_eq he hn hne, ?_, Frame.appendResult .., rfl, rfl⟩
    rw [if_pos hr]
    exact hw.append_core hr he (hw.list_of_cycle hr (List.headD_mem e (g l))) hlt hok hdet (.refl _)
      (cycle_insert hch hcyc hnew hn (fun c => by simp) (fun c => by simp))
  · obtain ⟨pre, post, hsplit⟩ := List.append_of_mem hm
    rw [hsplit] at hch hcyc hnew
    have hn := hch.next_mid
    refine ⟨_, Heap.uncheckedAppend_eq he hn hne, ?_, Frame.appendResult .., rfl, rfl⟩
    rw [if_neg fun hx => hw.root_not_mem hx hm, hsplit,
      insertAfter_split (not_mem_of_nodup_split (List.nodup_cons.1 hcyc).2)]
    refine hw.append_core hr he (hw.list_of_split hr hsplit).2 hlt hok hdet ?_
      (chain_insert_mid hch hcyc hnew hn (fun c => by simp) (fun c => by simp))
    rw [hsplit]
    simpa using List.perm_middle (l₁ := pre ++ [e]) (a := new) (l₂ := post)

/-- the same after `uncheckedRemove`: the cells written are `e` and its neighbours `p`, `n`, all owned by `l` -/
theorem WF.remove_core {h : Heap} {g : Nat → List Nat} (hw : WF h g) {l e r p n : Nat} {xs' : List Nat}
    (hr : (h.hdr l).root = some r) (hem : e ∈ g l)
    (hp : (h.node p).list = some l) (hn : (h.node n).list = some l)
    (hperm : (g l).Perm (e :: xs'))
    (hch : Chain (h.removeResult l e p n) r xs' r) :
    WF (h.removeResult l e p n) (upd g l xs') := by
  have he := hw.elem_list hem
  have her : r ≠ e := by intro hx; subst hx; exact hw.root_not_mem hr hem
  have hnd := hperm.nodup_iff.1 (hw.lwf l).nodup
  rw [List.nodup_cons] at hnd
  have hsub : ∀ x, x ∈ xs' → x ∈ g l ∧ x ≠ e := fun x hx =>
    ⟨hperm.mem_iff.2 (List.mem_cons_of_mem _ hx), ne_of_mem_of_not_mem hx hnd.1⟩
  obtain ⟨hr1, hr2, hr3, _⟩ := (hw.lwf l).root r hr
  refine ⟨fun l' => ?_, fun a l' ha => ?_⟩
  · by_cases hl' : l' = l
    · subst hl'
      refine ⟨?_, ?_, ?_, ?_, ?_, ?_⟩
      · intro hle; simpa using (hw.lwf l').unalloc hle
      · intro hx; simp [hr] at hx
      · intro r' hr'
        simp [hr] at hr'; subst hr'
        simp [hr2, hr3, her, hch]; exact hr1
      · simp [(hw.lwf l').len, hperm.length_eq]; omega
      · intro x hx
        rw [upd_same] at hx
        obtain ⟨h1, h2, h3⟩ := (hw.lwf l').elem x (hsub x hx).1
        simp [h1, h2, h3, (hsub x hx).2]
      · rw [upd_same]; exact hnd.2
    · refine (hw.lwf l').frame (Nat.le_refl _) (Nat.le_refl _)
        (Heap.removeResult_hdr_other h e p n hl') (upd_other g xs' hl') ?_
      intro c hc
      have h1 : c ≠ e := by intro hce; rw [hce, he] at hc; exact hl' (Option.some.inj hc).symm
      have h2 : c ≠ p := by intro hce; rw [hce, hp] at hc; exact hl' (Option.some.inj hc).symm
      have h3 : c ≠ n := by intro hce; rw [hce, hn] at hc; exact hl' (Option.some.inj hc).symm
      simp [h1, h2, h3]
  · rw [Heap.removeResult_list] at ha
    by_cases hae : a = e
    · rw [if_pos hae] at ha; cases ha
    · rw [if_neg hae] at ha
      refine (hw.owner a l' ha).imp (by simp) fun h1 => ?_
      by_cases hl' : l' = l
      · subst hl'
        rw [upd_same]
        exact (List.mem_cons.1 (hperm.mem_iff.1 h1)).resolve_left hae
      · rw [upd_other g xs' hl']; exact h1

theorem WF.uncheckedRemove {h : Heap} {g : Nat → List Nat} (hw : WF h g) {l e : Nat} (hm : e ∈ g l) :
    ∃ h', h.uncheckedRemove e = some h' ∧ WF h' (upd g l ((g l).erase e)) ∧ Frame h h' ∧
      h'.nn = h.nn ∧ h'.nl = h.nl ∧ (h'.node e).list = none := by
  obtain ⟨r, hr⟩ := hw.mem_root hm
  have hch := hw.chain hr
  have hcyc := hw.cycle_nodup hr
  obtain ⟨pre, post, hsplit⟩ := List.append_of_mem hm
  rw [hsplit] at hch hcyc
  have hp := hch.prev_mid
  obtain ⟨hpl, hnl⟩ := hw.list_of_split hr hsplit
  refine ⟨_, Heap.uncheckedRemove_eq (hw.elem_list hm) hp hch.next_mid, ?_, Frame.removeResult .., rfl, rfl,
    by simp⟩
  rw [hsplit, erase_split (not_mem_of_nodup_split (List.nodup_cons.1 hcyc).2)]
  exact hw.remove_core hr hm hpl hnl (by rw [hsplit]; exact List.perm_middle)
    (chain_remove_mid hch hcyc hp (fun c => by simp) (fun c => by simp))

/-- a step that leaves the headers and the attached cells alone, and attaches nothing -/
theorem WF.frame {h h' : Heap} {g : Nat → List Nat} (hw : WF h g) (hn : h.nn ≤ h'.nn) (hnl : h.nl ≤ h'.nl)
    (hh : ∀ l, h'.hdr l = h.hdr l)
    (hnode : ∀ c l, (h.node c).list = some l → (h'.node c).next = (h.node c).next ∧
      (h'.node c).prev = (h.node c).prev ∧ (h'.node c).list = (h.node c).list ∧
      (h'.node c).ok = (h.node c).ok)
    (hnew : ∀ c l, (h'.node c).list = some l → (h.node c).list = some l) : WF h' g :=
  ⟨fun l => (hw.lwf l).frame hn hnl (hh l) rfl fun c => hnode c l,
    fun a l ha => hh l ▸ hw.owner a l (hnew a l ha)⟩

theorem WF.alloc {h : Heap} {g : Nat → List Nat} (hw : WF h g) {n : Node} (hn : n.list = none) :
    WF (h.alloc n).1 g := by
  refine hw.frame (by simp) (by simp) (fun _ => rfl) (fun c l hc => ?_) (fun c l hc => ?_)
  · have : c ≠ h.nn := Nat.ne_of_lt (hw.attached_lt hc)
    simp [this]
  · by_cases hx : c = h.nn
    · simp [hx, hn] at hc
    · simpa [hx] using hc

theorem WF.ghost_unalloc {h : Heap} {g : Nat → List Nat} (hw : WF h g) {l : Nat} (hl : h.nl ≤ l) : g l = [] :=
  (hw.lwf l).empty ((hw.lwf l).unalloc hl)

theorem WF.hdr_unalloc {h : Heap} {g : Nat → List Nat} (hw : WF h g) {l : Nat} (hl : h.nl ≤ l) :
    h.hdr l = {} := by
  have h1 := (hw.lwf l).unalloc hl
  have h2 := (hw.lwf l).len
  rw [hw.ghost_unalloc hl] at h2
  cases hh : h.hdr l with
  | mk root length => rw [hh] at h1 h2; simp at h1 h2; simp [h1, h2]

theorem WF.allocList_hdr {h : Heap} {g : Nat → List Nat} (hw : WF h g) (l : Nat) :
    h.allocList.1.hdr l = h.hdr l := by
  rw [Heap.allocList_fst_hdr]
  split
  · next hl => rw [hl, hw.hdr_unalloc (Nat.le_refl _)]
  · rfl

theorem WF.allocList {h : Heap} {g : Nat → List Nat} (hw : WF h g) : WF h.allocList.1 g :=
  hw.frame (by simp) (by simp) hw.allocList_hdr (fun _ _ _ => ⟨rfl, rfl, rfl, rfl⟩) (fun _ _ hc => hc)

theorem Frame.allocList {h : Heap} {g : Nat → List Nat} (hw : WF h g) : Frame h h.allocList.1 :=
  ⟨by simp, by simp, fun _ _ => by simp, fun l r hr => by rw [hw.allocList_hdr]; exact hr⟩

theorem WF.setData {h : Heap} {g : Nat → List Nat} (hw : WF h g) {e : Nat} {b : Bool} (v : Int)
    (hroot : ∀ l, (h.hdr l).root ≠ some e) (hmem : ∀ l, e ∈ g l → b = true) :
    WF (h.setData e b v) g := by
  refine hw.frame (Nat.le_refl _) (Nat.le_refl _) (fun _ => rfl) (fun c l hc => ?_) (fun c l hc => by simpa using hc)
  refine ⟨by simp, by simp, by simp, ?_⟩
  -- an attached `e` is an element (`hroot`), hence ok already
  rw [Heap.setData_ok]
  split
  · next hce =>
    have hm := (hw.owner c l hc).resolve_left (hce ▸ hroot l)
    rw [hmem l (hce ▸ hm), ((hw.lwf l).elem c hm).2.1]
  · rfl

theorem WF.lazySetup {h : Heap} {g : Nat → List Nat} (hw : WF h g) {l : Nat} (hl : l < h.nl) :
    WF (h.lazySetup l) g ∧ Frame h (h.lazySetup l) ∧ ∃ r, ((h.lazySetup l).hdr l).root = some r := by
  refine ⟨?_, Frame.lazySetup h l, h.lazySetup_root l⟩
  cases hr : (h.hdr l).root with
  | some r => rw [Heap.lazySetup_some hr]; exact hw
  | none =>
    rw [Heap.lazySetup_none hr]
    have hg := (hw.lwf l).empty hr
    have hlen := (hw.lwf l).len
    rw [hg] at hlen
    refine ⟨?_, ?_⟩
    · intro l'
      by_cases hl' : l' = l
      · subst hl'
        refine ⟨?_, ?_, ?_, ?_, ?_, ?_⟩
        · intro hle; exact absurd hl (Nat.not_lt.2 hle)
        · intro _; exact hg
        · intro r hr'
          simp [Heap.setupResult] at hr'; subst hr'
          simp [Heap.setupResult, hg]
        · simp [Heap.setupResult, hg, hlen]
        · simp [hg]
        · simp [hg]
      · refine (hw.lwf l').frame (by simp [Heap.setupResult]) (Nat.le_refl _) (by simp [Heap.setupResult, hl'])
          rfl ?_
        intro c hc
        have : c ≠ h.nn := Nat.ne_of_lt (hw.attached_lt hc)
        simp [Heap.setupResult, this]
    · intro a l' ha
      by_cases hx : a = h.nn
      · subst hx
        simp [Heap.setupResult] at ha; subst ha
        left; simp [Heap.setupResult]
      · simp [Heap.setupResult, hx] at ha
        rcases hw.owner a l' ha with h1 | h1
        · left
          have : l' ≠ l := by intro hx; subst hx; rw [hr] at h1; cases h1
          simpa [Heap.setupResult, this] using h1
        · exact Or.inr h1

theorem WF.elemAppend_accept {h : Heap} {g : Nat → List Nat} (hw : WF h g) {l e n : Nat}
    (he : (h.node e).list = some l)
    (hlt : n < h.nn) (hok : (h.node n).ok = true) (hdet : (h.node n).list = none) :
    ∃ h', h.elemAppend e (some n) = some (h', n) ∧
      WF h' (upd g l (if (h.hdr l).root = some e then n :: g l else insertAfter e n (g l))) ∧
      Frame h h' ∧ h'.nn = h.nn ∧ h'.nl = h.nl := by
  obtain ⟨h', h1, h2, h3, h4, h5⟩ := hw.uncheckedAppend he hlt hok hdet
  refine ⟨h', ?_, h2, h3, h4, h5⟩
  have : h.appendable e (some n) = true := by simp [Heap.appendable, hok, he, hdet]
  simp [Heap.elemAppend, this, h1]

theorem WF.elemAppend_total {h : Heap} {g : Nat → List Nat} (hw : WF h g) {e : Nat} {new : Option Nat}
    (hn : ∀ n, new = some n → n < h.nn) :
    ∃ h' g' x, h.elemAppend e new = some (h', x) ∧ WF h' g' ∧ Frame h h' := by
  cases ha : h.appendable e new with
  | false => exact ⟨h, g, e, Heap.elemAppend_reject ha, hw, Frame.refl h⟩
  | true =>
    obtain ⟨n, rfl, h1, h2, h3⟩ := Heap.appendable_eq_true.1 ha
    obtain ⟨l, hl⟩ := Option.isSome_iff_exists.1 h2
    obtain ⟨h', e1, hw', hf, _⟩ := hw.elemAppend_accept hl (hn n rfl) h1 h3
    exact ⟨h', _, n, e1, hw', hf⟩

theorem WF.appendNew {h : Heap} {g : Nat → List Nat} (hw : WF h g) {l e : Nat}
    (he : (h.node e).list = some l) (v : Int) :
    ∃ h', (h.alloc { ok := true, item := v }).1.elemAppend e (some h.nn) = some (h', h.nn) ∧
      WF h' (upd g l (if (h.hdr l).root = some e then h.nn :: g l else insertAfter e h.nn (g l))) ∧
      Frame h h' ∧ (h'.node h.nn).item = v := by
  have hne : e ≠ h.nn := Nat.ne_of_lt (hw.attached_lt he)
  have hw1 : WF (h.alloc { ok := true, item := v }).1 g := hw.alloc rfl
  obtain ⟨h', h1, h2, h3, _, _⟩ := hw1.elemAppend_accept (l := l) (e := e) (n := h.nn)
    (by simp [hne, he]) (by simp) (by simp) (by simp)
  refine ⟨h', h1, h2, (Frame.alloc h _).trans h3, ?_⟩
  have := (h3.data h.nn (by simp)).2
  simpa using this

theorem WF.back_eq {h : Heap} {g : Nat → List Nat} (hw : WF h g) {l r : Nat} (hr : (h.hdr l).root = some r) :
    h.back l = some (lastOr r (g l)) := by
  simp [Heap.back, Heap.root, hr, (hw.chain hr).prev_last]

theorem WF.front_eq {h : Heap} {g : Nat → List Nat} (hw : WF h g) {l r : Nat} (hr : (h.hdr l).root = some r) :
    h.front l = some ((g l).headD r) := by
  simp only [Heap.front, Heap.root, hr]
  exact (hw.chain hr).next_first

theorem WF.append_last_eq {h : Heap} {g : Nat → List Nat} (hw : WF h g) {l r : Nat}
    (hr : (h.hdr l).root = some r) (n : Nat) :
    (if (h.hdr l).root = some (lastOr r (g l)) then n :: g l
      else insertAfter (lastOr r (g l)) n (g l)) = g l ++ [n] := by
  rcases List.eq_nil_or_concat (g l) with hg | ⟨L, b, hg⟩
  · simp [hg, hr]
  · have hb : lastOr r (g l) ∈ g l := by simp [hg]
    rw [if_neg fun hx => hw.root_not_mem hx hb]
    exact insertAfter_last (by simp [hg]) (hw.lwf l).nodup

theorem WF.last_list {h : Heap} {g : Nat → List Nat} (hw : WF h g) {l r : Nat}
    (hr : (h.hdr l).root = some r) : (h.node (lastOr r (g l))).list = some l :=
  hw.list_of_cycle hr (lastOr_mem r (g l))

/-- `l.Back().Append(x)` for a detached, ok `x` -/
theorem WF.appendBack {h : Heap} {g : Nat → List Nat} (hw : WF h g) {l r x : Nat}
    (hr : (h.hdr l).root = some r) (hlt : x < h.nn) (hok : (h.node x).ok = true)
    (hdet : (h.node x).list = none) :
    ∃ h', h.elemAppend (lastOr r (g l)) (some x) = some (h', x) ∧ WF h' (upd g l (g l ++ [x])) ∧
      Frame h h' := by
  obtain ⟨h', h1, h2, h3, _⟩ := hw.elemAppend_accept (hw.last_list hr) hlt hok hdet
  exact ⟨h', h1, hw.append_last_eq hr x ▸ h2, h3⟩

theorem WF.pushBack {h : Heap} {g : Nat → List Nat} (hw : WF h g) {l : Nat} (hl : l < h.nl) (v : Int) :
    ∃ h' n, h.pushBack l v = some h' ∧ h.nn ≤ n ∧ WF h' (upd g l (g l ++ [n])) ∧
      (h'.node n).item = v ∧ Frame h h' := by
  obtain ⟨hw0, hf0, r, hr⟩ := hw.lazySetup hl
  simp only [Heap.pushBack]
  generalize h.lazySetup l = h0 at *
  obtain ⟨h', h1, h2, h3, h4⟩ := hw0.appendNew (hw0.last_list hr) v
  rw [hw0.append_last_eq hr] at h2
  refine ⟨h', h0.nn, ?_, hf0.nn, h2, h4, hf0.trans h3⟩
  simp only [hw0.back_eq hr, Heap.makeElem]
  simp [h1]

theorem WF.pushFront {h : Heap} {g : Nat → List Nat} (hw : WF h g) {l : Nat} (hl : l < h.nl) (v : Int) :
    ∃ h' n, h.pushFront l v = some h' ∧ h.nn ≤ n ∧ WF h' (upd g l (n :: g l)) ∧
      (h'.node n).item = v ∧ Frame h h' := by
  obtain ⟨hw0, hf0, r, hr⟩ := hw.lazySetup hl
  simp only [Heap.pushFront]
  generalize h.lazySetup l = h0 at *
  obtain ⟨h', h1, h2, h3, h4⟩ := hw0.appendNew (hw0.root_list hr) v
  refine ⟨h', h0.nn, ?_, hf0.nn, ?_, h4, hf0.trans h3⟩
  · simp only [Heap.root, hr, Heap.makeElem]
    simp [h1]
  · rw [if_pos hr] at h2; exact h2

theorem WF.removable_mem {h : Heap} {g : Nat → List Nat} (hw : WF h g) {l e : Nat} (hm : e ∈ g l) :
    h.removable e = some true := by
  have he := hw.elem_list hm
  have h1 : (h.hdr l).root ≠ some e := fun hr => hw.root_not_mem hr hm
  have h2 : (h.hdr l).length > 0 := by
    rw [(hw.lwf l).len]
    cases hg : g l with
    | nil => rw [hg] at hm; cases hm
    | cons x xs => simp
  simp [Heap.removable, he, h1, h2]

theorem WF.removable_not {h : Heap} {g : Nat → List Nat} (hw : WF h g) {e : Nat} (hm : ∀ l, e ∉ g l) :
    h.removable e = some false := by
  cases he : (h.node e).list with
  | none => simp [Heap.removable, he]
  | some l =>
    rcases hw.owner e l he with hr | hx
    · simp [Heap.removable, he, hr]
    · exact absurd hx (hm l)

theorem WF.elemRemove_mem {h : Heap} {g : Nat → List Nat} (hw : WF h g) {l e : Nat} (hm : e ∈ g l) :
    ∃ h', h.elemRemove e = some (h', true) ∧ WF h' (upd g l ((g l).erase e)) ∧ Frame h h' ∧
      h'.nn = h.nn ∧ h'.nl = h.nl ∧ (h'.node e).list = none := by
  obtain ⟨h', h1, h2⟩ := hw.uncheckedRemove hm
  exact ⟨h', by simp [Heap.elemRemove, hw.removable_mem hm, h1], h2⟩

theorem WF.elemRemove_not {h : Heap} {g : Nat → List Nat} (hw : WF h g) {e : Nat} (hm : ∀ l, e ∉ g l) :
    h.elemRemove e = some (h, false) := by
  simp [Heap.elemRemove, hw.removable_not hm]

theorem WF.elemDrop_mem {h : Heap} {g : Nat → List Nat} (hw : WF h g) {l e : Nat} (hm : e ∈ g l) :
    ∃ h', h.elemDrop e = some h' ∧ WF h' (upd g l ((g l).erase e)) ∧ FrameExcept e h h' ∧
      h'.nn = h.nn ∧ h'.nl = h.nl ∧
      (h'.node e).list = none ∧ (h'.node e).ok = false ∧ (h'.node e).item = 0 := by
  obtain ⟨h1, e1, hw1, hf1, hn1, hl1, hd1⟩ := hw.elemRemove_mem hm
  refine ⟨h1.setData e false 0, ?_, ?_,
    ⟨hf1.nn, hf1.nl, fun a ha hae => by simpa [hae] using hf1.data a ha, hf1.root⟩,
    hn1, hl1, by simpa using hd1, by simp, by simp⟩
  · simp [Heap.elemDrop, e1, Heap.setData]
  · apply hw1.setData
    · intro l' hr
      have := hw1.root_list hr
      rw [hd1] at this; cases this
    · intro l' hx
      have := hw1.elem_list hx
      rw [hd1] at this; cases this

theorem WF.elemDrop_not {h : Heap} {g : Nat → List Nat} (hw : WF h g) {e : Nat} (hm : ∀ l, e ∉ g l) :
    h.elemDrop e = some h := by
  simp [Heap.elemDrop, hw.elemRemove_not hm]

theorem WF.elemSet_nonroot {h : Heap} {g : Nat → List Nat} (hw : WF h g) {e : Nat}
    (hr : ∀ l, (h.hdr l).root ≠ some e) (v : Int) :
    ∃ h', h.elemSet e v = (h', true) ∧ WF h' g ∧ (h'.node e).ok = true ∧ (h'.node e).item = v ∧
      FrameExcept e h h' := by
  refine ⟨_, ?_, hw.setData v hr (fun _ _ => rfl), by simp, by simp, FrameExcept.setData h e true v⟩
  cases he : (h.node e).list with
  | none => simp [Heap.elemSet, he, Heap.setData]
  | some l => simp [Heap.elemSet, he, hr l, Heap.setData]

theorem WF.pop_mem {h : Heap} {g : Nat → List Nat} (hw : WF h g) {l e : Nat} (hm : e ∈ g l) :
    ∃ h', h.pop l (some e) = some (h', e) ∧ WF h' (upd g l ((g l).erase e)) ∧ (h'.node e).list = none ∧
      (h'.node e).ok = true ∧ (h'.node e).item = (h.node e).item ∧ Frame h h' := by
  obtain ⟨h', h1, h2, h3, _, _, h4⟩ := hw.uncheckedRemove hm
  exact ⟨h', by simp [Heap.pop, hw.removable_mem hm, hw.elem_list hm, h1], h2, h4, h3.elem_ok hw hm,
    (h3.data e (hw.elem_lt hm)).2, h3⟩

theorem WF.pop_root {h : Heap} {g : Nat → List Nat} (hw : WF h g) {l r : Nat} (hr : (h.hdr l).root = some r) :
    h.pop l (some r) = some ((h.alloc {}).1, h.nn) := by
  have := hw.removable_not (e := r) (fun l' => hw.root_not_mem hr)
  simp [Heap.pop, this]

theorem WF.popFront_cons {h : Heap} {g : Nat → List Nat} (hw : WF h g) {l x : Nat} {xs : List Nat}
    (hg : g l = x :: xs) :
    ∃ h', h.popFront l = some (h', x) ∧ WF h' (upd g l xs) ∧ (h'.node x).list = none ∧
      (h'.node x).ok = true ∧ (h'.node x).item = (h.node x).item ∧ Frame h h' := by
  have hm : x ∈ g l := by simp [hg]
  obtain ⟨r, hr⟩ := hw.mem_root hm
  obtain ⟨h', h1, h2, rest⟩ := hw.pop_mem hm
  refine ⟨h', ?_, ?_, rest⟩
  · simp only [Heap.popFront, Heap.lazySetup_some hr, hw.front_eq hr, hg]
    exact h1
  · simpa [hg] using h2

theorem WF.popBack_snoc {h : Heap} {g : Nat → List Nat} (hw : WF h g) {l x : Nat} {xs : List Nat}
    (hg : g l = xs ++ [x]) :
    ∃ h', h.popBack l = some (h', x) ∧ WF h' (upd g l xs) ∧ (h'.node x).list = none ∧
      (h'.node x).ok = true ∧ (h'.node x).item = (h.node x).item ∧ Frame h h' := by
  have hm : x ∈ g l := by simp [hg]
  obtain ⟨r, hr⟩ := hw.mem_root hm
  obtain ⟨h', h1, h2, rest⟩ := hw.pop_mem hm
  refine ⟨h', ?_, ?_, rest⟩
  · simp only [Heap.popBack, Heap.lazySetup_some hr, hw.back_eq hr, hg, lastOr_snoc]
    exact h1
  · have hnd := (hw.lwf l).nodup
    rw [hg] at hnd h2
    rw [erase_split (not_mem_of_nodup_split hnd)] at h2
    simpa using h2

/-- `dst.Back().Append(src.PopFront())` on a non-empty `src` -/
theorem WF.move {h : Heap} {g : Nat → List Nat} (hw : WF h g) {src dst r x : Nat} {xs : List Nat}
    (hne : src ≠ dst) (hg : g src = x :: xs) (hr : (h.hdr dst).root = some r) :
    ∃ h1 h2, h.popFront src = some (h1, x) ∧ (h1.node x).ok = true ∧
      h1.elemAppend (lastOr r (g dst)) (some x) = some (h2, x) ∧
      WF h2 (upd (upd g src xs) dst (g dst ++ [x])) ∧ Frame h h2 := by
  have hxm : x ∈ g src := by simp [hg]
  obtain ⟨h1, e1, hw1, hd1, hok1, _, hf1⟩ := hw.popFront_cons hg
  obtain ⟨h2, e2, hw2, hf2⟩ :=
    hw1.appendBack (hf1.root dst r hr) (Nat.lt_of_lt_of_le (hw.elem_lt hxm) hf1.nn) hok1 hd1
  rw [upd_other g xs hne.symm] at e2 hw2
  exact ⟨h1, h2, e1, hok1, e2, hw2, hf1.trans hf2⟩

theorem WF.pop_empty {h : Heap} {g : Nat → List Nat} (hw : WF h g) {l : Nat} (hl : l < h.nl) (hg : g l = []) :
    ∃ h' z, h.popFront l = some (h', z) ∧ h.popBack l = some (h', z) ∧ WF h' g ∧ h.nn ≤ z ∧ z < h'.nn ∧
      h'.node z = {} ∧ Frame h h' := by
  obtain ⟨hw0, hf0, r, hr⟩ := hw.lazySetup hl
  simp only [Heap.popFront, Heap.popBack]
  generalize h.lazySetup l = h0 at *
  refine ⟨(h0.alloc {}).1, h0.nn, ?_, ?_, hw0.alloc rfl, hf0.nn, by simp, by simp,
    hf0.trans (Frame.alloc h0 _)⟩
  · rw [hw0.front_eq hr, hg]; exact hw0.pop_root hr
  · rw [hw0.back_eq hr, hg]; exact hw0.pop_root hr

theorem WF.walkFwd {h : Heap} {g : Nat → List Nat} (hw : WF h g) {l r : Nat} (hr : (h.hdr l).root = some r)
    {fuel : Nat} (hf : (g l).length < fuel) : h.walkFwd l fuel = (g l, "end") := by
  simp only [Heap.walkFwd, Heap.front, Heap.root, hr]
  exact (hw.chain hr).walk_next (fun x hx => ((hw.lwf l).elem x hx).2.1) (hw.root_ok hr) hf

theorem WF.walkBwd {h : Heap} {g : Nat → List Nat} (hw : WF h g) {l r : Nat} (hr : (h.hdr l).root = some r)
    {fuel : Nat} (hf : (g l).length < fuel) : h.walkBwd l fuel = ((g l).reverse, "end") := by
  simp only [Heap.walkBwd, Heap.back, Heap.root, hr]
  refine Chain.walk_prev (ys := (g l).reverse) (by simpa using hw.chain hr) ?_ (hw.root_ok hr) (by simpa using hf)
  intro x hx
  exact ((hw.lwf l).elem x (by simpa using hx)).2.1

theorem WF.ghost_of_walk {h : Heap} {g : Nat → List Nat} (hw : WF h g) {l r fuel : Nat} {xs : List Nat}
    (hr : (h.hdr l).root = some r) (hf : (h.hdr l).length < fuel) (hwalk : h.walkFwd l fuel = (xs, "end")) :
    g l = xs := by
  have := hw.walkFwd hr (fuel := fuel) (by have := (hw.lwf l).len; omega)
  rw [hwalk] at this
  exact (congrArg Prod.fst this).symm

theorem WF.extendLoop {l src r : Nat} (hls : l ≠ src) : ∀ (fuel : Nat) {h : Heap} {g : Nat → List Nat} {back : Nat},
    WF h g → src < h.nl → (h.hdr l).root = some r → back = lastOr r (g l) → (g src).length < fuel →
    ∃ h', h.extendLoop src back fuel = some h' ∧ WF h' (upd (upd g l (g l ++ g src)) src []) ∧ Frame h h' := by
  intro fuel
  induction fuel with
  | zero => intro h g back _ _ _ _ hf; cases hf
  | succ f ih =>
    intro h g back hw hs hr hb hf
    subst hb
    cases hg : g src with
    | nil =>
      obtain ⟨h1, z, e1, _, hw1, _, _, hz, hf1⟩ := hw.pop_empty hs hg
      refine ⟨h1, by simp [Heap.extendLoop, e1, hz], ?_, hf1⟩
      simpa [upd_eq_self hg] using hw1
    | cons x xs =>
      obtain ⟨h1, h2, e1, hok1, e2, hw2, hf2⟩ := hw.move hls.symm hg hr
      obtain ⟨h3, e3, hw3, hf3⟩ := ih (back := x) hw2 (Nat.lt_of_lt_of_le hs hf2.nl) (hf2.root l r hr) (by simp)
        (by rw [upd_other _ _ hls.symm]; simpa [hg] using hf)
      refine ⟨h3, by simp [Heap.extendLoop, e1, hok1, e2, e3], ?_, hf2.trans hf3⟩
      rw [upd_same, upd_other _ _ hls.symm, upd_same, upd_upd, upd_comm _ _ _ hls.symm, upd_upd,
        List.append_assoc] at hw3
      exact hw3

theorem WF.extend {h : Heap} {g : Nat → List Nat} (hw : WF h g) {l src : Nat} (hl : l < h.nl)
    (hs : src < h.nl) (hls : l ≠ src) :
    ∃ h', h.extend l src = some h' ∧ WF h' (upd (upd g l (g l ++ g src)) src []) ∧ Frame h h' := by
  by_cases h0 : (h.hdr src).length = 0
  · have hg := hw.len_eq_zero.1 h0
    refine ⟨h, by simp [Heap.extend, h0], ?_, Frame.refl h⟩
    simpa [hg, upd_eq_self hg] using hw
  · obtain ⟨hw0, hf0, r, hr⟩ := hw.lazySetup hl
    simp only [Heap.extend, h0, if_false]
    generalize h.lazySetup l = h1 at *
    obtain ⟨h', e1, hw', hf'⟩ := WF.extendLoop hls ((h1.hdr src).length.toNat + 1) hw0
      (Nat.lt_of_lt_of_le hs hf0.nl) hr rfl (by rw [hw0.len_toNat]; exact Nat.lt_succ_self _)
    exact ⟨h', by simp [hw0.back_eq hr, e1], hw', hf0.trans hf'⟩

/-- the loop of `Copy` standing at the first element of `rest` (at the sentinel once `rest = []`), having passed
    `done`; `l` is only read, the fresh copies `ns` go to the back of `out` -/
theorem WF.copyLoop {l out r : Nat} (hlo : l ≠ out) : ∀ (fuel : Nat) {h : Heap} {g : Nat → List Nat}
    {done rest : List Nat},
    WF h g → out < h.nl → (h.hdr l).root = some r → g l = done ++ rest → rest.length < fuel →
    ∃ h' ns, h.copyLoop out (some (rest.headD r)) fuel = some h' ∧ WF h' (upd g out (g out ++ ns)) ∧
      Frame h h' ∧ ns.map (fun a => (h'.node a).item) = rest.map (fun a => (h.node a).item) ∧
      ∀ n, n ∈ ns → h.nn ≤ n := by
  intro fuel
  induction fuel with
  | zero => intro h g done rest _ _ _ _ hf; cases hf
  | succ f ih =>
    intro h g done rest hw ho hr hg hf
    cases rest with
    | nil =>
      have := hw.root_ok hr
      exact ⟨h, [], by simp [Heap.copyLoop, this], by simpa using hw, Frame.refl h, rfl, by simp⟩
    | cons e rest' =>
      have hem : e ∈ g l := by simp [hg]
      obtain ⟨he1, he2, _⟩ := (hw.lwf l).elem e hem
      obtain ⟨h1, n, e1, hn1, hw1, hi1, hf1⟩ := hw.pushBack ho (h.node e).item
      have hr1 := hf1.root l r hr
      have hg1 : upd g out (g out ++ [n]) l = (done ++ [e]) ++ rest' := by
        rw [upd_other _ _ hlo, hg]; simp
      have hnext : (h1.node e).next = some (rest'.headD r) := by
        have := hw1.chain hr1
        rw [hg1, List.append_assoc] at this
        exact this.next_mid
      obtain ⟨h2, ns, e2, hw2, hf2, hi2, hn2⟩ := ih hw1 (Nat.lt_of_lt_of_le ho hf1.nl) hr1 hg1
        (by simpa using hf)
      have hnlt : n < h1.nn := ((hw1.lwf out).elem n (by simp)).1
      generalize rest'.headD r = cur at *
      refine ⟨h2, n :: ns, ?_, ?_, hf1.trans hf2, ?_, ?_⟩
      · simp [Heap.copyLoop, he2, e1, hnext, e2]
      · simpa [upd_upd] using hw2
      · simp only [List.map_cons, hi2]
        congr 1
        · rw [(hf2.data n hnlt).2, hi1]
        · exact hf1.map_item fun a ha => hw.elem_lt (by rw [hg]; simp [ha])
      · intro m hm
        rcases List.mem_cons.1 hm with rfl | hm
        · exact hn1
        · exact Nat.le_trans hf1.nn (hn2 m hm)

theorem WF.copy {h : Heap} {g : Nat → List Nat} (hw : WF h g) {l : Nat} (hl : l < h.nl) :
    ∃ h' ns, h.copy l = some (h', h.nl) ∧ WF h' (upd g h.nl ns) ∧ (∀ n, n ∈ ns → h.nn ≤ n) ∧
      vals h' (upd g h.nl ns) h.nl = vals h g l ∧
      (∀ l', l' < h.nl → vals h' (upd g h.nl ns) l' = vals h g l') ∧ Frame h h' := by
  have hw1 := hw.allocList
  have hf1 := Frame.allocList hw
  have hgo : g h.nl = [] := hw.ghost_unalloc (Nat.le_refl _)
  have hlo : l ≠ h.nl := Nat.ne_of_lt hl
  by_cases hpos : (h.allocList.1.hdr l).length > 0
  · obtain ⟨hw2, hf2, r, hr⟩ := hw1.lazySetup (l := l) (by simp; omega)
    simp only [Heap.copy, hpos]
    generalize h.allocList.1.lazySetup l = h2 at *
    obtain ⟨h', ns, e1, hw', hf', hi, hn⟩ := WF.copyLoop hlo ((h2.hdr l).length.toNat + 1) (done := [])
      hw2 (out := h.nl) (Nat.lt_of_lt_of_le (by simp) hf2.nl) hr rfl
      (by rw [hw2.len_toNat]; exact Nat.lt_succ_self _)
    have hf := hf1.trans (hf2.trans hf')
    refine ⟨h', ns, ?_, by simpa [hgo] using hw', ?_, ?_, fun l' hl' => hf.vals hw (upd_other _ _ (Nat.ne_of_lt hl')), hf⟩
    · rw [hw2.front_eq hr]
      generalize (g l).headD r = cur at *
      simp [e1]
    · intro n hn'
      exact Nat.le_trans (hf1.trans hf2).nn (hn n hn')
    · simp only [vals, upd_same, hi]
      exact (hf1.trans hf2).map_item fun a ha => hw.elem_lt ha
  · have hg : g l = [] := hw1.len_eq_zero.1 (by have := (hw1.lwf l).len; omega)
    refine ⟨h.allocList.1, [], by simp only [Heap.copy, hpos, ↓reduceIte]; rfl, ?_, by simp, by simp [vals, hg],
      fun l' hl' => hf1.vals hw (upd_other _ _ (Nat.ne_of_lt hl')), hf1⟩
    rw [upd_eq_self hgo]; exact hw1

theorem WF.popEnd {h : Heap} {g : Nat → List Nat} (hw : WF h g) {l x : Nat} {xs : List Nat} (b : Bool)
    (hg : seen b (g l) = x :: xs) :
    ∃ h', (if b then h.popBack l else h.popFront l) = some (h', x) ∧ WF h' (upd g l (seen b xs)) ∧
      (h'.node x).ok = true ∧ Frame h h' := by
  cases b with
  | false =>
    obtain ⟨h', h1, h2, _, h3, _, h4⟩ := hw.popFront_cons hg
    exact ⟨h', h1, h2, h3, h4⟩
  | true =>
    have hg' : g l = xs.reverse ++ [x] := by simpa [seen] using congrArg List.reverse hg
    obtain ⟨h', h1, h2, _, h3, _, h4⟩ := hw.popBack_snoc hg'
    exact ⟨h', h1, h2, h3, h4⟩

theorem WF.popIter {l : Nat} (b : Bool) : ∀ (fuel : Nat) {h : Heap} {g : Nat → List Nat} {acc : List Nat},
    WF h g → l < h.nl →
    ∃ h', h.popIterLoop l b fuel acc = some (h', acc.reverse ++ (seen b (g l)).take fuel) ∧
      WF h' (upd g l (seen b ((seen b (g l)).drop fuel))) ∧ Frame h h' := by
  intro fuel
  induction fuel with
  | zero => intro h g acc hw _; exact ⟨h, by simp [Heap.popIterLoop], by simpa using hw, Frame.refl h⟩
  | succ f ih =>
    intro h g acc hw hl
    cases hs : seen b (g l) with
    | nil =>
      have hg : g l = [] := by simpa using congrArg (seen b) hs
      obtain ⟨h1, z, e1, e2, hw1, _, _, hz, hf1⟩ := hw.pop_empty hl hg
      refine ⟨h1, ?_, by simpa [upd_eq_self hg] using hw1, hf1⟩
      cases b <;> simp [Heap.popIterLoop, e1, e2, hz]
    | cons x xs =>
      have hxm : x ∈ g l := by
        have : x ∈ seen b (g l) := by simp [hs]
        cases b <;> simpa [seen] using this
      obtain ⟨r, hr⟩ := hw.mem_root hxm
      obtain ⟨h1, e1, hw1, hok1, hf1⟩ := hw.popEnd b hs
      -- the popped element is still ok and is not the sentinel: the iterator goes on
      have hxr : r ≠ x := by intro hx; subst hx; exact hw.root_not_mem hr hxm
      obtain ⟨h2, e2, hw2, hf2⟩ := ih (acc := x :: acc) hw1 (Nat.lt_of_lt_of_le hl hf1.nl)
      refine ⟨h2, ?_, by simpa [upd_upd] using hw2, hf1.trans hf2⟩
      have hgo : (h1.node x).ok = true ∧ ¬h1.root l = some x :=
        ⟨hok1, by simp [Heap.root, hf1.root l r hr, hxr]⟩
      rw [Heap.popIterLoop]
      cases b
      · rw [if_neg Bool.false_ne_true] at e1 ⊢
        simpa [e1, hgo] using e2
      · rw [if_pos rfl] at e1 ⊢
        simpa [e1, hgo] using e2

end FunModel.Dll
