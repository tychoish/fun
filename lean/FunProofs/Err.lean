import FunModel.Err

/-! The error model (C12; the collectors of C03, C10, C11): `Stack.Push` prepends the reversed `parts`; what `Resolve`
    returns; what `errors.Is` / `errors.As` find in an error and in its parts, with the three side conditions the C12
    statements carry (`shellIds`, `visible`, `solid`); what an `erc.Collector` resolves to. -/

namespace FunModel

mutual
theorem Err.push_eq (acc : List Err) : (e : Err) → e.push acc = e.parts.reverse ++ acc
  | .stack cs | .unwinder _ cs | .multi _ cs => ErrList.pushAll_eq acc cs
  | .leaf _ | .typed _ _ | .wrap _ _ => rfl
theorem ErrList.pushAll_eq (acc : List Err) : (cs : ErrList) → cs.pushAll acc = cs.partsAll.reverse ++ acc
  | .nil => rfl
  | .cons e r => by
      rw [ErrList.pushAll, ErrList.pushAll_eq (e.push acc) r, Err.push_eq acc e]
      simp [ErrList.partsAll]
  | .skip r => ErrList.pushAll_eq acc r
end

theorem flatten_eq (es : ErrList) : flatten es = es.partsAll.reverse := by
  simp [flatten, ErrList.pushAll_eq]

/-- the node kinds `Push` links as one item (its `default` clause): what a stack built by `Push` holds -/
def Err.plain : Err → Bool
  | .leaf _ => true
  | .typed _ _ => true
  | .wrap _ _ => true
  | _ => false

mutual
theorem Err.parts_plain : (e : Err) → ∀ c ∈ e.parts, c.plain = true
  | .stack cs | .unwinder _ cs | .multi _ cs => ErrList.partsAll_plain cs
  | .leaf _ | .typed _ _ | .wrap _ _ => by simp [Err.parts, Err.plain]
theorem ErrList.partsAll_plain : (cs : ErrList) → ∀ c ∈ cs.partsAll, c.plain = true
  | .nil => nofun
  | .cons e r => fun c hc =>
      (List.mem_append.mp hc).elim (Err.parts_plain e c) (ErrList.partsAll_plain r c)
  | .skip r => ErrList.partsAll_plain r
end

theorem Err.parts_of_plain (e : Err) (h : e.plain = true) : e.parts = [e] := by
  cases e <;> simp_all [Err.plain, Err.parts]

theorem flatten_plain (es : ErrList) : ∀ c ∈ flatten es, c.plain = true := fun c hc =>
  ErrList.partsAll_plain es c (by rwa [flatten_eq, List.mem_reverse] at hc)

@[simp] theorem ErrList.isAny_ofErrs (xs : List Err) (t : Nat) :
    (ErrList.ofErrs xs).isAny t = xs.any (fun c => c.is t) := by
  induction xs <;> simp [ErrList.ofErrs, ErrList.isAny, *]

@[simp] theorem ErrList.toList_ofErrs (xs : List Err) : (ErrList.ofErrs xs).toList = xs := by
  induction xs <;> simp [ErrList.ofErrs, ErrList.toList, *]

@[simp] theorem ErrList.partsAll_ofErrs_plain (xs : List Err) (h : ∀ c ∈ xs, c.plain = true) :
    (ErrList.ofErrs xs).partsAll = xs := by
  induction xs with
  | nil => simp [ErrList.ofErrs, ErrList.partsAll]
  | cons x xs ih =>
    have hx := List.forall_mem_cons.mp h
    simp [ErrList.ofErrs, ErrList.partsAll, Err.parts_of_plain x hx.1, ih hx.2]

theorem findSome?_cons_or {α β : Type} (f : α → Option β) (x : α) (r : List α) :
    (x :: r).findSome? f = (f x).or (r.findSome? f) := by
  rw [List.findSome?_cons]; cases f x <;> rfl

theorem ErrList.asFirst_ofErrs (xs : List Err) (ty : Nat) :
    (ErrList.ofErrs xs).asFirst ty = xs.findSome? (fun c => c.as ty) := by
  induction xs <;> simp [ErrList.ofErrs, ErrList.asFirst, findSome?_cons_or, *]

@[simp] theorem isOpt_some (r : Err) (t : Nat) : isOpt (some r) t = r.is t := rfl
@[simp] theorem asOpt_some (r : Err) (ty : Nat) : asOpt (some r) ty = r.as ty := rfl

theorem resolve_is (xs : List Err) (t : Nat) :
    isOpt (resolve xs) t = xs.any (fun c => c.is t) := by
  match xs with
  | [] | [_] => simp [resolve, isOpt]
  | x :: y :: r => simp [resolve, isOpt, Err.is]

theorem resolve_as (xs : List Err) (ty : Nat) :
    asOpt (resolve xs) ty = xs.findSome? (fun c => c.as ty) := by
  match xs with
  | [] | [_] => simp [resolve, asOpt]
  | x :: y :: r => simp only [resolve, asOpt, Err.as, ErrList.asFirst_ofErrs]

/-! `errors.As` with a leaf-typed target (`*ers.Error`) -/
def asLeafOpt (p : Nat → Bool) (o : Option Err) : Option Nat :=
  match o with | none => none | some r => r.asLeaf p

theorem ErrList.asLeafFirst_ofErrs (p : Nat → Bool) (xs : List Err) :
    (ErrList.ofErrs xs).asLeafFirst p = xs.findSome? (fun c => c.asLeaf p) := by
  induction xs <;> simp [ErrList.ofErrs, ErrList.asLeafFirst, findSome?_cons_or, *]

theorem resolve_asLeaf (p : Nat → Bool) (xs : List Err) :
    asLeafOpt p (resolve xs) = xs.findSome? (fun c => c.asLeaf p) := by
  match xs with
  | [] | [_] => simp [resolve, asLeafOpt]
  | x :: y :: r => simp only [resolve, asLeafOpt, Err.asLeaf, ErrList.asLeafFirst_ofErrs]

theorem resolve_eq_none (xs : List Err) : resolve xs = none ↔ xs = [] := by
  match xs with
  | [] | [_] | _ :: _ :: _ => simp [resolve]

/-! ids of the multi/unwinder wrappers that flattening throws away -/
mutual
def Err.shellIds : Err → List Nat
  | .stack cs => cs.shellIdsAll
  | .unwinder id cs => id :: cs.shellIdsAll
  | .multi id cs => id :: cs.shellIdsAll
  | _ => []
def ErrList.shellIdsAll : ErrList → List Nat
  | .nil => []
  | .cons e r => e.shellIds ++ r.shellIdsAll
  | .skip r => r.shellIdsAll
end

/-! no `Unwind()`-only node at a position that flattening opens up -/
mutual
def Err.visible : Err → Bool
  | .stack cs => cs.visibleAll
  | .unwinder _ _ => false
  | .multi _ cs => cs.visibleAll
  | _ => true
def ErrList.visibleAll : ErrList → Bool
  | .nil => true
  | .cons e r => e.visible && r.visibleAll
  | .skip r => r.visibleAll
end

mutual
theorem Err.is_of_parts (t : Nat) : (e : Err) → e.visible = true →
    (e.parts.any (fun c => c.is t)) = true → e.is t = true
  | .stack cs, hv, h => ErrList.isAny_of_parts t cs hv h
  | .unwinder _ _, hv, _ => nomatch hv
  | .multi _ cs, hv, h => by simp [Err.is, ErrList.isAny_of_parts t cs hv h]
  | .leaf _, _, h | .typed _ _, _, h | .wrap _ _, _, h => by simpa [Err.parts] using h
theorem ErrList.isAny_of_parts (t : Nat) : (cs : ErrList) → cs.visibleAll = true →
    (cs.partsAll.any (fun c => c.is t)) = true → cs.isAny t = true
  | .nil, _, h => nomatch h
  | .cons e r, hv, h => by
      simp only [ErrList.visibleAll, Bool.and_eq_true] at hv
      simp only [ErrList.partsAll, List.any_append, Bool.or_eq_true] at h
      simp only [ErrList.isAny, Bool.or_eq_true]
      exact h.imp (Err.is_of_parts t e hv.1) (ErrList.isAny_of_parts t r hv.2)
  | .skip r, hv, h => ErrList.isAny_of_parts t r hv h
end

mutual
theorem Err.parts_of_is (t : Nat) : (e : Err) → e.is t = true →
    t ∈ e.shellIds ∨ (e.parts.any (fun c => c.is t)) = true
  | .stack cs, h => ErrList.parts_of_isAny t cs h
  | .unwinder id cs, h => by
      simp only [Err.is, beq_iff_eq] at h; simp [Err.shellIds, h]
  | .multi id cs, h => by
      simp only [Err.is, Bool.or_eq_true, beq_iff_eq] at h
      simp only [Err.parts, Err.shellIds, List.mem_cons]
      exact h.elim (fun h => .inl (.inl h.symm)) fun h => (ErrList.parts_of_isAny t cs h).imp_left .inr
  | .leaf _, h | .typed _ _, h | .wrap _ _, h => by right; simpa [Err.parts] using h
theorem ErrList.parts_of_isAny (t : Nat) : (cs : ErrList) → cs.isAny t = true →
    t ∈ cs.shellIdsAll ∨ (cs.partsAll.any (fun c => c.is t)) = true
  | .nil, h => nomatch h
  | .cons e r, h => by
      simp only [ErrList.isAny, Bool.or_eq_true] at h
      simp only [ErrList.shellIdsAll, ErrList.partsAll, List.mem_append, List.any_append, Bool.or_eq_true]
      exact h.elim (fun h => (Err.parts_of_is t e h).imp .inl .inl)
        fun h => (ErrList.parts_of_isAny t r h).imp .inr .inr
  | .skip r, h => ErrList.parts_of_isAny t r h
end

mutual
theorem Err.as_of_parts (ty : Nat) : (e : Err) → e.visible = true →
    e.as ty = e.parts.findSome? (fun c => c.as ty)
  | .stack cs, hv | .multi _ cs, hv => ErrList.asFirst_of_parts ty cs hv
  | .unwinder _ _, hv => nomatch hv
  | .leaf _, _ | .typed _ _, _ | .wrap _ _, _ => by simp [Err.parts]
theorem ErrList.asFirst_of_parts (ty : Nat) : (cs : ErrList) → cs.visibleAll = true →
    cs.asFirst ty = cs.partsAll.findSome? (fun c => c.as ty)
  | .nil, _ => rfl
  | .cons e r, hv => by
      simp only [ErrList.visibleAll, Bool.and_eq_true] at hv
      simp only [ErrList.asFirst, ErrList.partsAll, List.findSome?_append,
        ← Err.as_of_parts ty e hv.1, ← ErrList.asFirst_of_parts ty r hv.2]
      cases e.as ty <;> rfl
  | .skip r, hv => ErrList.asFirst_of_parts ty r hv
end

/-! no container that is empty all the way down -/
mutual
def Err.solid : Err → Bool
  | .stack cs => cs.someSolid
  | .unwinder _ cs => cs.someSolid
  | .multi _ cs => cs.someSolid
  | _ => true
def ErrList.someSolid : ErrList → Bool
  | .nil => false
  | .cons e r => e.solid || r.someSolid
  | .skip r => r.someSolid
end

mutual
theorem Err.parts_eq_nil : (e : Err) → (e.parts = [] ↔ e.solid = false)
  | .stack cs | .unwinder _ cs | .multi _ cs => ErrList.partsAll_eq_nil cs
  | .leaf _ | .typed _ _ | .wrap _ _ => by simp [Err.parts, Err.solid]
theorem ErrList.partsAll_eq_nil : (cs : ErrList) → (cs.partsAll = [] ↔ cs.someSolid = false)
  | .nil => by simp [ErrList.partsAll, ErrList.someSolid]
  | .cons e r => by
      simp [ErrList.partsAll, ErrList.someSolid, Err.parts_eq_nil e, ErrList.partsAll_eq_nil r]
  | .skip r => ErrList.partsAll_eq_nil r
end

theorem Err.parts_ne_nil (e : Err) (h : e.solid = true) : e.parts ≠ [] := by
  simp [Err.parts_eq_nil, h]

theorem ErrList.partsAll_ne_nil : (cs : ErrList) → cs.someSolid = true → cs.partsAll ≠ []
  | cs, h => by simp [ErrList.partsAll_eq_nil, h]

theorem Err.parts_nil_of_not_solid : (e : Err) → e.solid = false → e.parts = []
  | e => (Err.parts_eq_nil e).mpr

theorem ErrList.partsAll_nil_of_not : (cs : ErrList) → cs.someSolid = false → cs.partsAll = []
  | cs => (ErrList.partsAll_eq_nil cs).mpr

def optParts : Option Err → List Err
  | none => []
  | some e => e.parts

theorem resolve_parts (xs : List Err) (h : ∀ c ∈ xs, c.plain = true) : optParts (resolve xs) = xs := by
  match xs with
  | [] => rfl
  | [x] => exact Err.parts_of_plain x (h x (by simp))
  | x :: y :: r => exact ErrList.partsAll_ofErrs_plain _ h

theorem join_parts (es : ErrList) : optParts (join es) = es.partsAll.reverse := by
  rw [join, resolve_parts _ (flatten_plain es), flatten_eq]

theorem parsePanic_parts (p : Err) :
    optParts (parsePanicErr (some p)) = Err.leaf idRecoveredPanic :: p.parts.reverse := by
  simp [parsePanicErr, join_parts, ErrList.partsAll, Err.parts]

theorem collectorResolve_parts (xs : List Err) (h : ∀ c ∈ xs, c.plain = true) : optParts (collectorResolve xs) = xs := by
  cases xs with
  | nil => rfl
  | cons x r => exact ErrList.partsAll_ofErrs_plain _ h

theorem collectorResolve_is (xs : List Err) (t : Nat) :
    isOpt (collectorResolve xs) t = xs.any (fun c => c.is t) := by
  cases xs <;> simp [collectorResolve, isOpt, Err.is]

theorem collectorResolve_eq_none (xs : List Err) : collectorResolve xs = none ↔ xs = [] := by
  cases xs <;> simp [collectorResolve]

theorem ErrList.partsAll_ofList (xs : List (Option Err)) :
    (ErrList.ofList xs).partsAll = xs.flatMap optParts := by
  induction xs with
  | nil => simp [ErrList.ofList, ErrList.partsAll]
  | cons x xs ih => cases x <;> simp [ErrList.ofList, ErrList.partsAll, ih, optParts]

theorem ErrList.partsAll_eq_nil_iff_toList (es : ErrList) (hs : ∀ e ∈ es.toList, e.solid = true) :
    es.partsAll = [] ↔ es.toList = [] := by
  match es with
  | .nil => simp [ErrList.partsAll, ErrList.toList]
  | .cons e r =>
    have := Err.parts_ne_nil e (hs e (by simp [ErrList.toList]))
    simp [ErrList.partsAll, ErrList.toList, this]
  | .skip r =>
    simpa [ErrList.partsAll, ErrList.toList] using
      ErrList.partsAll_eq_nil_iff_toList r (by simpa [ErrList.toList] using hs)

/-! ### `erc.Collector`
    `C12.collect`, `Orch.collect` and `FaultPipe.collected` all unfold to `flatten (ErrList.ofList adds)`, the stack after
    the Adds `adds`. What `Resolve` returns then, in terms of the constituents of the adds (`collector_parts`: what it
    contributes when it is itself added to a collector). -/

theorem flatten_ofList (adds : List (Option Err)) :
    flatten (ErrList.ofList adds) = (adds.flatMap optParts).reverse := by
  rw [flatten_eq, ErrList.partsAll_ofList]

theorem collector_is_parts (adds : List (Option Err)) (t : Nat) :
    isOpt (collectorResolve (flatten (ErrList.ofList adds))) t = (adds.flatMap optParts).any (fun c => c.is t) := by
  rw [collectorResolve_is, flatten_ofList, List.any_reverse]

theorem collector_eq_none (adds : List (Option Err)) :
    collectorResolve (flatten (ErrList.ofList adds)) = none ↔ ∀ o ∈ adds, optParts o = [] := by
  rw [collectorResolve_eq_none, flatten_ofList, List.reverse_eq_nil_iff, List.flatMap_eq_nil_iff]

theorem collector_parts (adds : List (Option Err)) :
    optParts (collectorResolve (flatten (ErrList.ofList adds))) = (adds.flatMap optParts).reverse := by
  rw [collectorResolve_parts _ (flatten_plain _), flatten_ofList]

end FunModel
