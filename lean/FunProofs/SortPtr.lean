import FunProofs.Dll
import FunProofs.SortPtrSeq

/-! Refinement of the pointer-level `dt/cmp.go` (`FunModel/Dll.lean`) to the sequence-level algorithms of
    `FunModel/SortSeq.lean` on every well-formed heap (`WF h g` of `FunProofs/Dll.lean`): specifications on element
    addresses, from which `FunProps/C17Ptr.lean` reads off its statements about values. Each loop lemma asks for
    "fuel > number of iterations needed"; each wrapper lemma shows that the fuel the model's wrapper passes is that.
    At the end the vocabulary of the heap statements of `C17Ptr` (`HOp`, `heapRun`, `seqRun`; `heapRun_spec`: the
    first simulates the second) and two facts about `WF` alone (`exists_list`, `usable`). -/

namespace FunProofs.SortPtr
open FunModel FunModel.Dll

/-- `k` is fixed before a call (`Keyed.self`) and kept by it, because the algorithms move elements and never write
    an item; so the comparisons the code makes through `(h.node x).item` are comparisons `ltOn lt k` -/
def Keyed (h : Heap) (g : Nat → List Nat) (k : Nat → Int) : Prop :=
  ∀ l x, x ∈ g l → (h.node x).item = k x

theorem Keyed.self (h : Heap) (g : Nat → List Nat) : Keyed h g (fun a => (h.node a).item) :=
  fun _ _ _ => rfl

theorem Keyed.sub {h h' : Heap} {g g' : Nat → List Nat} {k : Nat → Int} (hk : Keyed h g k) (hw : WF h g)
    (hf : Frame h h') (hs : ∀ l x, x ∈ g' l → ∃ l0, x ∈ g l0) : Keyed h' g' k := by
  intro l x hx
  obtain ⟨l0, hx0⟩ := hs l x hx
  rw [(hf.data x (hw.elem_lt hx0)).2]
  exact hk l0 x hx0

theorem Keyed.frame {h h' : Heap} {g : Nat → List Nat} {k : Nat → Int} (hk : Keyed h g k) (hw : WF h g)
    (hf : Frame h h') : Keyed h' g k :=
  hk.sub hw hf (fun l _ hx => ⟨l, hx⟩)

/-- `l.Extend(src)` -/
theorem Keyed.extend {h h' : Heap} {g : Nat → List Nat} {k : Nat → Int} (hk : Keyed h g k) (hw : WF h g)
    (hf : Frame h h') (l src : Nat) : Keyed h' (upd (upd g l (g l ++ g src)) src []) k := by
  refine hk.sub hw hf ?_
  intro l' x hx
  rcases mem_upd hx with hx | hx
  · cases hx
  · rcases mem_upd hx with hx | hx
    · rcases List.mem_append.1 hx with hx | hx <;> exact ⟨_, hx⟩
    · exact ⟨_, hx⟩

theorem Keyed.vals {h : Heap} {g : Nat → List Nat} {k : Nat → Int} (hk : Keyed h g k) (l : Nat) :
    vals h g l = (g l).map k := by
  unfold Dll.vals
  exact List.map_congr_left (fun _ hx => hk l _ hx)

/-- the key function of `C17Ptr`, taken in the heap before the call -/
def item (h : Heap) : Nat → Int := fun a => (h.node a).item

theorem vals_eq_map_item (h : Heap) (g : Nat → List Nat) (l : Nat) : vals h g l = (g l).map (item h) := rfl

theorem wf_congr {h : Heap} {g g' : Nat → List Nat} (hw : WF h g) (he : g = g') : WF h g' := he ▸ hw

/-- `out.Back().Append(list.PopFront())`, the loop body of `split` and of `merge` -/
theorem move {h : Heap} {g : Nat → List Nat} {k : Nat → Int} (hw : WF h g) (hk : Keyed h g k)
    {src dst r x : Nat} {xs : List Nat} (hne : src ≠ dst) (hg : g src = x :: xs)
    (hr : (h.hdr dst).root = some r) :
    ∃ h1 h2, h.popFront src = some (h1, x) ∧
      h1.elemAppend (lastOr r (g dst)) (some x) = some (h2, x) ∧
      WF h2 (upd (upd g src xs) dst (g dst ++ [x])) ∧ Frame h h2 ∧
      Keyed h2 (upd (upd g src xs) dst (g dst ++ [x])) k := by
  obtain ⟨h1, h2, e1, _, e2, hw2, hf⟩ := hw.move hne hg hr
  refine ⟨h1, h2, e1, e2, hw2, hf, hk.sub hw hf ?_⟩
  intro l y hy
  rcases mem_upd hy with hy | hy
  · rcases List.mem_append.1 hy with hy | hy
    · exact ⟨dst, hy⟩
    · rw [List.mem_singleton.1 hy]
      exact ⟨src, by simp [hg]⟩
  · rcases mem_upd hy with hy | hy
    · exact ⟨src, hg ▸ List.mem_cons_of_mem _ hy⟩
    · exact ⟨l, hy⟩

/-- `out := &List{}; out.lazySetup()`; the fresh list is `h.nl` -/
theorem newList {h : Heap} {g : Nat → List Nat} {k : Nat → Int} (hw : WF h g) (hk : Keyed h g k) :
    ∃ r, WF (h.allocList.1.lazySetup h.nl) g ∧ Frame h (h.allocList.1.lazySetup h.nl) ∧
      Keyed (h.allocList.1.lazySetup h.nl) g k ∧ ((h.allocList.1.lazySetup h.nl).hdr h.nl).root = some r ∧
      g h.nl = [] ∧ h.nl < (h.allocList.1.lazySetup h.nl).nl := by
  obtain ⟨hw2, hf2, r, hr⟩ := hw.allocList.lazySetup (l := h.nl) (Nat.lt_succ_self _)
  have hf := (Frame.allocList hw).trans hf2
  exact ⟨r, hw2, hf, hk.frame hw hf, hr, hw.ghost_unalloc (Nat.le_refl _), hf2.nl⟩

theorem splitLoop_spec {l out r : Nat} (hlo : l ≠ out) (back : List Nat) :
    ∀ (front : List Nat) (fuel : Nat) {h : Heap} {g : Nat → List Nat} {k : Nat → Int},
    WF h g → Keyed h g k → (h.hdr out).root = some r → g l = front ++ back → front.length < fuel →
    ∃ h' g', h.splitLoop l out (back.length : Int) fuel = some h' ∧ WF h' g' ∧ Frame h h' ∧ Keyed h' g' k ∧
      g' out = g out ++ front ∧ g' l = back ∧ ∀ l', l' ≠ l → l' ≠ out → g' l' = g l' := by
  intro front
  induction front with
  | nil =>
    intro fuel h g k hw hk hr hg hf
    cases fuel with
    | zero => cases hf
    | succ f =>
      have hcond : ¬ (h.hdr l).length > (back.length : Int) := by
        rw [(hw.lwf l).len, hg]
        exact Int.lt_irrefl _
      refine ⟨h, g, ?_, hw, Frame.refl h, hk, (List.append_nil _).symm, hg, fun _ _ _ => rfl⟩
      rw [Heap.splitLoop, if_neg hcond]
  | cons x fs ih =>
    intro fuel h g k hw hk hr hg hf
    cases fuel with
    | zero => cases hf
    | succ f =>
      have hcond : (h.hdr l).length > (back.length : Int) := by
        rw [(hw.lwf l).len, hg, List.length_append]
        exact Int.ofNat_lt.2 (Nat.lt_add_of_pos_left (Nat.succ_pos _))
      obtain ⟨h1, h2, e1, e2, hw2, hf2, hk2⟩ := move (xs := fs ++ back) hw hk hlo hg hr
      obtain ⟨h', g', e3, hw', hf', hk', ho, hl', hoth⟩ := ih f hw2 hk2 (hf2.root out r hr)
        (by rw [upd_other _ _ hlo, upd_same]) (Nat.lt_of_succ_lt_succ hf)
      refine ⟨h', g', ?_, hw', hf2.trans hf', hk', ?_, hl', ?_⟩
      · rw [Heap.splitLoop]
        simp [hcond, hw.back_eq hr, e1, e2, e3]
      · rw [ho, upd_same, List.append_assoc]
        rfl
      · intro l' h1' h2'
        rw [hoth l' h1' h2', upd_other _ _ h2', upd_other _ _ h1']

theorem split_spec {h : Heap} {g : Nat → List Nat} {k : Nat → Int} (hw : WF h g) (hk : Keyed h g k)
    {l : Nat} (hl : l < h.nl) :
    ∃ h' g', h.split l = some (h', h.nl) ∧ WF h' g' ∧ Frame h h' ∧ Keyed h' g' k ∧ h.nl < h'.nl ∧
      g' h.nl = (SortSeq.split (g l)).1 ∧ g' l = (SortSeq.split (g l)).2 ∧
      ∀ l', l' ≠ l → l' ≠ h.nl → g' l' = g l' := by
  obtain ⟨r, hw2, hf2, hk2, hr, hgo, hnl2⟩ := newList hw hk
  have hhalf : (h.hdr l).length / 2 = (((SortSeq.split (g l)).2.length : Nat) : Int) := by
    rw [(hw.lwf l).len, SortSeq.split_snd_length]
    omega
  obtain ⟨h', g', e1, hw', hf', hk', ho, hl', hoth⟩ :=
    splitLoop_spec (Nat.ne_of_lt hl) _ _ ((h.hdr l).length.toNat + 1) hw2 hk2 hr
      (SortSeq.split_append (g l)).symm (by rw [hw.len_toNat, SortSeq.split_fst_length]; exact Nat.lt_succ_of_le (Nat.sub_le _ _))
  refine ⟨h', g', ?_, hw', hf2.trans hf', hk', Nat.lt_of_lt_of_le hnl2 hf'.nl, ?_, hl', hoth⟩
  · simp only [Heap.split, Heap.allocList_snd]
    rw [hhalf, e1]
    rfl
  · rw [ho, hgo]
    rfl

/-- `M` is what the loop of `merge` moved to `out` when it stops (`a` or `b` empty); what is left the two `Extend`s
    of `merge` append (`merge_spec`) -/
theorem mergeLoop_spec {a b out r : Nat} (hab : a ≠ b) (hao : a ≠ out) (hbo : b ≠ out)
    (lt : Int → Int → Bool) :
    ∀ (fuel : Nat) {h : Heap} {g : Nat → List Nat} {k : Nat → Int},
    WF h g → Keyed h g k → (h.hdr out).root = some r → (g a).length + (g b).length < fuel →
    ∃ h' g' M, h.mergeLoop lt a b out fuel = some h' ∧ WF h' g' ∧ Frame h h' ∧ Keyed h' g' k ∧
      g' out = g out ++ M ∧
      M ++ (g' a ++ g' b) = SortSeq.merge (ltOn lt k) (g a) (g b) ∧
      ∀ l', l' ≠ a → l' ≠ b → l' ≠ out → g' l' = g l' := by
  intro fuel
  induction fuel with
  | zero =>
    intro h g k _ _ _ hf
    cases hf
  | succ f ih =>
    intro h g k hw hk hr hf
    cases ha : g a with
    | nil =>
      have hz : (h.hdr a).length = 0 := hw.len_eq_zero.2 ha
      refine ⟨h, g, [], ?_, hw, Frame.refl h, hk, by simp, ?_, fun _ _ _ _ => rfl⟩
      · rw [Heap.mergeLoop]
        simp [hz]
      · rw [ha]
        simp [SortSeq.merge_nil_left]
    | cons x xa =>
      cases hb : g b with
      | nil =>
        have hz : (h.hdr b).length = 0 := hw.len_eq_zero.2 hb
        refine ⟨h, g, [], ?_, hw, Frame.refl h, hk, by simp, ?_, fun _ _ _ _ => rfl⟩
        · rw [Heap.mergeLoop]
          simp [hz]
        · rw [ha, hb]
          simp [SortSeq.merge_nil_right]
      | cons y yb =>
        have hxm : x ∈ g a := by simp [ha]
        have hym : y ∈ g b := by simp [hb]
        have hca : (h.hdr a).length ≠ 0 := fun hz => List.cons_ne_nil _ _ (ha ▸ hw.len_eq_zero.1 hz)
        have hcb : (h.hdr b).length ≠ 0 := fun hz => List.cons_ne_nil _ _ (hb ▸ hw.len_eq_zero.1 hz)
        obtain ⟨ra, hra⟩ := hw.mem_root hxm
        obtain ⟨rb, hrb⟩ := hw.mem_root hym
        have hfa : h.front a = some x := by
          rw [hw.front_eq hra, ha]
          rfl
        have hfb : h.front b = some y := by
          rw [hw.front_eq hrb, hb]
          rfl
        have hstep : h.mergeLoop lt a b out (f + 1) =
            ((if lt (k x) (k y) then h.popFront a else h.popFront b).bind fun p =>
              (p.1.elemAppend (lastOr r (g out)) (some p.2)).bind fun q => q.1.mergeLoop lt a b out f) := by
          rw [Heap.mergeLoop]
          simp [hca, hcb, Heap.lazySetup_some hra, Heap.lazySetup_some hrb, hfa, hfb, hw.back_eq hr,
            hk a x hxm, hk b y hym]
          split <;> rfl
        have hfuel : (xa.length + 1) + (yb.length + 1) < f + 1 := by
          rw [ha, hb] at hf
          exact hf
        cases hxy : lt (k x) (k y) with
        | true =>
          obtain ⟨h1, h2, e1, e2, hw2, hf2, hk2⟩ := move hw hk hao ha hr
          have g2a : upd (upd g a xa) out (g out ++ [x]) a = xa := by
            rw [upd_other _ _ hao, upd_same]
          have g2b : upd (upd g a xa) out (g out ++ [x]) b = y :: yb := by
            rw [upd_other _ _ hbo, upd_other _ _ hab.symm, hb]
          obtain ⟨h', g', M, e3, hw', hf', hk', ho, hm, hoth⟩ := ih hw2 hk2 (hf2.root out r hr)
            (by rw [g2a, g2b]; exact Nat.lt_of_succ_lt_succ (Nat.succ_add _ _ ▸ hfuel))
          refine ⟨h', g', x :: M, ?_, hw', hf2.trans hf', hk', ?_, ?_, ?_⟩
          · rw [hstep, hxy]
            simp [e1, e2, e3]
          · rw [ho, upd_same]
            simp
          · rw [SortSeq.merge_cons_cons, ltOn_apply, hxy, if_pos rfl, List.cons_append, hm, g2a, g2b]
          · intro l' h1' h2' h3'
            rw [hoth l' h1' h2' h3', upd_other _ _ h3', upd_other _ _ h1']
        | false =>
          obtain ⟨h1, h2, e1, e2, hw2, hf2, hk2⟩ := move hw hk hbo hb hr
          have g2a : upd (upd g b yb) out (g out ++ [y]) a = x :: xa := by
            rw [upd_other _ _ hao, upd_other _ _ hab, ha]
          have g2b : upd (upd g b yb) out (g out ++ [y]) b = yb := by
            rw [upd_other _ _ hbo, upd_same]
          obtain ⟨h', g', M, e3, hw', hf', hk', ho, hm, hoth⟩ := ih hw2 hk2 (hf2.root out r hr)
            (by rw [g2a, g2b]; exact Nat.lt_of_succ_lt_succ hfuel)
          refine ⟨h', g', y :: M, ?_, hw', hf2.trans hf', hk', ?_, ?_, ?_⟩
          · rw [hstep, hxy]
            simp [e1, e2, e3]
          · rw [ho, upd_same]
            simp
          · rw [SortSeq.merge_cons_cons, ltOn_apply, hxy, if_neg Bool.false_ne_true, List.cons_append, hm, g2a, g2b]
          · intro l' h1' h2' h3'
            rw [hoth l' h1' h2' h3', upd_other _ _ h3', upd_other _ _ h2']

theorem merge_spec {h : Heap} {g : Nat → List Nat} {k : Nat → Int} (hw : WF h g) (hk : Keyed h g k)
    {a b : Nat} (ha : a < h.nl) (hb : b < h.nl) (hab : a ≠ b) (lt : Int → Int → Bool) :
    ∃ h' g', h.merge lt a b = some (h', h.nl) ∧ WF h' g' ∧ Frame h h' ∧ Keyed h' g' k ∧ h.nl < h'.nl ∧
      g' h.nl = SortSeq.merge (ltOn lt k) (g a) (g b) ∧ g' a = [] ∧ g' b = [] ∧
      ∀ l', l' ≠ a → l' ≠ b → l' ≠ h.nl → g' l' = g l' := by
  have hao : a ≠ h.nl := Nat.ne_of_lt ha
  have hbo : b ≠ h.nl := Nat.ne_of_lt hb
  obtain ⟨r, hw2, hf2, hk2, hr, hgo, hnl2⟩ := newList hw hk
  simp only [Heap.merge, Heap.allocList_snd]
  generalize h.allocList.1.lazySetup h.nl = h2 at *
  obtain ⟨h3, g3, M, e3, hw3, hf3, hk3, ho3, hm3, hoth3⟩ :=
    mergeLoop_spec hab hao hbo lt (((h2.hdr a).length + (h2.hdr b).length).toNat + 1) hw2 hk2 hr
      (by rw [(hw2.lwf a).len, (hw2.lwf b).len, ← Int.natCast_add, Int.toNat_natCast]; exact Nat.lt_succ_self _)
  have hout3 : h.nl < h3.nl := Nat.lt_of_lt_of_le hnl2 hf3.nl
  obtain ⟨h4, e4, hw4, hf4⟩ := hw3.extend hout3 (Nat.lt_trans ha hout3) hao.symm
  have hk4 := hk3.extend hw3 hf4 h.nl a
  generalize hg4 : upd (upd g3 h.nl (g3 h.nl ++ g3 a)) a [] = g4 at hw4 hk4
  have hout4 : h.nl < h4.nl := Nat.lt_of_lt_of_le hout3 hf4.nl
  obtain ⟨h5, e5, hw5, hf5⟩ := hw4.extend hout4 (Nat.lt_trans hb hout4) hbo.symm
  have hk5 := hk4.extend hw4 hf5 h.nl b
  have g4o : g4 h.nl = g3 h.nl ++ g3 a := by rw [← hg4, upd_other _ _ hao.symm, upd_same]
  have g4b : g4 b = g3 b := by rw [← hg4, upd_other _ _ hab.symm, upd_other _ _ hbo]
  refine ⟨h5, _, ?_, hw5, ((hf2.trans hf3).trans hf4).trans hf5, hk5, Nat.lt_of_lt_of_le hout4 hf5.nl,
    ?_, ?_, ?_, ?_⟩
  · rw [e3]
    simp [e4, e5]
  · rw [upd_other _ _ hbo.symm, upd_same, g4o, g4b, ho3, hgo, ← hm3]
    simp
  · rw [upd_other _ _ hab, upd_other _ _ hao, ← hg4, upd_same]
  · rw [upd_same]
  · intro l' h1' h2' h3'
    rw [upd_other _ _ h2', upd_other _ _ h3', ← hg4, upd_other _ _ h1', upd_other _ _ h3',
      hoth3 l' h1' h2' h3']

/-- `n` an allocation pointer; the result `y` of a call is its argument `z` or was allocated from `n` on -/
theorem ne_result {n x y z : Nat} (hx : x < n) (hxz : x ≠ z) (hy : y = z ∨ n ≤ y) : x ≠ y := by
  rcases hy with rfl | hy
  · exact hxz
  · exact Nat.ne_of_lt (Nat.lt_of_lt_of_le hx hy)

theorem mergeSort_spec (lt : Int → Int → Bool) :
    ∀ (fuel : Nat) {h : Heap} {g : Nat → List Nat} {k : Nat → Int} {head : Nat},
    WF h g → Keyed h g k → head < h.nl →
    ∃ h' g' res, h.mergeSort lt head fuel = some (h', res) ∧ WF h' g' ∧ Frame h h' ∧ Keyed h' g' k ∧
      res < h'.nl ∧ (res = head ∨ h.nl ≤ res) ∧
      g' res = SortSeq.mergeSort (ltOn lt k) (g head) fuel ∧ (res ≠ head → g' head = []) ∧
      ∀ l', l' ≠ head → l' ≠ res → g' l' = g l' := by
  intro fuel
  induction fuel with
  | zero =>
    intro h g k head hw hk hh
    exact ⟨h, g, head, by rw [Heap.mergeSort], hw, Frame.refl h, hk, hh, Or.inl rfl,
      by rw [SortSeq.mergeSort_zero], fun hx => absurd rfl hx, fun _ _ _ => rfl⟩
  | succ f ih =>
    intro h g k head hw hk hh
    by_cases hlen : (g head).length < 2
    · have hcond : (h.hdr head).length < 2 := by
        rw [(hw.lwf head).len]
        exact Int.ofNat_lt.2 hlen
      refine ⟨h, g, head, ?_, hw, Frame.refl h, hk, hh, Or.inl rfl,
        by rw [SortSeq.mergeSort_short _ hlen], fun hx => absurd rfl hx, fun _ _ _ => rfl⟩
      rw [Heap.mergeSort]
      simp [hcond]
    · have hcond : ¬ (h.hdr head).length < 2 := by
        rw [(hw.lwf head).len]
        exact fun hc => hlen (Int.ofNat_lt.1 hc)
      -- tail := split(head)
      obtain ⟨h1, g1, e1, hw1, hf1, hk1, n1, g1t, g1h, g1o⟩ := split_spec hw hk hh
      have hth : h.nl ≠ head := (Nat.ne_of_lt hh).symm
      -- head = mergeSort(head)
      obtain ⟨h2, g2, res1, e2, hw2, hf2, hk2, hr1, hd1, g2r, g2h, g2o⟩ :=
        ih (head := head) hw1 hk1 (Nat.lt_trans hh n1)
      have n2 : h.nl < h2.nl := Nat.lt_of_lt_of_le n1 hf2.nl
      have htr1 : h.nl ≠ res1 := ne_result n1 hth hd1
      have g2t : g2 h.nl = (SortSeq.split (g head)).1 := by rw [g2o _ hth htr1, g1t]
      -- tail = mergeSort(tail)
      obtain ⟨h3, g3, res2, e3, hw3, hf3, hk3, hr2, hd2, g3r, g3t, g3o⟩ := ih (head := h.nl) hw2 hk2 n2
      have n3 : h.nl < h3.nl := Nat.lt_of_lt_of_le n2 hf3.nl
      have hr12 : res1 ≠ res2 := ne_result hr1 htr1.symm hd2
      have hhr2 : head ≠ res2 := ne_result (Nat.lt_trans hh n2) hth.symm hd2
      have g3r1 : g3 res1 = SortSeq.mergeSort (ltOn lt k) (SortSeq.split (g head)).2 f := by
        rw [g3o _ htr1.symm hr12, g2r, g1h]
      rw [g2t] at g3r
      -- merge(lt, head, tail)
      obtain ⟨h4, g4, e4, hw4, hf4, hk4, hnl4, g4o, g4a, g4b, g4oth⟩ :=
        merge_spec hw3 hk3 (a := res1) (b := res2) (Nat.lt_of_lt_of_le hr1 hf3.nl) hr2 hr12 lt
      have hho : head ≠ h3.nl := Nat.ne_of_lt (Nat.lt_trans hh n3)
      refine ⟨h4, g4, h3.nl, ?_, hw4, ((hf1.trans hf2).trans hf3).trans hf4, hk4, hnl4,
        Or.inr (Nat.le_of_lt n3), ?_, ?_, ?_⟩
      · rw [Heap.mergeSort]
        simp [hcond, e1, e2, e3, e4]
      · rw [g4o, g3r1, g3r, SortSeq.mergeSort_succ _ (Nat.le_of_not_lt hlen)]
      · intro _
        by_cases hx : head = res1
        · rw [hx]
          exact g4a
        · rw [g4oth _ hx hhr2 hho, g3o _ hth.symm hhr2]
          exact g2h (fun hy => hx hy.symm)
      · -- the lists the call allocated end empty, as they were
        intro l' hl1 hl2
        by_cases hx1 : l' = res1
        · rw [hx1, g4a]
          exact (hw.ghost_unalloc (Nat.le_trans (Nat.le_of_lt n1) (hd1.resolve_left (hx1 ▸ hl1)))).symm
        · by_cases hx2 : l' = res2
          · rw [hx2, g4b]
            rcases hd2 with hd2 | hd2
            · rw [hd2]
              exact (hw.ghost_unalloc (Nat.le_refl _)).symm
            · exact (hw.ghost_unalloc (Nat.le_trans (Nat.le_of_lt n2) hd2)).symm
          · rw [g4oth _ hx1 hx2 hl2]
            by_cases hx3 : l' = h.nl
            · rw [hx3, g3t (fun hy => hx2 (hx3.trans hy.symm))]
              exact (hw.ghost_unalloc (Nat.le_refl _)).symm
            · rw [g3o _ hx3 hx2, g2o _ hl1 hx1, g1o _ hl1 hx3]

theorem sortMerge_spec {h : Heap} {g : Nat → List Nat} {k : Nat → Int} (hw : WF h g) (hk : Keyed h g k)
    {l : Nat} (hl : l < h.nl) (lt : Int → Int → Bool) :
    ∃ h' g', h.sortMerge lt l = some h' ∧ WF h' g' ∧ Frame h h' ∧ Keyed h' g' k ∧
      g' l = SortSeq.sortMerge (ltOn lt k) (g l) ∧ ∀ l', l' ≠ l → g' l' = g l' := by
  obtain ⟨h1, g1, res, e1, hw1, hf1, hk1, hr, hd, g1r, g1l, g1o⟩ :=
    mergeSort_spec lt ((h.hdr l).length.toNat + 1) hw hk hl
  rw [hw.len_toNat] at e1 g1r
  by_cases hres : res = l
  · subst hres
    refine ⟨h1, g1, ?_, hw1, hf1, hk1, g1r, fun l' hl' => g1o l' hl' hl'⟩
    simp [Heap.sortMerge, hw.len_toNat, e1]
  · have hge : h.nl ≤ res := hd.resolve_left hres
    have hl1 : l < h1.nl := Nat.lt_of_lt_of_le hl hf1.nl
    obtain ⟨h2, e2, hw2, hf2⟩ := hw1.extend hl1 hr (fun hx => hres hx.symm)
    refine ⟨h2, _, ?_, hw2, hf1.trans hf2, hk1.extend hw1 hf2 l res, ?_, ?_⟩
    · simp [Heap.sortMerge, hw.len_toNat, e1, hres, e2]
    · rw [upd_other _ _ (fun hx => hres hx.symm), upd_same, g1l hres, g1r]
      rfl
    · intro l' hl'
      by_cases hx : l' = res
      · subst hx
        rw [upd_same]
        exact (hw.ghost_unalloc hge).symm
      · rw [upd_other _ _ hx, upd_other _ _ hl', g1o l' hl' hx]

/-- `for l.Len() > 0 { elems = append(elems, l.PopFront()) }` of `SortQuick`; `acc` is `elems` reversed -/
theorem popAllLoop_spec {l : Nat} : ∀ (fuel : Nat) {h : Heap} {g : Nat → List Nat} {acc : List Nat},
    WF h g → (g l).length < fuel →
    ∃ h', h.popAllLoop l fuel acc = some (h', acc.reverse ++ g l) ∧ WF h' (upd g l []) ∧ Frame h h' := by
  intro fuel
  induction fuel with
  | zero =>
    intro h g acc _ hf
    cases hf
  | succ f ih =>
    intro h g acc hw hf
    cases hg : g l with
    | nil =>
      have hz : (h.hdr l).length = 0 := hw.len_eq_zero.2 hg
      refine ⟨h, ?_, ?_, Frame.refl h⟩
      · rw [Heap.popAllLoop]
        simp [hz]
      · rw [upd_eq_self hg]
        exact hw
    | cons x xs =>
      have hpos : (h.hdr l).length > 0 := by
        rw [(hw.lwf l).len, hg]
        simp
      obtain ⟨h1, e1, hw1, _, _, _, hf1⟩ := hw.popFront_cons hg
      obtain ⟨h2, e2, hw2, hf2⟩ := ih (acc := x :: acc) hw1 (by rw [upd_same]; rw [hg] at hf; simpa using hf)
      refine ⟨h2, ?_, ?_, hf1.trans hf2⟩
      · rw [Heap.popAllLoop]
        simp [hpos, e1, e2]
      · rw [upd_upd] at hw2
        exact hw2

theorem insertStable_eq {h : Heap} {lt : Int → Int → Bool} {k : Nat → Int} (e : Nat) (xs : List Nat)
    (he : (h.node e).item = k e) (hx : ∀ x, x ∈ xs → (h.node x).item = k x) :
    h.insertStable lt e xs = SortSeq.insertStable (ltOn lt k) e xs := by
  induction xs with
  | nil => rfl
  | cons x xs ih =>
    have hx0 := hx x (by simp)
    have ih' := ih (fun y hy => hx y (by simp [hy]))
    by_cases hc : lt (k x) (k e) = true <;>
      simp [Heap.insertStable, SortSeq.insertStable, hx0, he, hc, ih']

theorem stableSort_eq {h : Heap} {lt : Int → Int → Bool} {k : Nat → Int} (xs : List Nat)
    (hx : ∀ x, x ∈ xs → (h.node x).item = k x) :
    h.stableSort lt xs = SortSeq.sortQuick (ltOn lt k) xs := by
  induction xs with
  | nil => rfl
  | cons x xs ih =>
    have ih' := ih (fun y hy => hx y (by simp [hy]))
    show h.insertStable lt x (h.stableSort lt xs) = SortSeq.insertStable (ltOn lt k) x (SortSeq.sortQuick (ltOn lt k) xs)
    rw [ih']
    apply insertStable_eq _ _ (hx x (by simp))
    intro y hy
    exact hx y (by simp [(SortSeq.sortQuick_perm (ltOn lt k) xs).mem_iff.1 hy])

/-- `for idx := range elems { l.Back().Append(elems[idx]) }` of `SortQuick`; the hypotheses on `es` are what
    `popAllLoop` leaves behind, in any order -/
theorem appendAll_spec {l : Nat} : ∀ (es : List Nat) {h : Heap} {g : Nat → List Nat},
    WF h g → l < h.nl → es.Nodup →
    (∀ e, e ∈ es → e < h.nn ∧ (h.node e).ok = true ∧ ∀ l', e ∉ g l') →
    ∃ h', h.appendAll l es = some h' ∧ WF h' (upd g l (g l ++ es)) ∧ Frame h h' := by
  intro es
  induction es with
  | nil =>
    intro h g hw _ _ _
    refine ⟨h, rfl, ?_, Frame.refl h⟩
    simpa using hw
  | cons e es ih =>
    intro h g hw hl hnd hes
    obtain ⟨hw0, hf0, r, hr⟩ := hw.lazySetup hl
    simp only [Heap.appendAll]
    have hes0 : ∀ e', e' ∈ e :: es → e' < (h.lazySetup l).nn ∧ ((h.lazySetup l).node e').ok = true := by
      intro e' he'
      obtain ⟨h1, h2, _⟩ := hes e' he'
      exact ⟨Nat.lt_of_lt_of_le h1 hf0.nn, by rw [(hf0.data e' h1).1]; exact h2⟩
    generalize h.lazySetup l = h0 at *
    have hdet : (h0.node e).list = none := by
      apply hw0.detached
      · intro l' hr'
        have := ((hw0.lwf l').root e hr').2.1
        rw [(hes0 e (by simp)).2] at this
        cases this
      · exact (hes e (by simp)).2.2
    obtain ⟨h1, e1, hw1, hf1⟩ := hw0.appendBack hr (hes0 e (by simp)).1 (hes0 e (by simp)).2 hdet
    have hnd' := List.nodup_cons.1 hnd
    obtain ⟨h2, e2, hw2, hf2⟩ := ih hw1 (Nat.lt_of_lt_of_le hl (hf0.trans hf1).nl) hnd'.2 (by
      intro e' he'
      have hm : e' ∈ e :: es := List.mem_cons_of_mem _ he'
      obtain ⟨h1', h2'⟩ := hes0 e' hm
      refine ⟨Nat.lt_of_lt_of_le h1' hf1.nn, by rw [(hf1.data e' h1').1]; exact h2', ?_⟩
      intro l' hx
      rcases mem_upd hx with hx | hx
      · rcases List.mem_append.1 hx with hx | hx
        · exact (hes e' hm).2.2 _ hx
        · exact hnd'.1 (List.mem_singleton.1 hx ▸ he')
      · exact (hes e' hm).2.2 _ hx)
    refine ⟨h2, ?_, ?_, (hf0.trans hf1).trans hf2⟩
    · simp [hw0.back_eq hr, e1, e2]
    · rw [upd_upd, upd_same] at hw2
      simpa using hw2

theorem sortQuick_spec {h : Heap} {g : Nat → List Nat} {k : Nat → Int} (hw : WF h g) (hk : Keyed h g k)
    {l : Nat} (hl : l < h.nl) (lt : Int → Int → Bool) :
    ∃ h' g', h.sortQuick lt l = some h' ∧ WF h' g' ∧ Frame h h' ∧ Keyed h' g' k ∧
      g' l = SortSeq.sortQuick (ltOn lt k) (g l) ∧ ∀ l', l' ≠ l → g' l' = g l' := by
  obtain ⟨h1, e1, hw1, hf1⟩ := popAllLoop_spec (l := l) ((h.hdr l).length.toNat + 1) (acc := []) hw
    (by rw [hw.len_toNat]; exact Nat.lt_succ_self _)
  have hss := stableSort_eq (lt := lt) (g l) (hk.frame hw hf1 l)
  have hperm := SortSeq.sortQuick_perm (ltOn lt k) (g l)
  obtain ⟨h2, e2, hw2, hf2⟩ := appendAll_spec (l := l) (SortSeq.sortQuick (ltOn lt k) (g l)) hw1
    (Nat.lt_of_lt_of_le hl hf1.nl) (hperm.nodup_iff.2 (hw.lwf l).nodup) (by
      intro e he
      have hm : e ∈ g l := hperm.mem_iff.1 he
      refine ⟨Nat.lt_of_lt_of_le (hw.elem_lt hm) hf1.nn, hf1.elem_ok hw hm, ?_⟩
      intro l' hx
      by_cases hl' : l' = l
      · subst hl'
        rw [upd_same] at hx
        cases hx
      · rw [upd_other _ _ hl'] at hx
        exact hl' (hw.disjoint hx hm))
  rw [upd_upd, upd_same, List.nil_append] at hw2
  refine ⟨h2, _, ?_, hw2, hf1.trans hf2, hk.sub hw (hf1.trans hf2) ?_, upd_same _ _ _,
    fun l' hl' => upd_other _ _ hl'⟩
  · simp only [Heap.sortQuick]
    rw [e1]
    simp [hss, e2]
  · intro l' x hx
    rcases mem_upd hx with hx | hx
    · exact ⟨l, hperm.mem_iff.1 hx⟩
    · exact ⟨l', hx⟩

/-- the walk of `IsSorted` stands at the element after `p` (the sentinel `r` when `rest` is empty, which ends the
    loop) and answers `isSorted` of `p :: rest` -/
theorem isSortedLoop_spec {h : Heap} {g : Nat → List Nat} (hw : WF h g) {l r : Nat}
    (hr : (h.hdr l).root = some r) (lt : Int → Int → Bool) :
    ∀ (rest pre : List Nat) (p fuel : Nat), g l = pre ++ p :: rest → rest.length < fuel →
    h.isSortedLoop lt (some (rest.headD r)) fuel =
      some (SortSeq.isSorted (ltOn lt (fun a => (h.node a).item)) (p :: rest)) := by
  intro rest
  induction rest with
  | nil =>
    intro pre p fuel _ hf
    cases fuel with
    | zero => cases hf
    | succ f =>
      have := hw.root_ok hr
      simp [Heap.isSortedLoop, this, SortSeq.isSorted]
  | cons e rest ih =>
    intro pre p fuel hg hf
    cases fuel with
    | zero => cases hf
    | succ f =>
      have hem : e ∈ g l := by
        rw [hg]
        simp
      have hok := ((hw.lwf l).elem e hem).2.1
      have hch := hw.chain hr
      have hg' : g l = (pre ++ [p]) ++ e :: rest := by
        rw [hg]
        simp
      rw [hg'] at hch
      have hprev : (h.node e).prev = some p := by rw [hch.prev_mid, lastOr_snoc]
      have hnext : (h.node e).next = some (rest.headD r) := hch.next_mid
      have ih' := ih (pre ++ [p]) e f hg' (by simpa using hf)
      cases hlt : lt (h.node e).item (h.node p).item with
      | true => simp [Heap.isSortedLoop, hok, hprev, hlt, SortSeq.isSorted]
      | false =>
        simp only [List.headD_cons, Heap.isSortedLoop, hok, hprev, hnext, if_true]
        simp [hlt, SortSeq.isSorted]
        simpa using ih'

theorem isSorted_spec {h : Heap} {g : Nat → List Nat} (hw : WF h g) (l : Nat) (lt : Int → Int → Bool) :
    h.isSorted lt l = some (SortSeq.isSorted (ltOn lt (fun a => (h.node a).item)) (g l)) := by
  have hlen := (hw.lwf l).len
  match hg : g l with
  | [] =>
    rw [hg] at hlen
    simp [Heap.isSorted, hlen, SortSeq.isSorted]
  | [x] =>
    rw [hg] at hlen
    simp [Heap.isSorted, hlen, SortSeq.isSorted]
  | x :: y :: rest =>
    have hcond : ¬ (h.hdr l).length ≤ 1 := by
      rw [hlen, hg]
      simp
      omega
    obtain ⟨r, hr⟩ := hw.mem_root (l := l) (x := x) (by simp [hg])
    have hch := hw.chain hr
    have hfirst : (h.node r).next = some x := by
      rw [hch.next_first, hg]
      rfl
    have hg' : g l = [] ++ x :: (y :: rest) := by simp [hg]
    rw [hg'] at hch
    have hsecond : (h.node x).next = some y := by
      rw [hch.next_mid]
      rfl
    have := isSortedLoop_spec hw hr lt (y :: rest) [] x ((h.hdr l).length.toNat + 1) hg'
      (by rw [hw.len_toNat, hg]; simp)
    simp only [List.headD_cons] at this
    simp [Heap.isSorted, hcond, Heap.root, hr, hfirst, hsecond, this]

/-- the scan of `Heap.Push` from the back is `heapInsert.go` on what is still to be looked at (`front`, reversed); the
    new address `n` and the old ones are compared through their items in the heap `h'` the call leaves, where `n`
    holds `t` and the old elements what they held -/
theorem heapPushLoop_spec {h : Heap} {g : Nat → List Nat} {l r : Nat} (hw : WF h g) (hl : l < h.nl)
    (hr : (h.hdr l).root = some r) (lt : Int → Int → Bool) (t : Int) :
    ∀ (fuel : Nat) (front back_ : List Nat), g l = front ++ back_ → front.length < fuel →
    ∃ h' n, h.heapPushLoop lt l t (some (lastOr r front)) fuel = some h' ∧
      WF h' (upd g l ((SortSeq.heapInsert.go (ltOn lt (item h')) n front.reverse).reverse ++ back_)) ∧
      Frame h h' ∧ h.nn ≤ n ∧ (h'.node n).item = t := by
  intro fuel
  induction fuel with
  | zero =>
    intro front back_ _ hf
    cases hf
  | succ f ih =>
    intro front back_ hg hf
    rcases List.eq_nil_or_concat front with rfl | ⟨fr, e, rfl⟩
    · have hrok := hw.root_ok hr
      obtain ⟨h', n, e1, hn, hw', hi, hf'⟩ := hw.pushFront hl t
      refine ⟨h', n, ?_, by rw [hg] at hw'; exact hw', hf', hn, hi⟩
      rw [Heap.heapPushLoop]
      simp [hrok, e1]
    · rw [List.concat_eq_append] at hg hf ⊢
      have hg' : g l = fr ++ e :: back_ := by
        rw [hg]
        simp
      have hem : e ∈ g l := by
        rw [hg']
        simp
      obtain ⟨_, hok, hlist⟩ := (hw.lwf l).elem e hem
      have hch := hw.chain hr
      rw [hg'] at hch
      simp only [lastOr_snoc, List.reverse_append, List.reverse_singleton, List.singleton_append,
        SortSeq.heapInsert.go]
      cases hlt : lt t (h.node e).item with
      | true =>
        obtain ⟨h', n, e1, hw', hf', hn, hi⟩ := ih fr (e :: back_) hg'
          (by rw [List.length_append] at hf; exact Nat.lt_of_succ_lt_succ hf)
        -- in `h'` the comparison of `n` with `e` is the one the scan made
        refine ⟨h', n, ?_, by simpa [item, hi, (hf'.data e (hw.elem_lt hem)).2, hlt] using hw', hf', hn, hi⟩
        rw [Heap.heapPushLoop]
        simp [hok, hlt, hch.prev_mid, e1]
      | false =>
        obtain ⟨h', e1, hw', hf', hi⟩ := hw.appendNew hlist t
        have hnr : (h.hdr l).root ≠ some e := fun hx => hw.root_not_mem hx hem
        rw [if_neg hnr, hg', insertAfter_split (not_mem_of_nodup_split (hg' ▸ (hw.lwf l).nodup))] at hw'
        refine ⟨h', h.nn, ?_, by simpa [item, hi, (hf'.data e (hw.elem_lt hem)).2, hlt] using hw', hf',
          Nat.le_refl _, hi⟩
        rw [Heap.heapPushLoop]
        simp [hok, hlt, Heap.makeElem, e1]

/-- `Heap.Push(t)`, on the elements: `heapInsert` of the new address, compared through the items of the heap the
    call leaves; on an empty list the push is `PushBack` -/
theorem heapPush_spec {h : Heap} {g : Nat → List Nat} {l : Nat} (hw : WF h g) (hl : l < h.nl)
    (lt : Int → Int → Bool) (t : Int) :
    ∃ h' n, h.heapPush lt l t = some h' ∧
      WF h' (upd g l (SortSeq.heapInsert (ltOn lt (item h')) n (g l))) ∧ Frame h h' ∧ h.nn ≤ n ∧
      (h'.node n).item = t := by
  obtain ⟨hw0, hf0, r, hr⟩ := hw.lazySetup hl
  have hl0 : l < (h.lazySetup l).nl := Nat.lt_of_lt_of_le hl hf0.nl
  simp only [Heap.heapPush]
  generalize h.lazySetup l = h0 at *
  by_cases hz : (h0.hdr l).length = 0
  · have hg := hw0.len_eq_zero.1 hz
    obtain ⟨h', n, e1, hn, hw', hi, hf'⟩ := hw0.pushBack hl0 t
    refine ⟨h', n, by simp [hz, e1], ?_, hf0.trans hf', Nat.le_trans hf0.nn hn, hi⟩
    rw [hg] at hw' ⊢
    exact hw'
  · obtain ⟨h', n, e1, hw', hf', hn, hi⟩ :=
      heapPushLoop_spec hw0 hl0 hr lt t ((h0.hdr l).length.toNat + 1) (g l) [] (by simp)
        (by rw [hw0.len_toNat]; exact Nat.lt_succ_self _)
    exact ⟨h', n, by simp [hz, hw0.back_eq hr, e1], by simpa [SortSeq.heapInsert_eq] using hw', hf0.trans hf',
      Nat.le_trans hf0.nn hn, hi⟩

theorem vals_heapInsert {h h' : Heap} {g : Nat → List Nat} (hw : WF h g) (hf : Frame h h')
    (lt : Int → Int → Bool) (l n : Nat) :
    vals h' (upd g l (SortSeq.heapInsert (ltOn lt (item h')) n (g l))) l =
      SortSeq.heapInsert lt (h'.node n).item (vals h g l) := by
  rw [vals_eq_map_item, upd_same, map_heapInsert]
  exact congrArg _ (hf.map_item (fun x hx => hw.elem_lt hx))

/-- `Heap.Pop` (`PopFront` of the backing list), non-empty case -/
theorem heapPop_cons {h : Heap} {g : Nat → List Nat} (hw : WF h g) {l x : Nat} {xs : List Nat}
    (hg : g l = x :: xs) :
    ∃ h', h.popFront l = some (h', x) ∧ WF h' (upd g l xs) ∧ Frame h h' ∧
      (h'.node x).ok = true ∧ (h'.node x).item = (h.node x).item ∧
      vals h g l = (h.node x).item :: vals h' (upd g l xs) l := by
  obtain ⟨h', e1, hw', _, hok, hi, hf'⟩ := hw.popFront_cons hg
  refine ⟨h', e1, hw', hf', hok, hi, ?_⟩
  simp only [vals, upd_same, hg, List.map_cons]
  rw [hf'.map_item (fun y hy => hw.elem_lt (l := l) (by simp [hg, hy]))]

/-- a call on a `dt.Heap` -/
inductive HOp where
  | push (t : Int)
  | pop
  deriving Repr, DecidableEq

/-- pointer level: `Heap.Push t` = `heapPush`, `Heap.Pop()` = `PopFront` then `(e.Value(), e.Ok())`;
    returns the final heap and what the pops returned -/
def heapRun (lt : Int → Int → Bool) (l : Nat) : List HOp → Heap → Option (Heap × List (Int × Bool))
  | [], h => some (h, [])
  | .push t :: ops, h => (h.heapPush lt l t).bind (heapRun lt l ops)
  | .pop :: ops, h =>
    (h.popFront l).bind fun p =>
      (heapRun lt l ops p.1).map fun q => (q.1, ((p.1.node p.2).item, (p.1.node p.2).ok) :: q.2)

/-- sequence level: the heap is the list of its values; `Push` = `heapInsert`, `Pop` takes the head
    (zero value and `false` when empty) -/
def seqRun (lt : Int → Int → Bool) : List HOp → List Int → List Int × List (Int × Bool)
  | [], xs => (xs, [])
  | .push t :: ops, xs => seqRun lt ops (SortSeq.heapInsert lt t xs)
  | .pop :: ops, [] => ((seqRun lt ops []).1, (0, false) :: (seqRun lt ops []).2)
  | .pop :: ops, x :: xs => ((seqRun lt ops xs).1, (x, true) :: (seqRun lt ops xs).2)

theorem heapRun_spec {h : Heap} {g : Nat → List Nat} {l : Nat} (hw : WF h g) (hl : l < h.nl)
    (lt : Int → Int → Bool) (ops : List HOp) :
    ∃ h' g', heapRun lt l ops h = some (h', (seqRun lt ops (vals h g l)).2) ∧ WF h' g' ∧ Frame h h' ∧
      vals h' g' l = (seqRun lt ops (vals h g l)).1 ∧ ∀ l', l' ≠ l → g' l' = g l' := by
  induction ops generalizing h g with
  | nil => exact ⟨h, g, rfl, hw, Frame.refl h, rfl, fun _ _ => rfl⟩
  | cons op ops ih =>
    cases op with
    | push t =>
      obtain ⟨h1, n, e1, hw1, hf1, _, hi⟩ := heapPush_spec hw hl lt t
      have hv := hi ▸ vals_heapInsert hw hf1 lt l n
      obtain ⟨h2, g2, e2, hw2, hf2, hv2, hoth2⟩ := ih hw1 (Nat.lt_of_lt_of_le hl hf1.nl)
      refine ⟨h2, g2, ?_, hw2, hf1.trans hf2, ?_, fun l' hl' => (hoth2 l' hl').trans (upd_other _ _ hl')⟩
      · simp only [heapRun, seqRun, e1, Option.bind_some]
        rw [e2, hv]
      · simp only [seqRun]
        rw [hv2, hv]
    | pop =>
      cases hg : g l with
      | nil =>
        obtain ⟨h1, z, e1, _, hw1, _, _, hz, hf1⟩ := hw.pop_empty hl hg
        obtain ⟨h2, g2, e2, hw2, hf2, hv2, hoth2⟩ := ih hw1 (Nat.lt_of_lt_of_le hl hf1.nl)
        have hv : vals h g l = [] := by simp [vals, hg]
        have hv1 : vals h1 g l = [] := by simp [vals, hg]
        rw [hv1] at e2 hv2
        refine ⟨h2, g2, ?_, hw2, hf1.trans hf2, ?_, hoth2⟩
        · simp [heapRun, seqRun, hv, e1, e2, hz]
        · simp [seqRun, hv, hv2]
      | cons x xs =>
        obtain ⟨h1, e1, hw1, hf1, hok, hit, hv⟩ := heapPop_cons hw hg
        obtain ⟨h2, g2, e2, hw2, hf2, hv2, hoth2⟩ := ih hw1 (Nat.lt_of_lt_of_le hl hf1.nl)
        refine ⟨h2, g2, ?_, hw2, hf1.trans hf2, ?_,
          fun l' hl' => (hoth2 l' hl').trans (upd_other _ _ hl')⟩
        · simp [heapRun, seqRun, hv, e1, e2, hok, hit]
        · simp [seqRun, hv, hv2]

theorem seqRun_pushes (lt : Int → Int → Bool) (ts : List Int) (ops : List HOp) (xs : List Int) :
    seqRun lt (ts.map HOp.push ++ ops) xs =
      seqRun lt ops (ts.foldl (fun acc t => SortSeq.heapInsert lt t acc) xs) := by
  induction ts generalizing xs with
  | nil => rfl
  | cons t ts ih => simp only [List.map_cons, List.cons_append, seqRun, List.foldl_cons, ih]

theorem seqRun_pops (lt : Int → Int → Bool) (ops : List HOp) (xs : List Int) :
    seqRun lt (List.replicate xs.length HOp.pop ++ ops) xs =
      ((seqRun lt ops []).1, xs.map (fun v => (v, true)) ++ (seqRun lt ops []).2) := by
  induction xs with
  | nil => rfl
  | cons x xs ih =>
    simp only [List.length_cons, List.replicate_succ, List.cons_append, seqRun, ih, List.map_cons]

theorem seqRun_push_pop (lt : Int → Int → Bool) (ts : List Int) :
    seqRun lt (ts.map HOp.push ++ (List.replicate ts.length HOp.pop ++ [HOp.pop])) [] =
      ([], (SortSeq.heapOf lt ts).map (fun v => (v, true)) ++ [(0, false)]) := by
  rw [seqRun_pushes]
  have hlen : ts.length = (SortSeq.heapOf lt ts).length := by
    have := (SortSeq.foldl_heapInsert_perm lt ts []).length_eq
    simpa [SortSeq.heapOf] using this.symm
  rw [hlen]
  exact seqRun_pops lt [HOp.pop] (SortSeq.heapOf lt ts)

theorem exists_list (vs : List Int) : ∃ h g, WF h g ∧ 0 < h.nl ∧ vals h g 0 = vs := by
  induction vs with
  | nil =>
    refine ⟨({} : Heap).allocList.1, fun _ => [], WF.empty.allocList, by simp, rfl⟩
  | cons v vs ih =>
    obtain ⟨h, g, hw, hl, hv⟩ := ih
    obtain ⟨h', n, _, _, hw', hi, hf⟩ := hw.pushFront hl v
    refine ⟨h', _, hw', Nat.lt_of_lt_of_le hl hf.nl, ?_⟩
    simp only [vals, upd_same, List.map_cons, hi]
    rw [hf.map_item (fun x hx => hw.elem_lt hx)]
    exact congrArg _ hv

theorem others_vals {h h' : Heap} {g g' : Nat → List Nat} (hw : WF h g) (hf : Frame h h') {l : Nat}
    (ho : ∀ l', l' ≠ l → g' l' = g l') :
    ∀ l', l' ≠ l → g' l' = g l' ∧ vals h' g' l' = vals h g l' :=
  fun l' hl' => ⟨ho l' hl', hf.vals hw (ho l' hl')⟩

/-- C17's "the list remains fully usable"; the walks are the traversals every iterator of `dt.List` makes -/
theorem usable {h : Heap} {g : Nat → List Nat} (hw : WF h g) {l : Nat} (hl : l < h.nl) :
    (h.hdr l).length = (g l).length ∧ (g l).Nodup ∧
      (∀ x, x ∈ g l → (h.node x).ok = true ∧ (h.node x).list = some l) ∧
      ∀ fuel, (g l).length < fuel →
        (h.lazySetup l).walkFwd l fuel = (g l, "end") ∧
        (h.lazySetup l).walkBwd l fuel = ((g l).reverse, "end") := by
  obtain ⟨hw0, _, r, hr⟩ := hw.lazySetup hl
  exact ⟨(hw.lwf l).len, (hw.lwf l).nodup, fun x hx => ((hw.lwf l).elem x hx).2,
    fun fuel hf => ⟨hw0.walkFwd hr hf, hw0.walkBwd hr hf⟩⟩

end FunProofs.SortPtr
