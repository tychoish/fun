import FunProofs.OrchStep

/-! C11, `srv.Cleanup`: the inductive invariant of the cleanup machine (code with the fix:
    `legacyNoSweep = false`); an accepted function is in exactly one place, the pipe or the cache (`cons`), and
    during the sweep a function of the cache is still to do or has been run (`sweep`). -/

namespace FunModel.Orch.Cln

def St.swept (s : St) : Prop := s.cphase = .sweeping ∨ s.cphase = .done

instance (s : St) : Decidable s.swept := inferInstanceAs (Decidable (_ ∨ _))

structure Inv (s : St) : Prop where
  cons : ∀ j, s.queue.count j + s.cache.count j = (decide (s.addSt j = .accepted)).toNat
  sweep : s.swept → ∀ j, s.todo.count j + s.runs j = s.cache.count j
  unswept : ¬ s.swept → ∀ j, s.runs j = 0
  coll : ∀ j, j ∈ s.coll ↔ s.runs j ≠ 0
  ended : (s.cphase = .exited ∨ s.cphase = .sweeping ∨ s.cphase = .done ∨ s.closed = true) → s.cancelled = true
  post : s.swept → s.queue = [] ∧ s.closed = true
  done_todo : s.cphase = .done → s.todo = []
  early : ∀ j, s.ranEarly j = false

theorem inv_init : Inv init := by
  refine ⟨?_, ?_, ?_, ?_, ?_, ?_, ?_, ?_⟩ <;> simp [init, St.swept]

theorem Inv.swept_eq {s : St} (hi : Inv s) (hsw : s.swept) (j : Nat) :
    s.todo.count j + s.runs j = (decide (s.addSt j = .accepted)).toNat := by
  have := hi.cons j
  rw [(hi.post hsw).1] at this
  rw [hi.sweep hsw j, ← this, List.count_nil, Nat.zero_add]

theorem inv_step {c : Cfg} (hfix : c.legacyNoSweep = false) {s s' : St} {a : Act} (hi : Inv s)
    (h : step c s a = some s') : Inv s' := by
  cases a with
  | start =>
    obtain ⟨hp, rfl⟩ := ite_some_eq h
    have hns : ¬ s.swept := by simp [St.swept, hp]
    exact { hi with sweep := (by intro h'; simp [St.swept] at h'), unswept := fun _ => hi.unswept hns,
                    ended := (by intro h'; apply hi.ended; simp at h'; exact Or.inr (Or.inr (Or.inr h'))),
                    post := (by intro h'; simp [St.swept] at h'), done_todo := by simp }
  | cancel =>
    cases h
    exact { hi with ended := fun _ => rfl }
  | add j acc =>
    obtain ⟨⟨hn, hcl⟩, h⟩ := Option.ite_none_right_eq_some.mp h
    have h0 := hi.cons j
    simp only [hn, reduceCtorEq, decide_false, Bool.toNat_false] at h0
    cases acc <;> simp only [Bool.false_eq_true, ↓reduceIte] at h <;> cases h
    · refine { hi with cons := fun k => ?_ }
      by_cases hk : k = j
      · subst hk; simpa using h0
      · simp only [upd_other _ _ _ _ hk]; exact hi.cons k
    · have hns : ¬ s.swept := fun hs => by have := (hi.post hs).2; rw [hcl rfl] at this; cases this
      exact { hi with cons := placed_push hi.cons (by simp [hn]) fun k hk => ⟨rfl, by simp only [upd_other _ _ _ _ hk]⟩,
                      post := fun hs => absurd hs hns }
  | drain =>
    dsimp only [step] at h
    split at h
    case h_2 => cases h
    rename_i j q hp hq
    obtain ⟨_, rfl⟩ := ite_some_eq h
    have hns : ¬ s.swept := by simp [St.swept, hp]
    refine { hi with cons := fun k => ?_, sweep := fun hs => absurd hs hns, post := fun hs => absurd hs hns }
    have := hi.cons k
    simp only [hq, List.count_cons, List.count_append, List.count_nil] at this ⊢
    omega
  | runExit =>
    obtain ⟨⟨hp, hwhy⟩, rfl⟩ := ite_some_eq h
    have hns : ¬ s.swept := by simp [St.swept, hp]
    refine { hi with sweep := (by intro h'; simp [St.swept] at h'), unswept := fun _ => hi.unswept hns,
                     ended := fun _ => ?_, post := (by intro h'; simp [St.swept] at h'), done_todo := by simp }
    rcases hwhy with hc | ⟨_, hc⟩
    · exact hc
    · exact hi.ended (Or.inr (Or.inr (Or.inr hc)))
  | shutdown =>
    obtain ⟨⟨hp, hwhy, _⟩, rfl⟩ := ite_some_eq h
    have hns : ¬ s.swept := by rcases hp with hp | hp <;> simp [St.swept, hp]
    refine { hi with ended := fun _ => ?_, post := fun hs => absurd hs hns }
    rcases hwhy with hc | hc
    · exact hc
    · exact hi.ended (Or.inl hc)
  | beginSweep =>
    -- with the fix what is left in the pipe goes to the cache, and the whole cache is to be run
    simp only [step, hfix, Bool.false_eq_true, ↓reduceIte] at h
    obtain ⟨⟨hp, hcl⟩, rfl⟩ := ite_some_eq h
    have hns : ¬ s.swept := by simp [St.swept, hp]
    refine { hi with cons := fun k => ?_, sweep := fun _ k => by simp [hi.unswept hns k],
                     unswept := fun hn => absurd (Or.inl rfl) hn, ended := fun _ => hi.ended (Or.inl hp),
                     post := fun _ => ⟨rfl, hcl⟩, done_todo := by simp }
    have := hi.cons k
    simp only [List.count_append, List.count_nil] at this ⊢
    omega
  | runJob j =>
    obtain ⟨⟨hp, hj⟩, rfl⟩ := ite_some_eq h
    have hsw : s.swept := Or.inl hp
    refine { hi with sweep := fun _ k => ?_, unswept := fun hn => absurd hsw hn, coll := fun k => ?_,
                     done_todo := (by intro hd; simp [hp] at hd), early := fun k => ?_ }
    · have := hi.sweep hsw k
      by_cases hk : k = j
      · subst hk
        have := List.one_le_count_iff.mpr hj
        simp only [List.count_erase_self, upd_same]; omega
      · simpa only [List.count_erase_of_ne hk, upd_other _ _ _ _ hk] using this
    · by_cases hk : k = j
      · subst hk; simp
      · simpa [hk] using hi.coll k
    · by_cases hk : k = j
      · subst hk; simp [hi.ended (Or.inr (Or.inl hp))]
      · simpa [hk] using hi.early k
  | finish =>
    obtain ⟨⟨hp, ht⟩, rfl⟩ := ite_some_eq h
    have hsw : s.swept := Or.inl hp
    exact { hi with sweep := fun _ => hi.sweep hsw, unswept := fun hn => absurd (Or.inr rfl) hn,
                    ended := fun _ => hi.ended (Or.inr (Or.inl hp)), post := fun _ => hi.post hsw,
                    done_todo := fun _ => ht }

theorem reachable_inv {c : Cfg} (hfix : c.legacyNoSweep = false) {s : St} (h : Reachable c s) : Inv s :=
  List.foldlM_option_reach_induction Inv inv_init (fun _ _ _ _ => inv_step hfix) h

end FunModel.Orch.Cln
