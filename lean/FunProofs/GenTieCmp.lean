import FunGen.Cmp
import FunProofs.DllHeap

/-! What the proofs of FunProps/C17Gen.lean (T-gen tie for dt/cmp.go) need to know about the sentinels. The generated
    code (lean/FunGen/Cmp.lean) calls `Front()`/`Back()`, hence `lazySetup`, where the hand-written model of
    FunModel/Dll.lean reads `root.next/prev`; the two agree on a list whose sentinel exists (`RS`). No invariant is
    assumed here: whatever heap it runs on, every operation involved is a `Frame` step, so it keeps the sentinels there
    are (`RS.frame`), and `Keep` is what is left of that across an `allocList`. Also the field reads of the generated
    code on non-nil pointers and the fuel policy `handFuel`. -/
namespace FunProofs.GenTieCmp
open FunModel.Dll FunModel.Dll.Heap FunGen.Cmp

/-- `l.root != nil` -/
def RS (h : Heap) (l : Nat) : Prop := ((h.hdr l).root).isSome = true

theorem RS.lazySetup_eq {h : Heap} {l : Nat} (hr : RS h l) : h.lazySetup l = h := by
  unfold RS at hr
  cases hx : (h.hdr l).root with
  | none => simp [hx] at hr
  | some r => exact lazySetup_some hx

theorem RS_lazySetup_self (h : Heap) (l : Nat) : RS (h.lazySetup l) l :=
  Option.isSome_iff_exists.2 (h.lazySetup_root l)

theorem lazySetup_idem (h : Heap) (l : Nat) : (h.lazySetup l).lazySetup l = h.lazySetup l :=
  (RS_lazySetup_self h l).lazySetup_eq

/-- the sentinels there are stay: the `root` clause of `Frame` -/
theorem RS.frame {h h' : Heap} {l : Nat} (hr : RS h l) (f : Frame h h') : RS h' l := by
  obtain ⟨r, e⟩ := Option.isSome_iff_exists.1 hr
  exact Option.isSome_iff_exists.2 ⟨r, f.root l r e⟩

theorem frame_uncheckedRemove {h h' : Heap} {e : Nat} (he : h.uncheckedRemove e = some h') : Frame h h' := by
  unfold Heap.uncheckedRemove at he
  simp only [Option.bind_eq_bind, Option.bind_eq_some_iff, Option.pure_def, Option.some.injEq] at he
  obtain ⟨l, _, p, _, n, _, rfl⟩ := he
  exact ⟨Nat.le_refl _, Nat.le_refl _, fun _ _ => by simp, fun _ _ hr => by simpa using hr⟩

theorem frame_uncheckedAppend {h h' : Heap} {e n : Nat} (he : h.uncheckedAppend e n = some h') : Frame h h' := by
  unfold Heap.uncheckedAppend at he
  simp only [Option.bind_eq_bind, Option.bind_eq_some_iff, Option.pure_def, Option.some.injEq] at he
  obtain ⟨l, _, p, _, n, _, rfl⟩ := he
  exact ⟨Nat.le_refl _, Nat.le_refl _, fun _ _ => by simp, fun _ _ hr => by simpa using hr⟩

theorem frame_elemAppend {h h' : Heap} {e r : Nat} {n : Option Nat} (he : h.elemAppend e n = some (h', r)) : Frame h h' := by
  unfold Heap.elemAppend at he
  split at he
  · cases n with
    | none => cases he
    | some n =>
      simp only [Option.bind_eq_bind, Option.pure_def, Option.bind_eq_some_iff, Option.some.injEq, Prod.mk.injEq] at he
      obtain ⟨g, hu, rfl, _⟩ := he
      exact frame_uncheckedAppend hu
  · cases he
    exact Frame.refl h

theorem frame_pop {h h' : Heap} {l r : Nat} {it : Option Nat} (he : h.pop l it = some (h', r)) : Frame h h' := by
  unfold Heap.pop at he
  simp only [Option.bind_eq_bind, Option.bind_eq_some_iff, Option.pure_def] at he
  obtain ⟨it, _, b, _, he⟩ := he
  split at he
  · cases he
    exact Frame.alloc h {}
  · simp only [Option.bind_eq_some_iff, Option.some.injEq, Prod.mk.injEq] at he
    obtain ⟨g, hu, rfl, _⟩ := he
    exact frame_uncheckedRemove hu

theorem frame_popFront {h h' : Heap} {l r : Nat} (he : h.popFront l = some (h', r)) : Frame h h' :=
  (Frame.lazySetup h l).trans (frame_pop he)

theorem RS_popFront {h h' : Heap} {l r : Nat} (he : h.popFront l = some (h', r)) : RS h' l :=
  (RS_lazySetup_self h l).frame (frame_pop he)

theorem frame_extendLoop {src : Nat} (fuel : Nat) : ∀ {h h' : Heap} {back : Nat}, h.extendLoop src back fuel = some h' → Frame h h' := by
  induction fuel with
  | zero =>
    intro h h' back he
    cases he
    exact Frame.refl _
  | succ fuel ih =>
    intro h h' back he
    unfold Heap.extendLoop at he
    simp only [Option.bind_eq_bind, Option.bind_eq_some_iff, Option.pure_def] at he
    obtain ⟨⟨h1, e⟩, hp, he⟩ := he
    split at he
    · simp only [Option.bind_eq_some_iff] at he
      obtain ⟨⟨h2, b2⟩, ha, he⟩ := he
      exact ((frame_popFront hp).trans (frame_elemAppend ha)).trans (ih he)
    · cases he
      exact frame_popFront hp

theorem frame_extend {h h' : Heap} {l src : Nat} (he : h.extend l src = some h') : Frame h h' := by
  unfold Heap.extend at he
  split at he
  · cases he
    exact Frame.refl _
  · simp only [Option.bind_eq_bind, Option.bind_eq_some_iff] at he
    obtain ⟨b, _, he⟩ := he
    exact (Frame.lazySetup h l).trans (frame_extendLoop _ he)

theorem frame_splitLoop {l out : Nat} {half : Int} (fuel : Nat) : ∀ {h h' : Heap}, h.splitLoop l out half fuel = some h' → Frame h h' := by
  induction fuel with
  | zero =>
    intro h h' he
    cases he
    exact Frame.refl _
  | succ fuel ih =>
    intro h h' he
    unfold Heap.splitLoop at he
    split at he
    · simp only [Option.bind_eq_bind, Option.bind_eq_some_iff] at he
      obtain ⟨b, _, ⟨h1, e⟩, hp, ⟨h2, r⟩, ha, he⟩ := he
      exact ((frame_popFront hp).trans (frame_elemAppend ha)).trans (ih he)
    · cases he
      exact Frame.refl _

theorem frame_mergeLoop {lt : Int → Int → Bool} {a b out : Nat} (fuel : Nat) :
    ∀ {h h' : Heap}, h.mergeLoop lt a b out fuel = some h' → Frame h h' := by
  induction fuel with
  | zero =>
    intro h h' he
    cases he
    exact Frame.refl _
  | succ fuel ih =>
    intro h h' he
    unfold Heap.mergeLoop at he
    split at he
    · simp only [Option.bind_eq_bind, Option.bind_eq_some_iff] at he
      obtain ⟨fa, _, fb, _, ob, _, he⟩ := he
      have m0 : Frame h ((h.lazySetup a).lazySetup b) := (Frame.lazySetup h a).trans (Frame.lazySetup _ b)
      split at he <;>
      · simp only [Option.bind_eq_some_iff] at he
        obtain ⟨⟨h1, e⟩, hp, ⟨h2, r⟩, ha, he⟩ := he
        exact ((m0.trans (frame_popFront hp)).trans (frame_elemAppend ha)).trans (ih he)
    · cases he
      exact Frame.refl _

/-- the `nl` and `root` clauses of `Frame` for the lists allocated in `h` only: what is left of it across an `allocList`,
    which overwrites the header at `h.nl`, on a heap that need not be well-formed -/
def Keep (h h' : Heap) : Prop := h.nl ≤ h'.nl ∧ ∀ l, l < h.nl → RS h l → RS h' l

theorem Keep.refl (h : Heap) : Keep h h := ⟨Nat.le_refl _, fun _ _ x => x⟩
theorem Keep.trans {a b c : Heap} (x : Keep a b) (y : Keep b c) : Keep a c :=
  ⟨Nat.le_trans x.1 y.1, fun l hl r => y.2 l (Nat.lt_of_lt_of_le hl x.1) (x.2 l hl r)⟩

/-- `out := &List{}; out.lazySetup()` keeps the sentinels of the other lists -/
theorem RS.newList {h : Heap} {l : Nat} (hr : RS h l) (hl : l ≠ h.nl) : RS (h.allocList.1.lazySetup h.nl) l := by
  refine RS.frame ?_ (Frame.lazySetup _ _)
  unfold RS at *
  simpa [hl] using hr

theorem newList_post {h h' : Heap} (m : Frame (h.allocList.1.lazySetup h.nl) h') :
    Keep h h' ∧ h.nl < h'.nl ∧ RS h' h.nl := by
  have hn : h.nl < h'.nl := Nat.lt_of_lt_of_le (by rw [lazySetup_nl]; exact Nat.lt_succ_self _) m.nl
  exact ⟨⟨Nat.le_of_lt hn, fun l hl hr => (hr.newList (Nat.ne_of_lt hl)).frame m⟩, hn,
    (RS_lazySetup_self _ _).frame m⟩

theorem split_post {h h' : Heap} {l out : Nat} (he : h.split l = some (h', out)) :
    out = h.nl ∧ Keep h h' ∧ h.nl < h'.nl ∧ RS h' h.nl := by
  unfold Heap.split at he
  simp only [Option.bind_eq_bind, Option.bind_eq_some_iff, Option.pure_def, Option.some.injEq, Prod.mk.injEq] at he
  obtain ⟨h1, hs, rfl, rfl⟩ := he
  exact ⟨rfl, newList_post (frame_splitLoop _ hs)⟩

theorem merge_post {h h' : Heap} {lt : Int → Int → Bool} {a b out : Nat} (he : h.merge lt a b = some (h', out)) :
    out = h.nl ∧ Keep h h' ∧ h.nl < h'.nl ∧ RS h' h.nl := by
  unfold Heap.merge at he
  simp only [Option.bind_eq_bind, Option.bind_eq_some_iff, Option.pure_def, Option.some.injEq, Prod.mk.injEq] at he
  obtain ⟨h1, hs, h2, e1, h3, e2, rfl, rfl⟩ := he
  exact ⟨rfl, newList_post (((frame_mergeLoop _ hs).trans (frame_extend e1)).trans (frame_extend e2))⟩

theorem mergeSort_post (lt : Int → Int → Bool) (fuel : Nat) : ∀ {h h' : Heap} {head r : Nat},
    head < h.nl → RS h head → h.mergeSort lt head fuel = some (h', r) → Keep h h' ∧ r < h'.nl ∧ RS h' r := by
  induction fuel with
  | zero =>
    intro h h' head r hh hr he
    cases he
    exact ⟨Keep.refl h, hh, hr⟩
  | succ fuel ih =>
    intro h h' head r hh hr he
    unfold Heap.mergeSort at he
    split at he
    · cases he
      exact ⟨Keep.refl h, hh, hr⟩
    · simp only [Option.bind_eq_bind, Option.bind_eq_some_iff] at he
      obtain ⟨⟨h1, tail⟩, e1, ⟨h2, hd⟩, e2, ⟨h3, tl⟩, e3, e4⟩ := he
      obtain ⟨rfl, k1, n1, t1⟩ := split_post e1
      obtain ⟨k2, _, _⟩ := ih (Nat.lt_of_lt_of_le hh k1.1) (k1.2 head hh hr) e2
      obtain ⟨k3, _, _⟩ := ih (Nat.lt_of_lt_of_le n1 k2.1) (k2.2 _ n1 t1) e3
      obtain ⟨rfl, k4, n4, t4⟩ := merge_post e4
      exact ⟨((k1.trans k2).trans k3).trans k4, n4, t4⟩

@[simp] theorem ldE_some {α : Type} (h : Heap) (f : Node → α) (a : Nat) : ldE h f (some a) = some (f (h.node a)) := rfl
@[simp] theorem ldE_none {α : Type} (h : Heap) (f : Node → α) : ldE h f none = none := rfl
@[simp] theorem ldL_some {α : Type} (h : Heap) (f : Hdr → α) (a : Nat) : ldL h f (some a) = some (f (h.hdr a)) := rfl
@[simp] theorem ldL_none {α : Type} (h : Heap) (f : Hdr → α) : ldL h f none = none := rfl
@[simp] theorem ldH_some {α : Type} (f : HObj → α) (a : HObj) : ldH f (some a) = some (f a) := rfl
@[simp] theorem ldH_none {α : Type} (f : HObj → α) : ldH f none = none := rfl

/-- what `Heap.Push` does once its loop is over -/
def pushRest (l : Nat) (t : Int) (p : Heap × Option Unit) : Option Heap :=
  match p.2 with
  | some _ => some p.1
  | none => p.1.pushFront l t

/-- the fuel the model gives the loop of `merge` -/
def mergeFuel (h : Heap) (a b : Nat) : Nat := ((h.hdr a).length + (h.hdr b).length).toNat + 1

/-- with `n` = the allocation pointer before the call: the invariant of the lists the sort itself creates, nothing
    about the caller's heap -/
def RSFrom (n : Nat) (h : Heap) : Prop := ∀ l, n ≤ l → l < h.nl → RS h l

theorem rsFrom_nl (h : Heap) : RSFrom h.nl h := fun _ h1 h2 => absurd h2 (Nat.not_lt.2 h1)

/-- the fuel measures of the hand-written model (`Heap.split`, `Heap.merge`, `Heap.sortMerge`), as the policy the
    generated functions are instantiated with -/
def handFuel : String → Heap → List (Option Nat) → Nat := fun f h args =>
  if f = "split" then (match args with | [some l] => (h.hdr l).length.toNat + 1 | _ => 0)
  else if f = "merge" then (match args with | [some a, some b] => mergeFuel h a b | _ => 0)
  else if f = "mergeSort" then (match args with | [some l] => (h.hdr l).length.toNat + 1 | _ => 0)
  else 0

theorem handFuel_split (h : Heap) (l : Nat) : handFuel "split" h [some l] = (h.hdr l).length.toNat + 1 := by
  simp [handFuel]
theorem handFuel_merge (h : Heap) (a b : Nat) : handFuel "merge" h [some a, some b] = mergeFuel h a b := by
  simp [handFuel]
theorem handFuel_mergeSort (h : Heap) (l : Nat) : handFuel "mergeSort" h [some l] = (h.hdr l).length.toNat + 1 := by
  simp [handFuel]

end FunProofs.GenTieCmp
