import FunGen.Hdr
import FunProofs.Hdr

/-! T-gen tie for `dt/hdrhist/hdr.go` (used by `FunProps/C19Gen.lean`): `bitLen` as tools/go2lean regenerates
    it into `FunGen/Hdr.lean` on every run equals the hand-written mirror `bitLenGo` (`bitLen_tie`); the
    generated record for a `Shape` (`genHist`); the generated shifts on casts of naturals (`shl_int`, `shr_int`). -/

namespace FunProofs.GenTie
open FunModel FunGen FunModel.Hdr FunGen.Hdr

/-- the generated `Histogram` record holding the scalar fields `New` computes for shape `s` -/
def genHist (s : Shape) : Histogram :=
  { lowestTrackableValue := s.lowest, highestTrackableValue := s.highest, unitMagnitude := s.unitMag,
    significantFigures := s.sigfigs, subBucketHalfCountMagnitude := s.halfMag,
    subBucketHalfCount := s.subBucketHalfCount, subBucketMask := s.subBucketMask,
    subBucketCount := s.subBucketCount, bucketCount := s.bucketCount, countsLen := s.countsLen, totalCount := 0 }

theorem loop_tie (fuel x n : Nat) :
    bitLen_loop1 fuel (n : Int) (x : Int)
      = (((bitLenLoop fuel x n).2 : Int), ((bitLenLoop fuel x n).1 : Int)) := by
  fun_induction bitLenLoop fuel x n with
  | case1 x n => rfl
  | case2 x n f h ih =>
    unfold bitLen_loop1
    rw [if_pos (by simp only [decide_eq_true_eq]; omega)]
    exact ih
  | case3 x n f h =>
    unfold bitLen_loop1
    rw [if_neg (by simp only [decide_eq_true_eq]; omega)]

/-- one "if x >= c { x >>= k; n += k }" step of the generated code, on the pair (n, x) -/
def gstep (c : Int) (k : Nat) (p : Int × Int) : Int × Int :=
  if decide (p.2 ≥ c) then (p.1 + k, p.2 >>> k) else p

theorem gen_bitLen_unfold (x : Int) :
    FunGen.Hdr.bitLen x =
      (let p := gstep 0x2 2 (gstep 0x8 4 (gstep 0x80 8 (bitLen_loop1 8 0 x)))
       if decide (p.2 ≥ 0x1) then p.1 + 1 else p.1) := by
  unfold FunGen.Hdr.bitLen
  dsimp only
  generalize bitLen_loop1 8 0 x = p
  rfl

theorem gstep_tie (c : Int) (k : Nat) (hk : c = ((2 ^ (k - 1) : Nat) : Int)) (p : Nat × Nat) :
    gstep c k ((p.2 : Int), (p.1 : Int)) = (((bitStep k p).2 : Int), ((bitStep k p).1 : Int)) := by
  unfold gstep bitStep
  subst hk
  by_cases h : p.1 ≥ 2 ^ (k - 1)
  · have h' : (p.1 : Int) ≥ ((2 ^ (k - 1) : Nat) : Int) := by exact_mod_cast h
    simp only [h, h', decide_true, if_true]
    rw [← Int.natCast_shiftRight]; simp
  · have h' : ¬ ((p.1 : Int) ≥ ((2 ^ (k - 1) : Nat) : Int)) := by
      intro hh; exact h (by exact_mod_cast hh)
    simp only [h, h', decide_false, if_false, Bool.false_eq_true]

theorem bitLen_tie (x : Nat) : FunGen.Hdr.bitLen (x : Int) = (bitLenGo x : Int) := by
  rw [gen_bitLen_unfold, bitLenGo_unfold]
  have l := loop_tie 8 x 0
  simp only [Int.natCast_zero] at l
  rw [l]
  generalize bitLenLoop 8 x 0 = p0
  rw [gstep_tie 0x80 8 (by decide) p0, gstep_tie 0x8 4 (by decide), gstep_tie 0x2 2 (by decide)]
  generalize bitStep 2 (bitStep 4 (bitStep 8 p0)) = p3
  by_cases h : p3.1 ≥ 1
  · have h' : (p3.1 : Int) ≥ 0x1 := by omega
    simp [h, h']
  · have h' : ¬ ((p3.1 : Int) ≥ 0x1) := by omega
    simp [h, h']

/-- shifts of the generated code on casts of naturals; the side conditions are linear, so `omega`
    discharges them however the Go expressions are associated or commuted -/
theorem shl_int (a k : Int) (n m : Nat) (ha : a = (n : Int)) (hk : k.toNat = m) :
    a <<< k.toNat = ((n <<< m : Nat) : Int) := by subst ha; subst hk; exact (Int.natCast_shiftLeft _ _).symm
theorem shr_int (a k : Int) (n m : Nat) (ha : a = (n : Int)) (hk : k.toNat = m) :
    a >>> k.toNat = ((n >>> m : Nat) : Int) := by subst ha; subst hk; rfl

end FunProofs.GenTie
