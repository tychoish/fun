import FunProofs.SllHeap

/-! The invariant `WF` of the pointer-level model of `dt.Stack` / `dt.Item` (C16, stack part) over the ghost state `g`
(stack address ↦ item addresses, top first) and `sent` (stack address ↦ address of its sentinel, `none` while the
head is nil); `WF.frame` is the rule for an operation on one stack, `WF.remove` its case for taking one item out.
At the end `Reachable`, the run relation of FunProps/C16Stack.lean, and `Reachable.wf`: its states are well-formed. -/
namespace FunModel.Sll
open Heap

def upd {α : Type} (f : Nat → α) (s : Nat) (v : α) : Nat → α := fun t => if t = s then v else f t

@[simp] theorem upd_same {α : Type} (f : Nat → α) (s : Nat) (v : α) : upd f s v s = v := by simp [upd]
@[simp] theorem upd_ne {α : Type} (f : Nat → α) (s t : Nat) (v : α) (hne : t ≠ s) : upd f s v t = f t := by
  simp [upd, hne]
theorem upd_apply {α : Type} (f : Nat → α) (s t : Nat) (v : α) : upd f s v t = if t = s then v else f t := rfl
theorem upd_eq_self {α : Type} (f : Nat → α) (s : Nat) (v : α) (e : f s = v) : upd f s v = f := by
  funext t; by_cases ht : t = s
  · subst ht; simp [e]
  · simp [ht]

@[simp] theorem upd_upd {α : Type} (f : Nat → α) (s : Nat) (v w : α) : upd (upd f s v) s w = upd f s w := by
  funext t; by_cases ht : t = s
  · subst ht; simp
  · simp [ht]

/-- `Seg h p xs q`: the pointer `p` leads through the cells `xs` along `next`, and the `next` of the last one
    (`p` itself for `xs = []`) is `q`. A stack is `Seg h head (g s) (some sentinel)`. -/
def Seg (h : Heap) : Option Nat → List Nat → Option Nat → Prop
  | p, [], q => p = q
  | p, x :: xs, q => p = some x ∧ Seg h (h.item x).next xs q

@[simp] theorem Seg_nil (h : Heap) (p q : Option Nat) : Seg h p [] q ↔ p = q := Iff.rfl
@[simp] theorem Seg_cons (h : Heap) (p q : Option Nat) (x : Nat) (xs : List Nat) :
    Seg h p (x :: xs) q ↔ p = some x ∧ Seg h (h.item x).next xs q := Iff.rfl

theorem Seg.congr {h h' : Heap} {xs : List Nat} {p q : Option Nat}
    (hs : Seg h p xs q) (hfr : ∀ x, x ∈ xs → (h'.item x).next = (h.item x).next) : Seg h' p xs q := by
  induction xs generalizing p with
  | nil => exact hs
  | cons x xs ih =>
    obtain ⟨hp, hrest⟩ := hs
    refine ⟨hp, ?_⟩
    rw [hfr x (List.mem_cons_self ..)]
    exact ih hrest (fun y hy => hfr y (List.mem_cons_of_mem _ hy))

theorem Seg_append (h : Heap) (xs ys : List Nat) (p q : Option Nat) :
    Seg h p (xs ++ ys) q ↔ ∃ m, Seg h p xs m ∧ Seg h m ys q := by
  induction xs generalizing p with
  | nil => simp
  | cons x xs ih =>
    simp only [List.cons_append, Seg_cons, ih]
    constructor
    · rintro ⟨hp, m, h1, h2⟩; exact ⟨m, ⟨hp, h1⟩, h2⟩
    · rintro ⟨m, ⟨hp, h1⟩, h2⟩; exact ⟨hp, m, h1, h2⟩

theorem Seg.start_some {h : Heap} {xs : List Nat} {p : Option Nat} {z : Nat}
    (hs : Seg h p xs (some z)) : ∃ a, p = some a := by
  cases xs with
  | nil => exact ⟨z, hs⟩
  | cons x xs => exact ⟨x, hs.1⟩

/-- the stack `s` alone: `xs` is to be `g s`, `sn` is to be `sent s` -/
structure WFS (h : Heap) (s : Nat) (xs : List Nat) (sn : Option Nat) : Prop where
  empty : sn = none → (h.hdr s).head = none ∧ xs = []
  chain : ∀ z, sn = some z → Seg h (h.hdr s).head xs (some z)
  /-- the cell `lazyInit` makes: `makeItem` with `ok = false` and `stack = s` -/
  sentinel : ∀ z, sn = some z →
    z < h.ni ∧ (h.item z).ok = false ∧ (h.item z).next = none ∧ (h.item z).stack = some s
  len : (h.hdr s).length = (xs.length : Int)
  items : ∀ x, x ∈ xs → x < h.ni ∧ (h.item x).ok = true ∧ (h.item x).stack = some s
  nodup : xs.Nodup

/-- Only allocated stacks (`s < h.ns`) and allocated cells (`a < h.ni`) are constrained: the header at an address
    `allocStack` has not handed out yet may hold anything (`allocStack` overwrites it). -/
structure WF (h : Heap) (g : Nat → List Nat) (sent : Nat → Option Nat) : Prop where
  fresh : ∀ s, h.ns ≤ s → g s = [] ∧ sent s = none
  stk : ∀ s, s < h.ns → WFS h s (g s) (sent s)
  sentInj : ∀ s t z, sent s = some z → sent t = some z → s = t
  /-- the `stack` field is ownership: with `WFS.items` and `WFS.sentinel`, `stack = some s` exactly for the items
      and the sentinel of `s` (`WF.of_stack_some`) -/
  detached : ∀ a, a < h.ni → (∀ s, a ∉ g s) → (∀ s, sent s ≠ some a) → (h.item a).stack = none

variable {h : Heap} {g : Nat → List Nat} {sent : Nat → Option Nat}

theorem WFS.frame {h h' : Heap} {s : Nat} {xs : List Nat} {sn : Option Nat} (hw : WFS h s xs sn)
    (hhdr : h'.hdr s = h.hdr s) (hni : h.ni ≤ h'.ni)
    (hit : ∀ a, a ∈ xs → (h'.item a).next = (h.item a).next ∧ (h'.item a).stack = (h.item a).stack ∧
      ((h.item a).ok = true → (h'.item a).ok = true))
    (hsn : ∀ z, sn = some z → h'.item z = h.item z) : WFS h' s xs sn where
  empty := fun e => by rw [hhdr]; exact hw.empty e
  chain := fun z e => by rw [hhdr]; exact (hw.chain z e).congr (fun x hx => (hit x hx).1)
  sentinel := fun z e => by
    rw [hsn z e]; obtain ⟨a, b, c, d⟩ := hw.sentinel z e; exact ⟨Nat.lt_of_lt_of_le a hni, b, c, d⟩
  len := by rw [hhdr]; exact hw.len
  items := fun x hx => by
    obtain ⟨a, b, c⟩ := hw.items x hx
    obtain ⟨_, e2, e3⟩ := hit x hx
    exact ⟨Nat.lt_of_lt_of_le a hni, e3 b, by rw [e2]; exact c⟩
  nodup := hw.nodup

/-- the sentinel map after an operation that starts with `s.lazyInit()`: a sentinel made on demand is the fresh
cell `h.ni` -/
def initSent (h : Heap) (sent : Nat → Option Nat) (s : Nat) : Nat → Option Nat :=
  if (h.hdr s).head = none then upd sent s (some h.ni) else sent

theorem removeLoop_spec {it s pl : Nat} {post : List Nat} {m : Option Nat} (hne : pl ≠ it)
    (hok : (h.item pl).ok = true) :
    ∀ (q : List Nat) (p : Option Nat) (fuel : Nat), Seg h p (q ++ pl :: it :: post) m →
      (∀ y, y ∈ q → (h.item y).ok = true ∧ y ≠ it) → q.length < fuel →
      h.removeLoop it s p fuel = some (h.unlinked s pl it, true) := by
  intro q
  induction q with
  | nil =>
    intro p fuel hseg _ hf
    obtain ⟨rfl, hnx, _⟩ := hseg
    rcases fuel with _ | f
    · cases hf
    simp [removeLoop, hok, hnx, Heap.unlinked, Ne.symm hne]
  | cons a q ih =>
    intro p fuel hseg hq hf
    simp only [List.cons_append, Seg_cons] at hseg
    obtain ⟨rfl, hrest⟩ := hseg
    rcases fuel with _ | f
    · cases hf
    have hoka := (hq a (List.mem_cons_self ..)).1
    have hnext : (h.item a).next ≠ some it := by
      intro e
      rw [e] at hrest
      cases q with
      | nil => exact hne (Option.some.inj hrest.1).symm
      | cons b q => exact (hq b (by simp)).2 (Option.some.inj hrest.1).symm
    simp only [removeLoop, hoka, if_true, if_neg hnext]
    exact ih _ f hrest (fun y hy => hq y (List.mem_cons_of_mem _ hy)) (Nat.lt_of_succ_lt_succ hf)

theorem walk_seg {z : Nat} (hz : (h.item z).ok = false) :
    ∀ (xs : List Nat) (p : Option Nat) (fuel : Nat), Seg h p xs (some z) →
      (∀ x, x ∈ xs → (h.item x).ok = true) → xs.length < fuel → h.walk fuel p = (xs, "end") := by
  intro xs
  induction xs with
  | nil =>
    intro p fuel hseg _ hf
    rcases fuel with _ | f
    · cases hf
    cases hseg
    simp [walk, hz]
  | cons x xs ih =>
    intro p fuel hseg hok hf
    rcases fuel with _ | f
    · cases hf
    obtain ⟨rfl, hrest⟩ := hseg
    have := ih _ f hrest (fun y hy => hok y (List.mem_cons_of_mem _ hy)) (Nat.lt_of_succ_lt_succ hf)
    simp [walk, hok x (List.mem_cons_self ..), this]

namespace WF

theorem lt_ns_of_mem (hw : WF h g sent) {s x : Nat} (hx : x ∈ g s) : s < h.ns := by
  apply Nat.lt_of_not_le; intro hle
  rw [(hw.fresh s hle).1] at hx; cases hx

theorem lt_ns_of_sent (hw : WF h g sent) {s z : Nat} (hz : sent s = some z) : s < h.ns := by
  apply Nat.lt_of_not_le; intro hle
  rw [(hw.fresh s hle).2] at hz; cases hz

theorem item_of_mem (hw : WF h g sent) {s x : Nat} (hx : x ∈ g s) :
    x < h.ni ∧ (h.item x).ok = true ∧ (h.item x).stack = some s :=
  (hw.stk s (hw.lt_ns_of_mem hx)).items x hx

theorem sentinel_of_sent (hw : WF h g sent) {s z : Nat} (hz : sent s = some z) :
    z < h.ni ∧ (h.item z).ok = false ∧ (h.item z).next = none ∧ (h.item z).stack = some s :=
  (hw.stk s (hw.lt_ns_of_sent hz)).sentinel z hz

theorem disjoint (hw : WF h g sent) {s t x : Nat} (hs : x ∈ g s) (ht : x ∈ g t) : s = t := by
  have a := (hw.item_of_mem hs).2.2
  have b := (hw.item_of_mem ht).2.2
  rw [a] at b; exact Option.some.inj b

theorem not_sent_of_mem (hw : WF h g sent) {s t x : Nat} (hs : x ∈ g s) : sent t ≠ some x := by
  intro hz
  have a := (hw.item_of_mem hs).2.1
  have b := (hw.sentinel_of_sent hz).2.1
  rw [a] at b; cases b

theorem head_none_iff (hw : WF h g sent) {s : Nat} (hs : s < h.ns) : (h.hdr s).head = none ↔ sent s = none := by
  constructor
  · intro hh
    cases hz : sent s with
    | none => rfl
    | some z =>
      obtain ⟨a, ha⟩ := ((hw.stk s hs).chain z hz).start_some
      rw [hh] at ha; cases ha
  · intro hz; exact ((hw.stk s hs).empty hz).1

theorem sent_of_mem (hw : WF h g sent) {s x : Nat} (hx : x ∈ g s) : ∃ z, sent s = some z :=
  Option.ne_none_iff_exists'.1 fun e => by
    rw [((hw.stk s (hw.lt_ns_of_mem hx)).empty e).2] at hx; cases hx

theorem sent_of_head (hw : WF h g sent) {s : Nat} (hs : s < h.ns) (hh : (h.hdr s).head ≠ none) :
    ∃ z, sent s = some z :=
  Option.ne_none_iff_exists'.1 fun e => hh ((hw.head_none_iff hs).2 e)

theorem head_eq (hw : WF h g sent) {s z : Nat} (hz : sent s = some z) :
    (h.hdr s).head = some ((g s).headD z) := by
  have hc := (hw.stk s (hw.lt_ns_of_sent hz)).chain z hz
  cases hg : g s with
  | nil => rw [hg] at hc; exact hc
  | cons x xs => rw [hg] at hc; exact hc.1

theorem head_item (hw : WF h g sent) {s a : Nat} (hs : s < h.ns) (hh : (h.hdr s).head = some a) :
    a < h.ni ∧ (h.item a).stack = some s := by
  obtain ⟨z, hz⟩ := hw.sent_of_head hs (by simp [hh])
  have e := hw.head_eq hz
  rw [hh, Option.some.injEq] at e
  cases hg : g s with
  | nil =>
    rw [hg] at e
    obtain rfl : a = z := e
    exact ⟨(hw.sentinel_of_sent hz).1, (hw.sentinel_of_sent hz).2.2.2⟩
  | cons x xs =>
    have hx : a ∈ g s := by rw [e, hg]; exact List.mem_cons_self ..
    exact ⟨(hw.item_of_mem hx).1, (hw.item_of_mem hx).2.2⟩

theorem of_stack_some (hw : WF h g sent) {a s : Nat} (ha : a < h.ni) (hst : (h.item a).stack = some s) :
    a ∈ g s ∨ sent s = some a := by
  by_cases h1 : ∃ t, a ∈ g t
  · obtain ⟨t, ht⟩ := h1
    have := (hw.item_of_mem ht).2.2
    rw [hst] at this; cases this; exact Or.inl ht
  · by_cases h2 : ∃ t, sent t = some a
    · obtain ⟨t, ht⟩ := h2
      have e := (hw.sentinel_of_sent ht).2.2.2
      rw [hst] at e; cases e; exact Or.inr ht
    · have := hw.detached a ha (fun t ht => h1 ⟨t, ht⟩) (fun t ht => h2 ⟨t, ht⟩)
      rw [hst] at this; cases this

theorem not_mem_of_stack_none (hw : WF h g sent) {a : Nat} (hst : (h.item a).stack = none) (s : Nat) : a ∉ g s := by
  intro hx
  have := (hw.item_of_mem hx).2.2
  rw [hst] at this; cases this

theorem init : WF {} (fun _ => []) (fun _ => none) where
  fresh := fun _ _ => ⟨rfl, rfl⟩
  stk := fun s hs => by cases hs
  sentInj := fun _ _ _ e => by cases e
  detached := fun a ha => by cases ha

theorem allocStack (hw : WF h g sent) : WF h.allocStack.1 g sent where
  fresh := fun s hs => hw.fresh s (Nat.le_of_succ_le hs)
  stk := fun s hs => by
    by_cases e : s = h.ns
    · subst e
      obtain ⟨e1, e2⟩ := hw.fresh h.ns (Nat.le_refl _)
      rw [e1, e2]
      exact ⟨fun _ => ⟨by simp, rfl⟩, nofun, nofun, by simp, nofun, List.nodup_nil⟩
    · have hs' : s < h.ns := Nat.lt_of_le_of_ne (Nat.le_of_lt_succ hs) e
      exact (hw.stk s hs').frame (by simp [e]) (by simp) (fun a _ => by simp) (fun z _ => by simp)
  sentInj := hw.sentInj
  detached := fun a ha => hw.detached a (by simpa using ha)

theorem alloc (hw : WF h g sent) (n : Item) (hn : n.stack = none) : WF (h.alloc n).1 g sent where
  fresh := fun s hs => hw.fresh s (by simpa using hs)
  stk := fun s hs => by
    have hs' : s < h.ns := by simpa using hs
    refine (hw.stk s hs').frame (by simp) (by simp) (fun a ha => ?_) (fun z hz => ?_)
    · have : a ≠ h.ni := Nat.ne_of_lt (hw.item_of_mem ha).1
      simp [this]
    · have : z ≠ h.ni := Nat.ne_of_lt (hw.sentinel_of_sent hz).1
      simp [this]
  sentInj := hw.sentInj
  detached := fun a ha h1 h2 => by
    by_cases e : a = h.ni
    · subst e; simpa using hn
    · simp [e]; exact hw.detached a (Nat.lt_of_le_of_ne (Nat.le_of_lt_succ ha) e) h1 h2

/-- `Item.Set` on anything that is not a sentinel -/
theorem setValue (hw : WF h g sent) {it : Nat} (v : Int) (hns : ∀ t, sent t ≠ some it) :
    WF (h.setItem it { h.item it with ok := true, value := v }) g sent := by
  refine ⟨hw.fresh, fun t ht => ?_, hw.sentInj, fun a ha h1 h2 => ?_⟩
  · refine (hw.stk t ht).frame rfl (Nat.le_refl _) (fun a ha => ?_) (fun z hz => ?_)
    · by_cases e : a = it
      · subst e; simp
      · simp [e]
    · have : z ≠ it := fun e => hns t (e ▸ hz)
      simp [this]
  · have := hw.detached a ha h1 h2
    by_cases e : a = it
    · subst e; simpa using this
    · simpa [e] using this

/-- Frame rule for an operation on the one stack `s`. `hrest` is about the cells that end up outside `s`: the
operation either detached them or they were not in `s` before and keep their `stack` field. -/
theorem frame (hw : WF h g sent) {s : Nat} (hs : s < h.ns) {h' : Heap} {ys : List Nat} {sn : Option Nat}
    (hns : h'.ns = h.ns) (hni : h.ni ≤ h'.ni) (hhdr : ∀ t, t ≠ s → h'.hdr t = h.hdr t)
    (hkeep : ∀ a t, t ≠ s → a < h.ni → (h.item a).stack = some t → h'.item a = h.item a)
    (hS : WFS h' s ys sn)
    (hrest : ∀ a, a < h'.ni → a ∉ ys → sn ≠ some a → (h'.item a).stack = none ∨
      (a < h.ni ∧ a ∉ g s ∧ sent s ≠ some a ∧ (h'.item a).stack = (h.item a).stack)) :
    WF h' (upd g s ys) (upd sent s sn) where
  fresh := fun t ht => by
    have ht' : h.ns ≤ t := hns ▸ ht
    have e : t ≠ s := Nat.ne_of_gt (Nat.lt_of_lt_of_le hs ht')
    rw [upd_ne _ _ _ _ e, upd_ne _ _ _ _ e]
    exact hw.fresh t ht'
  stk := fun t ht => by
    by_cases e : t = s
    · rw [e, upd_same, upd_same]
      exact hS
    · rw [upd_ne _ _ _ _ e, upd_ne _ _ _ _ e]
      refine (hw.stk t (hns ▸ ht)).frame (hhdr t e) hni (fun a ha => ?_) (fun z hz => ?_)
      · obtain ⟨h1, _, h3⟩ := hw.item_of_mem ha
        rw [hkeep a t e h1 h3]
        exact ⟨rfl, rfl, id⟩
      · obtain ⟨h1, _, _, h4⟩ := hw.sentinel_of_sent hz
        exact hkeep z t e h1 h4
  sentInj := fun a b z ha hb => by
    -- a sentinel of another stack keeps its `stack` field, so it is not the new sentinel of `s`
    have key : ∀ t, t ≠ s → sent t = some z → sn ≠ some z := fun t e hz hsn => by
      obtain ⟨h1, _, _, h4⟩ := hw.sentinel_of_sent hz
      have := (hS.sentinel z hsn).2.2.2
      rw [hkeep z t e h1 h4, h4] at this
      exact e (Option.some.inj this)
    simp only [upd_apply] at ha hb
    by_cases ea : a = s <;> by_cases eb : b = s <;> simp only [ea, eb, if_true, if_false] at ha hb ⊢
    · exact absurd ha (key b eb hb)
    · exact absurd hb (key a ea ha)
    · exact hw.sentInj a b z ha hb
  detached := fun a ha h1 h2 => by
    have h1s := h1 s
    have h2s := h2 s
    rw [upd_same] at h1s h2s
    rcases hrest a ha h1s h2s with e | ⟨ha', hg, hz, e⟩
    · exact e
    · rw [e]
      refine hw.detached a ha' (fun t => ?_) (fun t => ?_)
      · by_cases et : t = s
        · exact et ▸ hg
        · exact upd_ne g s t ys et ▸ h1 t
      · by_cases et : t = s
        · exact et ▸ hz
        · exact upd_ne sent s t sn et ▸ h2 t

theorem lazyInit (hw : WF h g sent) {s : Nat} (hs : s < h.ns) : WF (h.lazyInit s) g (initSent h sent s) := by
  cases hh : (h.hdr s).head with
  | some a =>
    rw [lazyInit_of_head_some hh, initSent, if_neg (by simp [hh])]
    exact hw
  | none =>
    have hsn : sent s = none := (hw.head_none_iff hs).1 hh
    have hgs : g s = [] := ((hw.stk s hs).empty hsn).2
    rw [initSent, if_pos hh, lazyInit_of_head_none hh, ← upd_eq_self g s [] hgs]
    refine hw.frame hs rfl (Nat.le_succ _) (fun t e => setHdr_hdr_ne _ _ _ _ e)
      (fun a t _ ha _ => by simp [Nat.ne_of_lt ha]) ?_ (fun a ha _ hz => Or.inr ?_)
    · exact ⟨nofun, fun z e => by cases e; simp, fun z e => by cases e; simp, by simp, nofun, List.nodup_nil⟩
    · have hne : a ≠ h.ni := fun e => hz (e ▸ rfl)
      exact ⟨Nat.lt_of_le_of_ne (Nat.le_of_lt_succ ha) hne, by simp [hgs], by simp [hsn], by simp [hne]⟩

theorem itemAppend_accept (hw : WF h g sent) {it n s : Nat} (hit : it < h.ni) (hn : n < h.ni)
    (hst : (h.item it).stack = some s) (hnst : (h.item n).stack = none) (hnok : (h.item n).ok = true) :
    ∃ h', h.itemAppend it (some n) = some (h', n) ∧ WF h' (upd g s (n :: g s)) sent ∧
      (h'.item n).value = (h.item n).value := by
  obtain ⟨z, hz⟩ : ∃ z, sent s = some z := by
    rcases hw.of_stack_some hit hst with e | e
    · exact hw.sent_of_mem e
    · exact ⟨it, e⟩
  have hs := hw.lt_ns_of_sent hz
  have ha := hw.head_eq hz
  refine ⟨h.linked s n, by simp [itemAppend, hst, hnst, hnok, lazyInit_of_head_some ha, Heap.linked], ?_,
    by simp [Heap.linked]⟩
  unfold Heap.linked
  have hS := hw.stk s hs
  -- `n` is the only cell written, and it belonged to no stack
  have hne : ∀ a t, (h.item a).stack = some t → a ≠ n := fun a t hst e => by rw [e, hnst] at hst; cases hst
  -- `sent` stays as it is; `frame` concludes with an update
  rw [← upd_eq_self sent s _ rfl]
  refine hw.frame hs rfl (Nat.le_refl _) (fun t e => setHdr_hdr_ne _ _ _ _ e)
    (fun a t _ _ hst => by simp [hne a t hst]) ?_ (fun a ha hy hz => Or.inr ?_)
  · have hfr : ∀ x, x ∈ g s → x ≠ n := fun x hx => hne x s (hS.items x hx).2.2
    rw [hz]
    refine ⟨nofun, fun z' e => ?_, fun z' e => ?_, ?_, fun x hx => ?_, ?_⟩
    · cases e
      simp only [setHdr_hdr_same, setHdr_item, Seg_cons, setItem_item_same, true_and]
      exact (hS.chain z hz).congr (fun x hx => by simp [hfr x hx])
    · cases e
      simpa [hne z s (hS.sentinel z hz).2.2.2] using hS.sentinel z hz
    · simp [hS.len]
    · rcases List.mem_cons.1 hx with rfl | hx
      · simp [hn, hnok]
      · simpa [hfr x hx] using hS.items x hx
    · exact List.nodup_cons.2 ⟨hw.not_mem_of_stack_none hnst s, hS.nodup⟩
  · have hne : a ≠ n := fun e => hy (e ▸ List.mem_cons_self ..)
    exact ⟨ha, fun hm => hy (List.mem_cons_of_mem _ hm), hz, by simp [hne]⟩

/-- Taking the member `it` out of `s`, whichever writes do it: `Stack.Pop` (`pop_nonempty`) redirects the head
pointer, `Item.Remove` (`itemRemove_mid`) the predecessor's `next`. -/
theorem remove (hw : WF h g sent) {s it : Nat} (hs : s < h.ns) (hit : it ∈ g s) {h' : Heap}
    (hns : h'.ns = h.ns) (hni : h'.ni = h.ni) (hhdr : ∀ t, t ≠ s → h'.hdr t = h.hdr t)
    (hlen : (h'.hdr s).length = (h.hdr s).length - 1) (hdet : (h'.item it).stack = none)
    (hcell : ∀ a, a ≠ it → (h'.item a).stack = (h.item a).stack ∧ (h'.item a).ok = (h.item a).ok ∧
      (a ∉ g s → h'.item a = h.item a))
    (hchain : ∀ z, sent s = some z → Seg h' (h'.hdr s).head ((g s).erase it) (some z)) :
    WF h' (upd g s ((g s).erase it)) sent := by
  have hS := hw.stk s hs
  obtain ⟨z, hz⟩ := hw.sent_of_mem hit
  have hmem : ∀ y, y ∈ (g s).erase it → y ∈ g s ∧ y ≠ it := fun y hy =>
    ⟨List.mem_of_mem_erase hy, fun e => (hS.nodup.mem_erase_iff.1 hy).1 e⟩
  rw [← upd_eq_self sent s _ rfl]
  refine hw.frame hs hns (Nat.le_of_eq hni.symm) hhdr (fun a t e _ hst => ?_) ?_ (fun a ha hy hsn => ?_)
  · have hm : a ∉ g s := fun hm => e (by
      rw [(hw.item_of_mem hm).2.2] at hst
      exact (Option.some.inj hst).symm)
    exact (hcell a fun ea => hm (ea ▸ hit)).2.2 hm
  · rw [hz]
    refine ⟨nofun, fun z' e => e ▸ hchain z hz, fun z' e => ?_, ?_, fun y hy => ?_,
      hS.nodup.sublist List.erase_sublist⟩
    · cases e
      rw [(hcell z (fun e => hw.not_sent_of_mem hit (e ▸ hz))).2.2 (fun hm => hw.not_sent_of_mem hm hz), hni]
      exact hS.sentinel z hz
    · have := List.length_pos_of_mem hit
      rw [hlen, hS.len, List.length_erase_of_mem hit]
      omega
    · obtain ⟨e1, e2, _⟩ := hcell y (hmem y hy).2
      rw [e1, e2, hni]
      exact hS.items y (hmem y hy).1
  · by_cases e : a = it
    · exact Or.inl (e ▸ hdet)
    · exact Or.inr ⟨hni ▸ ha, fun hm => hy ((List.mem_erase_of_ne e).2 hm), hsn, (hcell a e).1⟩

theorem pop_nonempty (hw : WF h g sent) {s x : Nat} {xs : List Nat} (hs : s < h.ns) (hg : g s = x :: xs) :
    ∃ h', h.pop s = some (h', x) ∧ WF h' (upd g s xs) sent ∧ (h'.item x).stack = none ∧
      (∀ t, x ∉ upd g s xs t) ∧ (h'.item x).value = (h.item x).value ∧ (h'.item x).ok = true := by
  have hS := hw.stk s hs
  have hx : x ∈ g s := by rw [hg]; exact List.mem_cons_self ..
  obtain ⟨z, hz⟩ := hw.sent_of_mem hx
  have hh := hw.head_eq hz
  have hch := hS.chain z hz
  have hnd := hS.nodup
  rw [hg] at hh hch hnd
  have hl : (h.hdr s).length ≠ 0 := by rw [hS.len, hg]; exact Int.natCast_ne_zero.2 (Nat.succ_ne_zero _)
  have hst : ((h.popped s x).item x).stack = none := by simp [Heap.popped]
  have hw' : WF (h.popped s x) (upd g s xs) sent := by
    have := hw.remove hs hx (h' := h.popped s x) rfl rfl (fun t e => by simp [Heap.popped, e])
      (by simp [Heap.popped]) hst (fun a e => by simp [Heap.popped, e]) (fun z' hz' => ?_)
    · rwa [hg, List.erase_cons_head] at this
    · cases hz.symm.trans hz'
      rw [hg, List.erase_cons_head]
      simp only [Heap.popped, setHdr_hdr_same]
      exact hch.2.congr (fun y hy => by simp [show y ≠ x from fun e => (List.nodup_cons.1 hnd).1 (e ▸ hy)])
  exact ⟨_, by simp [pop, hh, hl, Heap.popped], hw', hst, hw'.not_mem_of_stack_none hst, by simp [Heap.popped],
    by simpa [Heap.popped] using (hw.item_of_mem hx).2.1⟩

theorem pop_empty (hw : WF h g sent) {s : Nat} (hs : s < h.ns) (hg : g s = []) :
    ∃ z, h.pop s = some (h.lazyInit s, z) ∧ WF (h.lazyInit s) g (initSent h sent s) ∧
      initSent h sent s s = some z ∧ (h.head s).2 = some z ∧ ((h.lazyInit s).item z).ok = false ∧
      ((h.lazyInit s).item z).stack = some s ∧ ((h.lazyInit s).hdr s).length = 0 := by
  have hw' := hw.lazyInit hs
  have key : ∃ z, initSent h sent s s = some z ∧ h.pop s = some (h.lazyInit s, z) ∧
      ((h.lazyInit s).hdr s).head = some z := by
    by_cases hh : (h.hdr s).head = none
    · exact ⟨h.ni, by simp [initSent, hh], by simp [pop, hh, Heap.lazyInit], by simp [lazyInit_of_head_none hh]⟩
    · obtain ⟨z, hz⟩ := hw.sent_of_head hs hh
      have hl : (h.hdr s).length = 0 := by rw [(hw.stk s hs).len, hg]; rfl
      have ha : (h.hdr s).head = some z := by rw [hw.head_eq hz, hg]; rfl
      rw [lazyInit_of_head_some ha]
      exact ⟨z, by simp [initSent, ha, hz], by simp [pop, ha, hl], ha⟩
  obtain ⟨z, hz, hp, hhd⟩ := key
  obtain ⟨_, hok, _, hst⟩ := hw'.sentinel_of_sent hz
  refine ⟨z, hp, hw', hz, hhd, hok, hst, ?_⟩
  rw [(hw'.stk s (hw'.lt_ns_of_sent hz)).len, hg]; rfl

/-- the pop that finds the stack empty returns the sentinel, which is then the head, and that ends the loop -/
theorem popIterLoop {s : Nat} :
    ∀ (fuel : Nat) (h : Heap) (g : Nat → List Nat) (acc : List Nat), WF h g sent → s < h.ns →
      (g s).length < fuel →
      ∃ h', h.popIterLoop s fuel acc = some (h', acc.reverse ++ g s) ∧
        WF h' (upd g s []) (initSent h sent s) ∧ h.ni ≤ h'.ni ∧ h'.ns = h.ns := by
  intro fuel
  induction fuel with
  | zero => intro h g acc _ _ hf; cases hf
  | succ f ih =>
    intro h g acc hw hs hf
    cases hg : g s with
    | nil =>
      obtain ⟨z, hp, hw', _, hhd, _⟩ := hw.pop_empty hs hg
      rw [upd_eq_self _ _ _ hg]
      exact ⟨_, by simp [Heap.popIterLoop, hp, show ((h.lazyInit s).hdr s).head = some z from hhd], hw',
        pop_mono hp⟩
    | cons x xs =>
      obtain ⟨h1, hp, hw1, hst, _⟩ := hw.pop_nonempty hs hg
      obtain ⟨hni1, hns1⟩ := pop_mono hp
      obtain ⟨z, hz⟩ := hw.sent_of_mem (s := s) (x := x) (by simp [hg])
      have hs1 : s < h1.ns := hns1 ▸ hs
      -- the new head points back to `s`, the popped item does not
      have hgo : (h1.hdr s).head ≠ some x := fun e => by
        rw [(hw1.head_item hs1 e).2] at hst; cases hst
      rw [hg] at hf
      obtain ⟨h', hrun, hwf, hni, hns⟩ := ih h1 (upd g s xs) (x :: acc) hw1 hs1
        (by simpa using Nat.lt_of_succ_lt_succ hf)
      rw [initSent, if_neg (by simp [hw1.head_eq hz]), upd_upd] at hwf
      rw [initSent, if_neg (by simp [hw.head_eq hz])]
      refine ⟨h', ?_, hwf, Nat.le_trans hni1 hni, hns.trans hns1⟩
      simp only [Heap.popIterLoop, hp]
      simpa [hgo] using hrun

theorem itemRemove_mid (hw : WF h g sent) {s it : Nat} (hit : it ∈ g s) (hnh : (h.hdr s).head ≠ some it) :
    ∃ h', h.itemRemove it = some (h', true) ∧ WF h' (upd g s ((g s).erase it)) sent ∧
      (h'.item it).stack = none ∧ (∀ t, it ∉ upd g s ((g s).erase it) t) ∧
      (h'.hdr s).length = (h.hdr s).length - 1 := by
  have hs := hw.lt_ns_of_mem hit
  have hS := hw.stk s hs
  obtain ⟨z, hz⟩ := hw.sent_of_mem hit
  obtain ⟨q', post, hg⟩ := List.mem_iff_append.1 hit
  have hch := hS.chain z hz
  rcases List.eq_nil_or_concat q' with rfl | ⟨q, pl, rfl⟩
  · rw [hg] at hch; exact absurd hch.1 hnh
  -- `it` is not the head, so it has a predecessor `pl`: the cell at which the loop stops
  have hg' : g s = q ++ pl :: it :: post := by rw [hg]; simp
  have hnd := hS.nodup
  rw [hg'] at hnd hch
  simp only [List.nodup_append, List.nodup_cons, List.mem_cons, not_or, ne_eq] at hnd
  obtain ⟨-, ⟨⟨hplit, hplpost⟩, hitpost, -⟩, hq⟩ := hnd
  have hitq : it ∉ q := fun hm => hq it hm it (Or.inr (Or.inl rfl)) rfl
  have hpl : pl ∈ g s := by rw [hg']; simp
  have her : (g s).erase it = q ++ pl :: post := by
    rw [hg', List.erase_append_right _ hitq, List.erase_cons_tail (by simpa using hplit), List.erase_cons_head]
  have hst : ((h.unlinked s pl it).item it).stack = none := by simp [Heap.unlinked]
  have hfr : ∀ y, y ≠ pl → y ≠ it → (h.unlinked s pl it).item y = h.item y := fun y h1 h2 => by
    simp [Heap.unlinked, h1, h2]
  have hw' : WF (h.unlinked s pl it) (upd g s ((g s).erase it)) sent := by
    refine hw.remove hs hit rfl rfl (fun t e => by simp [Heap.unlinked, e]) (by simp [Heap.unlinked]) hst
      (fun a e => ?_) (fun z' hz' => ?_)
    · by_cases e' : a = pl
      · subst e'; simp [Heap.unlinked, e, hpl]
      · simp [hfr a e' e]
    · cases hz.symm.trans hz'
      rw [Seg_append] at hch
      obtain ⟨m, hch1, hm, hplnext, hch3⟩ := hch
      rw [her, Seg_append]
      refine ⟨m, ?_, hm, ?_⟩
      · simp only [Heap.unlinked, setHdr_hdr_same]
        exact hch1.congr (fun y hy => hfr y (hq y hy pl (Or.inl rfl)) (hq y hy it (Or.inr (Or.inl rfl))) ▸ rfl)
      · have hnx : ((h.unlinked s pl it).item pl).next = (h.item it).next := by simp [Heap.unlinked, hplit]
        rw [hnx]
        exact hch3.congr (fun y hy => by rw [hfr y (fun e => hplpost (e ▸ hy)) (fun e => hitpost (e ▸ hy))])
  refine ⟨_, ?_, hw', hst, hw'.not_mem_of_stack_none hst, by simp [Heap.unlinked]⟩
  obtain ⟨-, hok, hstk⟩ := hw.item_of_mem hit
  have hlen : q.length < (h.hdr s).length.toNat + 2 := by
    rw [hS.len, Int.toNat_natCast, hg', List.length_append]; omega
  have := removeLoop_spec (s := s) hplit (hw.item_of_mem hpl).2.1 q _ _ hch
    (fun y hy => ⟨(hw.item_of_mem (s := s) (by rw [hg']; simp [hy])).2.1, fun e => hitq (e ▸ hy)⟩) hlen
  simp only [itemRemove, hstk, hok, if_neg hnh]
  simpa using this

theorem nodup (hw : WF h g sent) (s : Nat) : (g s).Nodup := by
  by_cases hs : s < h.ns
  · exact (hw.stk s hs).nodup
  · rw [(hw.fresh s (Nat.le_of_not_lt hs)).1]; exact List.nodup_nil

/-- an allocated stack has a nil head and is empty, or is a `next`-chain through exactly `g s` ending in a sentinel -/
theorem shape (hw : WF h g sent) {s : Nat} (hs : s < h.ns) :
    ((h.hdr s).head = none ∧ g s = [] ∧ (h.hdr s).length = 0 ∧ sent s = none) ∨
    (∃ a z, (h.hdr s).head = some a ∧ sent s = some z ∧ Seg h (some a) (g s) (some z) ∧
      z < h.ni ∧ (h.item z).ok = false ∧ (h.item z).next = none ∧ (h.item z).stack = some s) := by
  have hS := hw.stk s hs
  cases hz : sent s with
  | none =>
    obtain ⟨h1, h2⟩ := hS.empty hz
    exact Or.inl ⟨h1, h2, by rw [hS.len, h2]; rfl, rfl⟩
  | some z =>
    have hc := hS.chain z hz
    obtain ⟨a, ha⟩ := hc.start_some
    exact Or.inr ⟨a, z, ha, rfl, ha ▸ hc, hS.sentinel z hz⟩

/-- the traversal from the raw head pointer (`Producer`; `s.Head()` would run `lazyInit` first) -/
theorem walk (hw : WF h g sent) {s fuel : Nat} (hs : s < h.ns) (hf : (g s).length < fuel) :
    h.walk fuel (h.hdr s).head = (g s, if (h.hdr s).head = none then "nil" else "end") := by
  rcases hw.shape hs with ⟨h1, h2, -, -⟩ | ⟨a, z, ha, -, hc, -, hok, -⟩
  · rcases fuel with _ | f
    · cases hf
    · rw [h1, h2]; rfl
  · rw [ha, walk_seg hok (g s) _ fuel hc (fun x hx => (hw.item_of_mem hx).2.1) hf]
    rfl

theorem stack_iff_mem (hw : WF h g sent) {a s : Nat} (ha : a < h.ni) (hns : ∀ t, sent t ≠ some a) :
    (h.item a).stack = some s ↔ a ∈ g s :=
  ⟨fun hst => (hw.of_stack_some ha hst).resolve_right (hns s), fun hx => (hw.item_of_mem hx).2.2⟩

theorem head_ne (hw : WF h g sent) {s it : Nat} (hit : it ∈ g s) (hnh : (g s).head? ≠ some it) :
    (h.hdr s).head ≠ some it := by
  obtain ⟨z, hz⟩ := hw.sent_of_mem hit
  rw [hw.head_eq hz]
  cases hg : g s with
  | nil => rw [hg] at hit; cases hit
  | cons x xs => rw [hg] at hnh; simpa using hnh

theorem head (hw : WF h g sent) {s : Nat} (hs : s < h.ns) :
    WF (h.head s).1 g (initSent h sent s) ∧
    ∃ z, initSent h sent s s = some z ∧ (h.head s).2 = some ((g s).headD z) := by
  have hw' := hw.lazyInit hs
  obtain ⟨a, ha⟩ := lazyInit_head h s
  obtain ⟨z, hz⟩ := hw'.sent_of_head (by simpa using hs) (by simp [ha])
  exact ⟨hw', z, hz, hw'.head_eq hz⟩

/-- `Push(v)`: the fresh item `n` is `h.ni`, or `h.ni + 1` when `lazyInit` had to allocate the sentinel first -/
theorem push (hw : WF h g sent) {s : Nat} (hs : s < h.ns) (v : Int) :
    ∃ h' n, h.push s v = some h' ∧ n = (if (h.hdr s).head = none then h.ni + 1 else h.ni) ∧
      WF h' (upd g s (n :: g s)) (initSent h sent s) ∧
      (h'.item n).value = v ∧ (h'.item n).ok = true ∧ (h'.hdr s).length = (h.hdr s).length + 1 := by
  have hw1 := hw.lazyInit hs
  have hs1 : s < (h.lazyInit s).ns := by simpa using hs
  obtain ⟨hd, hhd⟩ := lazyInit_head h s
  have hlen : ((h.lazyInit s).hdr s).length = (h.hdr s).length :=
    (hw1.stk s hs1).len.trans (hw.stk s hs).len.symm
  have hni := lazyInit_ni h s
  simp only [Heap.push]
  generalize h.lazyInit s = h1 at hw1 hs1 hhd hlen hni ⊢
  -- the head `hd` is an item or the sentinel of `s`, so `hd.Append` links the fresh item on top of `s`
  obtain ⟨hdlt, hdst⟩ := hw1.head_item hs1 hhd
  have hne : hd ≠ h1.ni := Nat.ne_of_lt hdlt
  obtain ⟨h', hp, hw2, hv⟩ := (hw1.alloc { ok := true, value := v } rfl).itemAppend_accept (it := hd)
    (n := h1.ni) (s := s) (Nat.lt_succ_of_lt hdlt) (Nat.lt_succ_self _) (by simpa [hne] using hdst) (by simp)
    (by simp)
  have hn : h1.ni ∈ upd g s (h1.ni :: g s) s := by simp
  refine ⟨h', h1.ni, by simp [hhd, hp], hni, hw2, by simpa using hv, (hw2.item_of_mem hn).2.1, ?_⟩
  rw [(hw2.stk s (hw2.lt_ns_of_mem hn)).len, ← hlen, (hw1.stk s hs1).len]
  simp

theorem pop_empty_push (hw : WF h g sent) {s : Nat} (hs : s < h.ns) (hg : g s = []) (v : Int) :
    ∃ z h' n, h.pop s = some (h.lazyInit s, z) ∧ (h.lazyInit s).push s v = some h' ∧
      WF h' (upd g s [n]) (initSent h sent s) ∧ (h'.item n).value = v ∧ (h'.hdr s).length = 1 := by
  obtain ⟨z, hp, hw1, hz, _, _, _, hl⟩ := hw.pop_empty hs hg
  have hs1 : s < (h.lazyInit s).ns := hw1.lt_ns_of_sent hz
  obtain ⟨h', n, hpush, _, hw2, hv, _, hl2⟩ := hw1.push hs1 v
  obtain ⟨a, ha⟩ := lazyInit_head h s
  rw [hg] at hw2
  rw [initSent, if_neg (by simp [ha])] at hw2
  exact ⟨z, h', n, hp, hpush, hw2, hv, by rw [hl2, hl]; rfl⟩

/-- `PopIterator` run to EOF -/
theorem popIter (hw : WF h g sent) {s fuel : Nat} (hs : s < h.ns) (hf : (g s).length < fuel) :
    ∃ h', h.popIterLoop s fuel [] = some (h', g s) ∧ WF h' (upd g s []) (initSent h sent s) ∧
      (∀ x, x ∈ g s → (h'.item x).stack = none) ∧ (h'.hdr s).length = 0 := by
  obtain ⟨h', hp, hw', hni, hns⟩ := WF.popIterLoop fuel h g [] hw hs hf
  refine ⟨h', by simpa using hp, hw', fun x hx => ?_, ?_⟩
  · obtain ⟨hlt, hok, _⟩ := hw.item_of_mem hx
    refine hw'.detached x (Nat.lt_of_lt_of_le hlt hni) (fun t ht => ?_)
      (fun t => (hw.lazyInit hs).not_sent_of_mem hx)
    by_cases e : t = s
    · subst e; rw [upd_same] at ht; cases ht
    · rw [upd_ne _ _ _ _ e] at ht; exact e (hw.disjoint ht hx)
  · have hs' : s < h'.ns := by rw [hns]; exact hs
    rw [(hw'.stk s hs').len, upd_same]; rfl

end WF

/-- the items `Item.Set` refuses (`stack != nil && next == nil`) are exactly the sentinels -/
theorem refused_iff (hw : WF h g sent) {it : Nat}
    (hit : it < h.ni) :
    ((h.item it).stack.isSome = true ∧ (h.item it).next = none) ↔
      ∃ s, sent s = some it := by
  constructor
  · rintro ⟨h1, h2⟩
    obtain ⟨s, hs⟩ := Option.isSome_iff_exists.1 h1
    rcases hw.of_stack_some hit hs with e | e
    · have hS := hw.stk s (hw.lt_ns_of_mem e)
      cases hz : sent s with
      | none => have := (hS.empty hz).2; rw [this] at e; cases e
      | some z =>
        -- the chain goes on from `it` to the sentinel, so `it.next` is not nil
        obtain ⟨q, post, hg⟩ := List.append_of_mem e
        have hc := hS.chain z hz
        rw [hg, Seg_append] at hc
        obtain ⟨_, _, _, hc⟩ := hc
        obtain ⟨a, ha⟩ := hc.start_some
        rw [h2] at ha; cases ha
    · exact ⟨s, e⟩
  · rintro ⟨s, hz⟩
    obtain ⟨_, _, hnx, hst⟩ := hw.sentinel_of_sent hz
    exact ⟨by simp [hst], hnx⟩

theorem WF.itemSet_refused_iff (hw : WF h g sent) {it : Nat} (hit : it < h.ni) (v : Int) :
    (h.itemSet it v).2 = false ↔ ∃ s, sent s = some it := by
  rw [← refused_iff hw hit]
  by_cases hr : (h.item it).stack.isSome = true ∧ (h.item it).next = none
  · simp [(itemSet_eq h it v).1 hr, hr]
  · simp [(itemSet_eq h it v).2 hr, hr]

theorem WF.itemSet (hw : WF h g sent) {it : Nat} (hit : it < h.ni) (v : Int) (hns : ∀ t, sent t ≠ some it) :
    (h.itemSet it v).2 = true ∧ WF (h.itemSet it v).1 g sent ∧
      ((h.itemSet it v).1.item it).value = v ∧ ((h.itemSet it v).1.item it).ok = true := by
  have hr : ¬ ((h.item it).stack.isSome = true ∧ (h.item it).next = none) := fun hr =>
    let ⟨s, hz⟩ := (refused_iff hw hit).1 hr
    hns s hz
  rw [(itemSet_eq h it v).2 hr]
  exact ⟨rfl, hw.setValue v hns, by simp, by simp⟩

theorem WF.itemSet_preserves (hw : WF h g sent) {it : Nat} (hit : it < h.ni) (v : Int) :
    WF (h.itemSet it v).1 g sent ∧ ((∃ s, sent s = some it) → h.itemSet it v = (h, false)) := by
  by_cases hr : (h.item it).stack.isSome = true ∧ (h.item it).next = none
  · rw [(itemSet_eq h it v).1 hr]; exact ⟨hw, fun _ => rfl⟩
  · have hns : ∀ t, sent t ≠ some it := fun t ht => hr ((refused_iff hw hit).2 ⟨t, ht⟩)
    exact ⟨(hw.itemSet hit v hns).2.1, fun ⟨t, ht⟩ => absurd ht (hns t)⟩

/-- heaps reachable from the empty heap by the modelled operations on allocated arguments (`Item.Detach` and
`Item.Attach` are not modelled). `Item.Remove` of a top item is left out: it breaks the invariant
(`C16Stack.remove_head_breaks_wf`). -/
inductive Reachable : Heap → Prop
  | empty : Reachable {}
  | allocStack {h : Heap} : Reachable h → Reachable h.allocStack.1
  | alloc {h : Heap} (n : Item) : Reachable h → n.stack = none → Reachable (h.alloc n).1
  | push {h h' : Heap} {s : Nat} {v : Int} : Reachable h → s < h.ns → h.push s v = some h' → Reachable h'
  | pop {h h' : Heap} {s x : Nat} : Reachable h → s < h.ns → h.pop s = some (h', x) → Reachable h'
  | head {h : Heap} {s : Nat} : Reachable h → s < h.ns → Reachable (h.head s).1
  | itemAppend {h h' : Heap} {it r : Nat} {n : Option Nat} : Reachable h → it < h.ni →
      (∀ n', n = some n' → n' < h.ni) → h.itemAppend it n = some (h', r) → Reachable h'
  | itemRemove {h h' : Heap} {it : Nat} {b : Bool} : Reachable h → it < h.ni →
      (∀ s, (h.item it).stack = some s → (h.hdr s).head ≠ some it) →
      h.itemRemove it = some (h', b) → Reachable h'
  | itemSet {h : Heap} {it : Nat} {v : Int} : Reachable h → it < h.ni → Reachable (h.itemSet it v).1
  | popIter {h h' : Heap} {s fuel : Nat} {out : List Nat} : Reachable h → s < h.ns →
      (h.hdr s).length.toNat < fuel → h.popIterLoop s fuel [] = some (h', out) → Reachable h'

theorem Reachable.wf {h : Heap} (hr : Reachable h) : ∃ g sent, WF h g sent := by
  induction hr with
  | empty => exact ⟨_, _, WF.init⟩
  | allocStack _ ih => obtain ⟨g, sent, hw⟩ := ih; exact ⟨g, sent, hw.allocStack⟩
  | alloc n _ hn ih => obtain ⟨g, sent, hw⟩ := ih; exact ⟨g, sent, hw.alloc n hn⟩
  | @push h h' s v _ hs hp ih =>
    obtain ⟨g, sent, hw⟩ := ih
    obtain ⟨h'', _, hp', _, hw', _⟩ := hw.push hs v
    rw [hp] at hp'; cases hp'
    exact ⟨_, _, hw'⟩
  | @pop h h' s x _ hs hp ih =>
    obtain ⟨g, sent, hw⟩ := ih
    cases hg : g s with
    | nil =>
      obtain ⟨z, hp', hw', _⟩ := hw.pop_empty hs hg
      rw [hp] at hp'; cases hp'
      exact ⟨_, _, hw'⟩
    | cons y ys =>
      obtain ⟨h'', hp', hw', _⟩ := hw.pop_nonempty hs hg
      rw [hp] at hp'; cases hp'
      exact ⟨_, _, hw'⟩
  | @head h s _ hs ih =>
    obtain ⟨g, sent, hw⟩ := ih
    exact ⟨_, _, hw.lazyInit hs⟩
  | @itemAppend h h' it r n _ hit hn hp ih =>
    obtain ⟨g, sent, hw⟩ := ih
    by_cases hacc : ∃ n' s, n = some n' ∧ (h.item it).stack = some s ∧ (h.item n').stack = none ∧
        (h.item n').ok = true
    · obtain ⟨n', s, rfl, h1, h2, h3⟩ := hacc
      obtain ⟨h'', hp', hw', _⟩ := hw.itemAppend_accept hit (hn n' rfl) h1 h2 h3
      rw [hp] at hp'; cases hp'
      exact ⟨_, _, hw'⟩
    · rw [itemAppend_reject h it n hacc] at hp; cases hp
      exact ⟨g, sent, hw⟩
  | @itemRemove h h' it b _ hit hnh hp ih =>
    obtain ⟨g, sent, hw⟩ := ih
    cases hst : (h.item it).stack with
    | none =>
      rw [itemRemove_reject h it (Or.inl hst)] at hp; cases hp
      exact ⟨g, sent, hw⟩
    | some s =>
      cases hok : (h.item it).ok with
      | false =>
        rw [itemRemove_reject h it (Or.inr hok)] at hp; cases hp
        exact ⟨g, sent, hw⟩
      | true =>
        have hmem := (hw.stack_iff_mem hit (fun t ht => by
          have := (hw.sentinel_of_sent ht).2.1
          rw [hok] at this; cases this)).1 hst
        obtain ⟨_, hp', hw', _⟩ := hw.itemRemove_mid hmem (hnh s hst)
        rw [hp] at hp'; cases hp'
        exact ⟨_, _, hw'⟩
  | @itemSet h it v _ hit ih =>
    obtain ⟨g, sent, hw⟩ := ih
    exact ⟨g, sent, (hw.itemSet_preserves hit v).1⟩
  | @popIter h h' s fuel out _ hs hf hp ih =>
    obtain ⟨g, sent, hw⟩ := ih
    have hf' : (g s).length < fuel := by
      rw [(hw.stk s hs).len] at hf; simpa using hf
    obtain ⟨h'', hp', hw', _⟩ := hw.popIter hs hf'
    rw [hp] at hp'; cases hp'
    exact ⟨_, _, hw'⟩

end FunModel.Sll
