/-! Lookup by key in a list. The tables of the queue, deque and set models (`vals`, `cursors`, `links`, `hash`, the
    element list of an ordered set) are lists searched with `find?` for the first entry whose key, a component `f`
    of the entry, is `k`; the models spell the search out. -/

namespace List
variable {α β : Type} {f : α → β} {l : List α}

theorem eq_of_map_eq_of_nodup (f : α → β) (h : (l.map f).Nodup) {p q : α} (hp : p ∈ l) (hq : q ∈ l)
    (e : f p = f q) : p = q := by
  induction l with
  | nil => cases hp
  | cons x t ih =>
    simp only [map_cons, nodup_cons, mem_map, not_exists, not_and] at h
    rcases mem_cons.mp hp with rfl | hp' <;> rcases mem_cons.mp hq with rfl | hq'
    · rfl
    · exact absurd e.symm (h.1 q hq')
    · exact absurd e (h.1 p hp')
    · exact ih h.2 hp' hq'

variable [BEq β] [LawfulBEq β]

theorem find?_filter_key_ne {k k' : β} (h : k' ≠ k) :
    (l.filter (fun p => f p != k)).find? (fun p => f p == k') = l.find? (fun p => f p == k') := by
  rw [find?_filter]
  congr; funext p
  by_cases e : f p = k' <;> simp_all

theorem mem_of_find?_key {k : β} {p : α} (h : l.find? (fun q => f q == k) = some p) : p ∈ l ∧ f p = k :=
  ⟨mem_of_find?_eq_some h, by simpa using find?_some h⟩

theorem exists_find?_of_mem_map {k : β} (h : k ∈ l.map f) :
    ∃ p, l.find? (fun q => f q == k) = some p ∧ p ∈ l ∧ f p = k := by
  obtain ⟨q, hq, hqk⟩ := mem_map.mp h
  cases hf : l.find? (fun q => f q == k) with
  | none => exact absurd (beq_iff_eq.mpr hqk) (find?_eq_none.mp hf q hq)
  | some p => exact ⟨p, rfl, mem_of_find?_key hf⟩

theorem find?_of_mem_of_nodup (hn : (l.map f).Nodup) {p : α} (hp : p ∈ l) : l.find? (fun q => f q == f p) = some p := by
  obtain ⟨q, hf, hq, hqk⟩ := exists_find?_of_mem_map (mem_map.mpr ⟨p, hp, rfl⟩ : f p ∈ l.map f)
  rw [hf, eq_of_map_eq_of_nodup f hn hq hp hqk]

end List
