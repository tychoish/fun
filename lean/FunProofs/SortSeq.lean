import FunModel.SortSeq

/-! The vocabulary of the C17 statements (`StrictWeak`, `Sorted`, `AdjSorted`, `equiv`, `heapOf`) and the lemmas
    about the sequence-level model of `dt/cmp.go`. Inserting `e` into `l` (`insertStable`, and the reversed scan
    of `Heap.Push`) is merging `l` with `[e]`, so permutation, sortedness and stability are proved once, for
    `merge`. -/

namespace FunModel.SortSeq

variable {α β : Type}

/-- `lt` is a strict weak ordering, Bool-valued like Go's `cmp.LessThan`. -/
structure StrictWeak (lt : α → α → Bool) : Prop where
  irrefl : ∀ a, lt a a = false
  trans : ∀ a b c, lt a b = true → lt b c = true → lt a c = true
  /-- equivalently: incomparability is transitive -/
  negTrans : ∀ a b c, lt a b = false → lt b c = false → lt a c = false

theorem StrictWeak.asymm {lt : α → α → Bool} (h : StrictWeak lt) {a b : α}
    (hab : lt a b = true) : lt b a = false := by
  cases hba : lt b a with
  | false => rfl
  | true =>
    have h1 := h.trans a b a hab hba
    rw [h.irrefl] at h1
    exact absurd h1 (by decide)

theorem StrictWeak.flip {lt : α → α → Bool} (h : StrictWeak lt) :
    StrictWeak (fun a b => lt b a) :=
  ⟨h.irrefl, fun a b c h1 h2 => h.trans c b a h2 h1, fun a b c h1 h2 => h.negTrans c b a h2 h1⟩

theorem StrictWeak.comap {lt : α → α → Bool} (f : β → α) (h : StrictWeak lt) :
    StrictWeak (fun a b => lt (f a) (f b)) :=
  ⟨fun _ => h.irrefl _, fun _ _ _ => h.trans _ _ _, fun _ _ _ => h.negTrans _ _ _⟩

def Sorted (lt : α → α → Bool) (xs : List α) : Prop := xs.Pairwise (fun a b => lt b a = false)

def AdjSorted (lt : α → α → Bool) (xs : List α) : Prop :=
  ∀ i, (h : i + 1 < xs.length) → lt xs[i + 1] xs[i] = false

/-- `x` is in the class of `k`. Stability is stated class by class, as `l.filter (equiv lt k)` for every `k`. -/
def equiv (lt : α → α → Bool) (k x : α) : Bool := !lt x k && !lt k x

theorem equiv_iff {lt : α → α → Bool} {k x : α} :
    equiv lt k x = true ↔ lt x k = false ∧ lt k x = false := by
  simp [equiv]

theorem equiv_refl {lt : α → α → Bool} (h : StrictWeak lt) (k : α) : equiv lt k k = true := by
  simp [equiv, h.irrefl]

theorem equiv_not_lt {lt : α → α → Bool} (h : StrictWeak lt) {k x e : α}
    (hx : equiv lt k x = true) (he : equiv lt k e = true) : lt x e = false :=
  h.negTrans x k e (equiv_iff.mp hx).1 (equiv_iff.mp he).2

theorem equiv_flip (lt : α → α → Bool) (k : α) : equiv (fun a b => lt b a) k = equiv lt k :=
  funext fun _ => Bool.and_comm _ _

theorem sorted_nil (lt : α → α → Bool) : Sorted lt [] := List.Pairwise.nil

theorem sorted_cons {lt : α → α → Bool} {x : α} {xs : List α} :
    Sorted lt (x :: xs) ↔ (∀ z ∈ xs, lt z x = false) ∧ Sorted lt xs :=
  List.pairwise_cons

theorem sorted_of_length_lt_two (lt : α → α → Bool) {xs : List α} (h : xs.length < 2) :
    Sorted lt xs := by
  match xs, h with
  | [], _ => exact sorted_nil lt
  | [x], _ => exact sorted_cons.mpr ⟨by simp, sorted_nil lt⟩

theorem sorted_singleton (lt : α → α → Bool) (x : α) : Sorted lt [x] :=
  sorted_of_length_lt_two lt (Nat.lt_succ_self 1)

theorem sorted_flip_reverse {lt : α → α → Bool} {l : List α} :
    Sorted (fun a b => lt b a) l.reverse ↔ Sorted lt l :=
  List.pairwise_reverse

theorem Sorted.not_lt {lt : α → α → Bool} (h : StrictWeak lt) {x y : α} {xs : List α}
    (hs : Sorted lt (x :: xs)) (hxy : lt x y = false) : ∀ z ∈ x :: xs, lt z y = false := by
  intro z hz
  rcases List.mem_cons.mp hz with rfl | hz
  · exact hxy
  · exact h.negTrans z x y ((sorted_cons.mp hs).1 z hz) hxy

theorem Sorted.not_lt_of_lt_head {lt : α → α → Bool} (h : StrictWeak lt) {x y : α} {ys : List α}
    (hs : Sorted lt (y :: ys)) (hxy : lt x y = true) : ∀ z ∈ y :: ys, lt z x = false := by
  intro z hz
  cases hzx : lt z x with
  | false => rfl
  | true =>
    -- `z < x < y`, but nothing in `y :: ys` is less than `y`
    exact absurd (h.trans z x y hzx hxy)
      (by rw [hs.not_lt h (h.irrefl y) z hz]; exact Bool.false_ne_true)

theorem sorted_cons_cons {lt : α → α → Bool} (h : StrictWeak lt) {x y : α} {rest : List α} :
    Sorted lt (x :: y :: rest) ↔ lt y x = false ∧ Sorted lt (y :: rest) := by
  rw [sorted_cons]
  exact ⟨fun ⟨h1, h2⟩ => ⟨h1 y List.mem_cons_self, h2⟩, fun ⟨h1, h2⟩ => ⟨h2.not_lt h h1, h2⟩⟩

theorem adjSorted_cons_cons {lt : α → α → Bool} {x y : α} {rest : List α} :
    AdjSorted lt (x :: y :: rest) ↔ lt y x = false ∧ AdjSorted lt (y :: rest) := by
  constructor
  · intro hA
    exact ⟨hA 0 (Nat.succ_lt_succ (Nat.succ_pos _)), fun i hi => hA (i + 1) (Nat.succ_lt_succ hi)⟩
  · rintro ⟨hyx, hA⟩ i hi
    cases i with
    | zero => exact hyx
    | succ i => exact hA i (Nat.lt_of_succ_lt_succ hi)

theorem merge_nil_left (lt : α → α → Bool) (b : List α) : merge lt [] b = b := by
  simp [merge]

theorem merge_nil_right (lt : α → α → Bool) (a : List α) : merge lt a [] = a := by
  cases a <;> simp [merge]

theorem merge_cons_cons (lt : α → α → Bool) (x y : α) (a b : List α) :
    merge lt (x :: a) (y :: b) =
      if lt x y then x :: merge lt a (y :: b) else y :: merge lt (x :: a) b := by
  rw [merge]

/-- the model's `merge` is core's, with the strict `lt` where core expects a `≤`: what core proves of `List.merge`
    for an arbitrary comparison (permutation, `map`) holds of it; sortedness and stability need the proofs below -/
theorem merge_eq_listMerge (lt : α → α → Bool) (a b : List α) : merge lt a b = a.merge b lt := by
  fun_induction merge lt a b <;> simp [*]

theorem merge_perm (lt : α → α → Bool) (a b : List α) : (merge lt a b).Perm (a ++ b) :=
  merge_eq_listMerge lt a b ▸ List.merge_perm_append lt

theorem mem_merge {lt : α → α → Bool} {a b : List α} {z : α} :
    z ∈ merge lt a b ↔ z ∈ a ∨ z ∈ b := by
  rw [(merge_perm lt a b).mem_iff, List.mem_append]

theorem merge_sorted {lt : α → α → Bool} (h : StrictWeak lt) (a b : List α)
    (ha : Sorted lt a) (hb : Sorted lt b) : Sorted lt (merge lt a b) := by
  fun_induction merge lt a b with
  | case1 b => exact hb
  | case2 a _ => exact ha
  | case3 x a y b hxy ih =>
    refine sorted_cons.mpr ⟨fun z hz => ?_, ih (sorted_cons.mp ha).2 hb⟩
    rcases mem_merge.mp hz with hz | hz
    · exact (sorted_cons.mp ha).1 z hz
    · exact hb.not_lt_of_lt_head h hxy z hz
  | case4 x a y b hxy ih =>
    refine sorted_cons.mpr ⟨fun z hz => ?_, ih ha (sorted_cons.mp hb).2⟩
    rcases mem_merge.mp hz with hz | hz
    · exact ha.not_lt h (Bool.eq_false_iff.mpr hxy) z hz
    · exact (sorted_cons.mp hb).1 z hz

theorem filter_equiv_eq_nil_of_lt {lt : α → α → Bool} (h : StrictWeak lt) {k x y : α} {b : List α}
    (hx : equiv lt k x = true) (hxy : lt x y = true) (hb : Sorted lt (y :: b)) :
    (y :: b).filter (equiv lt k) = [] := by
  rw [List.filter_eq_nil_iff]
  intro z hz hzk
  have := h.negTrans x z y (equiv_not_lt h hx hzk) (hb.not_lt h (h.irrefl y) z hz)
  rw [hxy] at this
  cases this

/-- `merge` is stable in favour of its SECOND argument (the front part in `mergeSort`) -/
theorem merge_filter {lt : α → α → Bool} (h : StrictWeak lt) (k : α) (a b : List α)
    (hb : Sorted lt b) :
    (merge lt a b).filter (equiv lt k) = b.filter (equiv lt k) ++ a.filter (equiv lt k) := by
  fun_induction merge lt a b with
  | case1 b => rw [List.filter_nil, List.append_nil]
  | case2 a _ => rfl
  | case3 x a y b hxy ih =>
    rw [List.filter_cons, ih hb]
    cases hx : equiv lt k x with
    | false => simp [List.filter_cons, hx]
    | true => rw [filter_equiv_eq_nil_of_lt h hx hxy hb]; simp [hx]
  | case4 x a y b hxy ih =>
    rw [List.filter_cons, ih (sorted_cons.mp hb).2]
    cases hy : equiv lt k y <;> simp [List.filter_cons, hy]

/-- A permutation `ys` of `xs` with this property is THE stable sort of `xs` (`StableSorted.unique`); `merge`,
    hence every algorithm of `dt/cmp.go`, builds such lists from such lists. -/
def StableSorted (lt : α → α → Bool) (xs ys : List α) : Prop :=
  Sorted lt ys ∧ ∀ k, ys.filter (equiv lt k) = xs.filter (equiv lt k)

theorem StableSorted.refl {lt : α → α → Bool} {xs : List α} (hs : Sorted lt xs) : StableSorted lt xs xs :=
  ⟨hs, fun _ => rfl⟩

theorem StableSorted.merge {lt : α → α → Bool} (h : StrictWeak lt) {a a' b b' : List α}
    (ha : StableSorted lt a a') (hb : StableSorted lt b b') : StableSorted lt (b ++ a) (merge lt a' b') :=
  ⟨merge_sorted h a' b' ha.1 hb.1, fun k => by
    rw [merge_filter h k a' b' hb.1, hb.2, ha.2, List.filter_append]⟩

theorem StableSorted.eq_of_sorted {lt : α → α → Bool} (h : StrictWeak lt) {xs ys : List α}
    (hs : StableSorted lt xs ys) (hx : Sorted lt xs) : ys = xs := by
  obtain ⟨hy, hf⟩ := hs
  induction ys generalizing xs with
  | nil =>
    cases xs with
    | nil => rfl
    | cons x xs =>
      have := hf x
      simp [equiv_refl h] at this
  | cons y ys ih =>
    cases xs with
    | nil =>
      have := hf y
      simp [equiv_refl h] at this
    | cons x xs =>
      have hyx : y = x := by
        cases hxy : equiv lt x y with
        | true =>
          have := hf x
          simp [equiv_refl h, hxy] at this
          exact this.1
        | false =>
          -- otherwise each head occurs in the other list, so neither is less than the other
          have mx : x ∈ (y :: ys).filter (equiv lt x) := by
            rw [hf x]
            simp [equiv_refl h]
          have my : y ∈ (x :: xs).filter (equiv lt y) := by
            rw [← hf y]
            simp [equiv_refl h]
          have a1 := hy.not_lt h (h.irrefl y) x (List.mem_filter.mp mx).1
          have a2 := hx.not_lt h (h.irrefl x) y (List.mem_filter.mp my).1
          rw [equiv_iff.mpr ⟨a2, a1⟩] at hxy
          cases hxy
      subst hyx
      congr 1
      refine ih (sorted_cons.mp hx).2 (sorted_cons.mp hy).2 fun k => ?_
      have := hf k
      cases hk : equiv lt k y <;> simpa [List.filter_cons, hk] using this

theorem StableSorted.unique {lt : α → α → Bool} (h : StrictWeak lt) {xs l1 l2 : List α}
    (h1 : StableSorted lt xs l1) (h2 : StableSorted lt xs l2) : l1 = l2 :=
  eq_of_sorted h ⟨h1.1, fun k => (h1.2 k).trans (h2.2 k).symm⟩ h2.1

theorem split_append (xs : List α) : (split xs).1 ++ (split xs).2 = xs := by
  simp [split]

theorem split_fst_length (xs : List α) : (split xs).1.length = xs.length - xs.length / 2 := by
  simp [split]

theorem split_snd_length (xs : List α) : (split xs).2.length = xs.length / 2 := by
  show (xs.drop (xs.length - xs.length / 2)).length = _
  rw [List.length_drop]
  exact Nat.sub_sub_self (Nat.div_le_self _ _)

theorem split_fst_length_lt {xs : List α} (h : 2 ≤ xs.length) :
    (split xs).1.length < xs.length := by
  rw [split_fst_length]
  exact Nat.sub_lt (Nat.lt_of_lt_of_le (by decide) h) (Nat.div_pos h (by decide))

theorem split_snd_length_lt {xs : List α} (h : 2 ≤ xs.length) :
    (split xs).2.length < xs.length := by
  rw [split_snd_length]
  exact Nat.div_lt_self (Nat.lt_of_lt_of_le (by decide) h) (by decide)

theorem mergeSort_zero (lt : α → α → Bool) (xs : List α) : mergeSort lt xs 0 = xs := by
  rw [mergeSort]

theorem mergeSort_short (lt : α → α → Bool) {xs : List α} (h : xs.length < 2) (fuel : Nat) :
    mergeSort lt xs fuel = xs := by
  cases fuel with
  | zero => rw [mergeSort]
  | succ f => rw [mergeSort, if_pos h]

theorem mergeSort_succ (lt : α → α → Bool) {xs : List α} (h : 2 ≤ xs.length) (fuel : Nat) :
    mergeSort lt xs (fuel + 1) =
      merge lt (mergeSort lt (split xs).2 fuel) (mergeSort lt (split xs).1 fuel) := by
  rw [mergeSort, if_neg (Nat.not_lt.mpr h)]

theorem mergeSort_perm (lt : α → α → Bool) (fuel : Nat) (xs : List α) :
    (mergeSort lt xs fuel).Perm xs := by
  induction fuel generalizing xs with
  | zero => rw [mergeSort_zero]
  | succ f ih =>
    by_cases hlen : xs.length < 2
    · rw [mergeSort_short lt hlen]
    · rw [mergeSort_succ lt (Nat.le_of_not_lt hlen)]
      refine (merge_perm lt _ _).trans ?_
      refine ((ih _).append (ih _)).trans ?_
      refine List.perm_append_comm.trans ?_
      rw [split_append]

theorem mergeSort_induction {lt : α → α → Bool} {P : List α → List α → Prop}
    (short : ∀ xs, xs.length < 2 → P xs xs)
    (step : ∀ xs a b, 2 ≤ xs.length → P (split xs).2 a → P (split xs).1 b → P xs (merge lt a b))
    (fuel : Nat) (xs : List α) (hf : xs.length ≤ fuel) : P xs (mergeSort lt xs fuel) := by
  induction fuel generalizing xs with
  | zero =>
    rw [mergeSort_zero]
    exact short xs (Nat.lt_of_le_of_lt hf (by decide))
  | succ f ih =>
    by_cases hlen : xs.length < 2
    · rw [mergeSort_short lt hlen]
      exact short xs hlen
    · have h2 : 2 ≤ xs.length := Nat.le_of_not_lt hlen
      rw [mergeSort_succ lt h2]
      exact step xs _ _ h2
        (ih _ (Nat.le_of_lt_succ (Nat.lt_of_lt_of_le (split_snd_length_lt h2) hf)))
        (ih _ (Nat.le_of_lt_succ (Nat.lt_of_lt_of_le (split_fst_length_lt h2) hf)))

/-- Sortedness and stability in one induction: `merge_filter` needs its second argument sorted. -/
theorem mergeSort_stableSorted {lt : α → α → Bool} (h : StrictWeak lt) (fuel : Nat) (xs : List α)
    (hf : xs.length ≤ fuel) : StableSorted lt xs (mergeSort lt xs fuel) := by
  refine mergeSort_induction (P := StableSorted lt) ?_ ?_ fuel xs hf
  · exact fun xs hlen => .refl (sorted_of_length_lt_two lt hlen)
  · intro xs a b _ ha hb
    have := ha.merge h hb
    rwa [split_append] at this

theorem mergeSort_fuel (lt : α → α → Bool) (f1 f2 : Nat) (xs : List α)
    (h1 : xs.length ≤ f1) (h2 : xs.length ≤ f2) : mergeSort lt xs f1 = mergeSort lt xs f2 := by
  refine mergeSort_induction (P := fun xs out => ∀ f2, xs.length ≤ f2 → out = mergeSort lt xs f2)
    ?_ ?_ f1 xs h1 f2 h2
  · exact fun xs hlen f2 _ => (mergeSort_short lt hlen f2).symm
  · intro xs a b hl ha hb f2 hf2
    cases f2 with
    | zero => exact absurd (Nat.le_trans hl hf2) (by decide)
    | succ f2 =>
      rw [mergeSort_succ lt hl,
        ← ha f2 (Nat.le_of_lt_succ (Nat.lt_of_lt_of_le (split_snd_length_lt hl) hf2)),
        ← hb f2 (Nat.le_of_lt_succ (Nat.lt_of_lt_of_le (split_fst_length_lt hl) hf2))]

theorem insertStable_eq_merge (lt : α → α → Bool) (e : α) (l : List α) :
    insertStable lt e l = merge lt l [e] := by
  induction l with
  | nil =>
    rw [merge_nil_left]
    rfl
  | cons x xs ih => rw [insertStable, merge_cons_cons, merge_nil_right, ih]

theorem insertStable_perm (lt : α → α → Bool) (e : α) (l : List α) :
    (insertStable lt e l).Perm (e :: l) := by
  rw [insertStable_eq_merge]
  exact (merge_perm lt l [e]).trans (List.perm_append_singleton e l)

theorem insertStable_stableSorted {lt : α → α → Bool} (h : StrictWeak lt) (e : α) {xs ys : List α}
    (hs : StableSorted lt xs ys) : StableSorted lt (e :: xs) (insertStable lt e ys) :=
  insertStable_eq_merge lt e ys ▸ hs.merge h (.refl (sorted_singleton lt e))

theorem sortQuick_stableSorted {lt : α → α → Bool} (h : StrictWeak lt) (xs : List α) :
    StableSorted lt xs (sortQuick lt xs) := by
  induction xs with
  | nil => exact .refl (sorted_nil lt)
  | cons x xs ih => exact insertStable_stableSorted h x ih

theorem sortQuick_perm (lt : α → α → Bool) (xs : List α) : (sortQuick lt xs).Perm xs := by
  induction xs with
  | nil => exact List.Perm.refl _
  | cons x xs ih => exact (insertStable_perm lt x _).trans (ih.cons x)

theorem heapInsert_eq (lt : α → α → Bool) (t : α) (xs : List α) :
    heapInsert lt t xs = (heapInsert.go lt t xs.reverse).reverse := rfl

theorem heapInsert_eq_merge (lt : α → α → Bool) (t : α) (xs : List α) :
    heapInsert lt t xs = (merge (fun a b => lt b a) xs.reverse [t]).reverse := by
  rw [heapInsert_eq, ← insertStable_eq_merge]
  congr 1
  induction xs.reverse with
  | nil => rfl
  | cons x rest ih => rw [heapInsert.go, insertStable, ih]

theorem heapInsert_filter {lt : α → α → Bool} (h : StrictWeak lt) (k t : α) (xs : List α) :
    (heapInsert lt t xs).filter (equiv lt k) = (xs ++ [t]).filter (equiv lt k) := by
  -- on the reversed list the merge puts its second argument `[t]` first within a class (`merge_filter` for the
  -- flipped comparison, whose classes are those of `lt`); reversing back puts it last
  rw [heapInsert_eq_merge, List.filter_reverse, ← equiv_flip,
    merge_filter h.flip k _ _ (sorted_singleton _ t), ← List.filter_append, ← List.filter_reverse]
  simp

theorem heapInsert_stableSorted {lt : α → α → Bool} (h : StrictWeak lt) (t : α) {xs ys : List α}
    (hs : StableSorted lt xs ys) : StableSorted lt (xs ++ [t]) (heapInsert lt t ys) := by
  refine ⟨?_, fun k => by rw [heapInsert_filter h, List.filter_append, hs.2, ← List.filter_append]⟩
  rw [heapInsert_eq_merge]
  refine sorted_flip_reverse.mp ?_
  rw [List.reverse_reverse]
  exact merge_sorted h.flip _ _ (sorted_flip_reverse.mpr hs.1) (sorted_singleton _ t)

theorem heapInsert_perm (lt : α → α → Bool) (t : α) (xs : List α) :
    (heapInsert lt t xs).Perm (t :: xs) := by
  rw [heapInsert_eq_merge]
  refine (List.reverse_perm _).trans ((merge_perm _ _ _).trans ?_)
  exact (List.perm_append_singleton t _).trans ((List.reverse_perm xs).cons t)

/-- the heap's list after pushing `ts` in order onto an empty heap -/
def heapOf (lt : α → α → Bool) (ts : List α) : List α :=
  ts.foldl (fun acc t => heapInsert lt t acc) []

theorem foldl_heapInsert_perm (lt : α → α → Bool) (ts acc : List α) :
    (ts.foldl (fun acc t => heapInsert lt t acc) acc).Perm (acc ++ ts) := by
  induction ts generalizing acc with
  | nil => simp
  | cons t ts ih =>
    rw [List.foldl_cons]
    refine (ih _).trans ?_
    refine ((heapInsert_perm lt t acc).append_right ts).trans ?_
    exact (List.perm_middle (a := t) (l₁ := acc) (l₂ := ts)).symm

theorem foldl_heapInsert_stableSorted {lt : α → α → Bool} (h : StrictWeak lt) (ts : List α) {xs acc : List α}
    (ha : StableSorted lt xs acc) :
    StableSorted lt (xs ++ ts) (ts.foldl (fun acc t => heapInsert lt t acc) acc) := by
  induction ts generalizing xs acc with
  | nil => rwa [List.append_nil]
  | cons t ts ih =>
    have := ih (heapInsert_stableSorted h t ha)
    rwa [List.append_assoc] at this

end FunModel.SortSeq
