import FunModel.WaitGroup
import FunProofs.Conc

/-! Invariants of `fun.WaitGroup` as a `Conc.Subject` (C14): helper discipline, "somebody parked ⇒
    counter ≠ 0", counter = sum of the completed non-panicking deltas, no stuck waiter; for `Balanced`
    (`Launch`-shaped) programs no `Add` panics and the counter is what the threads have completed (`BInv`). -/

namespace FunModel.WaitGroup
open FunModel.Conc

/-- only `Wait` parks, on condition 0 (`wg.cond`) -/
def condOf : Op → Option Nat
  | .wait => some 0
  | _ => none

theorem condOf_some {op : Op} {c : Nat} (h : condOf op = some c) : op = .wait ∧ c = 0 := by
  cases op <;> simp [condOf] at h
  exact ⟨rfl, h.symm⟩

def init (programs : List (List Op)) : Sys St Op := initSys {} programs

theorem start_park {σ : St} {t : Nat} {op : Op} {c : Nat} (h : (start σ t op).fin = .park c) :
    op = .wait ∧ c = 0 ∧ σ.counter ≠ 0 ∧ (start σ t op).sigs = [.spawn 0] ∧ (start σ t op).st = σ := by
  cases op with
  | add n => simp only [start] at h; split at h <;> cases h
  | wait =>
    by_cases h0 : σ.counter = 0
    · simp [start, h0] at h
    · simp [start, h0] at h ⊢; exact h.symm
  | num => cases h
  | isDone => cases h

theorem resume_park {σ : St} {t : Nat} {op : Op} {b : Bool} {c : Nat} (h : (resume σ t op b).fin = .park c) :
    op = .wait ∧ c = 0 ∧ b = false ∧ σ.counter ≠ 0 ∧ (resume σ t op b).sigs = [] ∧ (resume σ t op b).st = σ := by
  cases op with
  | add n => cases h
  | wait =>
    by_cases h0 : σ.counter = 0
    · simp [resume, h0] at h
    · cases b with
      | true => simp [resume, h0, waitLoop] at h
      | false => simp [resume, h0, waitLoop] at h ⊢; exact h.symm
  | num => cases h
  | isDone => cases h

@[simp] theorem resume_st (σ : St) (t : Nat) (op : Op) (b : Bool) : (resume σ t op b).st = σ := by
  cases op <;> simp only [resume, waitLoop] <;> (try split) <;> (try split) <;> rfl

/-- the delta an executed segment contributed: `n` for an `Add(n)` that returned normally
    (observation `ret:ok`), else 0 -/
def delta (ev : Ev Op) : Int :=
  match ev.op with
  | .add n => if ev.fin = .ret "ok" then n else 0
  | _ => 0

structure SegFacts (σ : St) (t : Nat) (op : Op) (o : SegOut St) : Prop where
  park : ∀ c, o.fin = .park c → o.st.counter ≠ 0
  zero : o.st.counter = 0 → σ.counter = 0 ∨ Sig.broadcast 0 ∈ o.sigs
  nonneg : 0 ≤ σ.counter → 0 ≤ o.st.counter
  counter : o.st.counter = σ.counter + delta ⟨t, op, o.fin⟩

theorem start_facts (σ : St) (t : Nat) (op : Op) : SegFacts σ t op (start σ t op) := by
  cases op with
  | add n =>
    simp only [start]
    split
    · exact ⟨nofun, Or.inl, id, by simp [delta]⟩
    · exact ⟨nofun, fun h => Or.inr (by simp [show σ.counter + n = 0 from h]), fun _ => by simp only; omega,
        by simp [delta]⟩
  | wait =>
    simp only [start]
    split
    · exact ⟨nofun, Or.inl, id, by simp [delta]⟩
    · rename_i h0
      exact ⟨fun _ _ => h0, Or.inl, id, by simp [delta]⟩
  | num => exact ⟨nofun, Or.inl, id, by simp [delta, start]⟩
  | isDone => exact ⟨nofun, Or.inl, id, by simp [delta, start]⟩

theorem resume_facts (σ : St) (t : Nat) (op : Op) (b : Bool) : SegFacts σ t op (resume σ t op b) := by
  refine ⟨fun c h => ?_, ?_, ?_, ?_⟩ <;> rw [resume_st]
  · exact (resume_park h).2.2.2.1
  · exact Or.inl
  · exact id
  · cases op <;> simp [delta, resume]

theorem seg_facts {s : Sys St Op} {t : Nat} {a : Act} {th0 : Th Op} {op : Op} {o : SegOut St}
    (h : IsSeg subject s t a th0 op o) : SegFacts s.subj t op o := by
  cases h with
  | start _ _ _ => exact start_facts s.subj t op
  | resume _ _ _ => exact resume_facts s.subj t op th0.cancelled

theorem seg_parkOK {s : Sys St Op} {t : Nat} {a : Act} {th0 : Th Op} {op : Op} {o : SegOut St}
    (h : IsSeg subject s t a th0 op o) : ParkOK condOf condOf th0 op o := by
  intro c hc
  cases h with
  | start _ _ _ =>
    obtain ⟨rfl, rfl, _, hs, _⟩ := start_park (t := t) hc
    exact ⟨rfl, rfl, by simp [subject, hs], Or.inl (by simp [subject, hs])⟩
  | resume _ hst _ =>
    obtain ⟨rfl, rfl, hb, _, hs, _⟩ := resume_park (t := t) hc
    exact ⟨hb, rfl, by simp [subject, hs], Or.inr ⟨hst, rfl⟩⟩

/-- the guard of `Wait` is `counter ≠ 0`; whoever makes the counter 0 broadcasts -/
theorem seg_mon {s : Sys St Op} {t : Nat} {a : Act} {th0 : Th Op} {op : Op} {o : SegOut St}
    (hseg : IsSeg subject s t a th0 op o) :
    SegMon (fun _ => condOf) (fun σ _ => σ.counter ≠ 0) (fun _ _ => True) s t th0 op o := by
  refine ⟨fun c hc => ⟨(seg_facts hseg).park c hc, trivial⟩, ?_, fun _ _ _ _ _ => .inl trivial,
    fun _ _ _ _ _ => .inr fun _ _ _ => trivial⟩
  intro u c _ hin hG
  refine (Decidable.em (o.st.counter = 0)).symm.imp_right fun h0 => ?_
  rw [(condOf_some hin.cond).2]
  exact ((seg_facts hseg).zero h0).resolve_left hG

theorem reach_mon {programs : List (List Op)} {s : Sys St Op} (hr : Reach subject (init programs) s) :
    HelperInv (fun _ => condOf) s ∧ Mon (fun _ => condOf) (fun σ _ => σ.counter ≠ 0) (fun _ _ => True) s :=
  Reach.mon hr fun _ _ _ _ _ _ _ hseg => ⟨seg_parkOK hseg, stable_const _ _ _ _, seg_mon hseg⟩

/-- what `reach_mon` gives for the WaitGroup (`parked` is `Mon` with the guard `counter ≠ 0`), with `WF` and the
    sign of the counter -/
structure Inv (s : Sys St Op) : Prop where
  wf : s.WF
  disc : HelperInv (fun _ => condOf) s
  parked : ∀ (u : Nat) (th : Th Op) (c : Nat), s.ths[u]? = some th → th.st = .parked c → s.subj.counter ≠ 0
  nonneg : 0 ≤ s.subj.counter

theorem reach_inv {programs : List (List Op)} {s : Sys St Op} (hr : Reach subject (init programs) s) : Inv s := by
  obtain ⟨hd, m⟩ := reach_mon hr
  refine ⟨hr.wf_init, hd, fun u th c hth hp => ?_, ?_⟩
  · obtain ⟨_, _, _, hG, _⟩ := m.parked hd hth hp
    exact hG
  · exact hr.subj_inv (fun σ => 0 ≤ σ.counter) (initSys_wf _ _) (Int.le_refl 0)
      (fun x t op => (start_facts x t op).nonneg) (fun x t op c => (resume_facts x t op c).nonneg)

theorem wait_seg {s : Sys St Op} {t : Nat} {a : Act} {th0 : Th Op} {o : SegOut St}
    (hseg : IsSeg subject s t a th0 .wait o) :
    o.st = s.subj ∧
    ((s.subj.counter = 0 ∨ th0.cancelled = true) → ∃ rv, o.fin = .ret rv) ∧
    (¬ (s.subj.counter = 0 ∨ th0.cancelled = true) → o.fin = .park 0) := by
  cases hseg with
  | start _ _ _ => by_cases h0 : s.subj.counter = 0 <;> simp [subject, start, h0]
  | resume _ _ _ =>
    by_cases h0 : s.subj.counter = 0
    · simp [subject, resume, h0]
    · cases hc : th0.cancelled <;> simp [subject, resume, h0, waitLoop]

/-- the `Wait` loop of sync.go, step by step: return if the counter is 0 or (after a wake-up) the context
    is done, else `wg.cond.Wait()`; the counter is not touched -/
theorem wait_step {programs : List (List Op)} {s s' : Sys St Op} {a : Act} {obs : String} {t : Nat}
    {th th' : Th Op} (hr : Reach subject (init programs) s) (hen : a ∈ enabled s true)
    (hs : step subject s a = some (s', obs)) (ha : a = .start t ∨ a = .resume t)
    (hth : s.ths[t]? = some th) (hop : th.ops[th.pc]? = some .wait) (hth' : s'.ths[t]? = some th') :
    s'.subj = s.subj ∧
    ((s.subj.counter = 0 ∨ (a = .resume t ∧ th.cancelled = true)) → th'.pc = th.pc + 1) ∧
    (¬ (s.subj.counter = 0 ∨ (a = .resume t ∧ th.cancelled = true)) → th'.st = .parked 0 ∧ th'.pc = th.pc) := by
  obtain ⟨th0, o, hseg, hc, hsubj, hret, hpark⟩ := seg_outcome hr.wf_init hen hs ha hth hop hth'
  obtain ⟨hst, hr', hp'⟩ := wait_seg hseg
  -- the context flag the segment sees: fresh on a start, the thread's own on a resume
  have hcan : th0.cancelled = true ↔ a = .resume t ∧ th.cancelled = true := by
    rw [hc]; rcases ha with rfl | rfl <;> simp
  rw [← hcan]
  exact ⟨hsubj.trans hst, fun h => (hret (hr' h)).1, fun h => hpark 0 (hp' h)⟩

/-- C14 `wait_returns_only_if` -/
theorem wait_returns_only_if {programs : List (List Op)} {s s' : Sys St Op} {a : Act} {obs : String} {t : Nat}
    {th th' : Th Op} (hr : Reach subject (init programs) s) (hen : a ∈ enabled s true)
    (hs : step subject s a = some (s', obs)) (ha : a = .start t ∨ a = .resume t)
    (hth : s.ths[t]? = some th) (hop : th.ops[th.pc]? = some .wait)
    (hth' : s'.ths[t]? = some th') (hret : th'.pc = th.pc + 1) :
    (s.subj.counter = 0 ∨ (a = .resume t ∧ th.cancelled = true)) ∧ s'.subj = s.subj := by
  obtain ⟨hsubj, _, hpark⟩ := wait_step hr hen hs ha hth hop hth'
  exact ⟨Decidable.byContradiction fun hn => by have := (hpark hn).2; omega, hsubj⟩

/-- C14 `launch_covered` -/
theorem wait_parks {programs : List (List Op)} {s s' : Sys St Op} {a : Act} {obs : String} {t : Nat}
    {th th' : Th Op} (hr : Reach subject (init programs) s) (hen : a ∈ enabled s true)
    (hs : step subject s a = some (s', obs)) (ha : a = .start t ∨ a = .resume t)
    (hth : s.ths[t]? = some th) (hop : th.ops[th.pc]? = some .wait)
    (hcnt : s.subj.counter ≠ 0) (hlive : a = .resume t → th.cancelled = false)
    (hth' : s'.ths[t]? = some th') : th'.st = .parked 0 ∧ th'.pc = th.pc ∧ s'.subj = s.subj := by
  obtain ⟨hsubj, _, hpark⟩ := wait_step hr hen hs ha hth hop hth'
  obtain ⟨h1, h2⟩ := hpark fun h => h.elim hcnt fun ⟨e, hc⟩ => by rw [hlive e] at hc; cases hc
  exact ⟨h1, h2, hsubj⟩

/-- C14 `parked_invariant` -/
theorem parked_facts {programs : List (List Op)} {s : Sys St Op} (hr : Reach subject (init programs) s)
    {t : Nat} {th : Th Op} {c : Nat} (hth : s.ths[t]? = some th) (hp : th.st = .parked c) :
    th.ops[th.pc]? = some .wait ∧ c = 0 ∧ s.subj.counter ≠ 0 ∧ Live 0 th.helpers ∧
      (th.cancelled = true → Pending 0 th.helpers) := by
  obtain ⟨op, hop, hc, hG, _, hl, hpend⟩ := (reach_mon hr).2.parked (reach_mon hr).1 hth hp
  obtain ⟨rfl, rfl⟩ := condOf_some hc
  exact ⟨hop, rfl, hG, hl, hpend⟩

/-- C14 `no_stuck_wg` -/
theorem no_stuck {programs : List (List Op)} {s : Sys St Op} (hr : Reach subject (init programs) s)
    (q : Quiescent s) {t : Nat} {th : Th Op} {c : Nat} (hth : s.ths[t]? = some th) (hp : th.st = .parked c) :
    s.subj.counter ≠ 0 ∧ th.cancelled = false := by
  obtain ⟨_, _, _, hG, _, hc⟩ := (reach_mon hr).2.no_stuck (reach_mon hr).1 q hth hp
  exact ⟨hG, hc⟩

def deltaSum (evs : List (Ev Op)) : Int := (evs.map delta).sum

theorem deltaSum_append (evs : List (Ev Op)) (ev : Ev Op) : deltaSum (evs ++ [ev]) = deltaSum evs + delta ev := by
  simp [deltaSum]

/-- C14 `counter_is_sum` -/
theorem counter_sum {programs : List (List Op)} {evs : List (Ev Op)} {s : Sys St Op}
    (h : ReachT subject (init programs) evs s) : s.subj.counter = deltaSum evs := by
  induction h with
  | init => rfl
  | @seg evs s s' a obs t th0 op o hr hen hs hseg ih =>
    have r := hseg.rel hr.reach.wf_init hen hs
    rw [r.subj, deltaSum_append, ← ih, (seg_facts hseg).counter]
  | other hr hen hs ha ih =>
    rw [← ih, (cancel_fire_thread hr.reach.wf_init hen hs ha).1]

/-! ### Launch-shaped programs: the counter counts the launches in flight

    `Launch(op)` is `Inc(); go { op; Done() }`: in the model a thread whose program is made of
    `add 1 … add (-1)` pairs. More generally a list of programs is `Balanced` when in every program every
    prefix has a non-negative delta sum. Then no `Add` ever panics and the counter is the sum over the
    threads of the deltas they have completed: while some thread is inside a launch the counter is ≥ 1. -/

def opDelta : Op → Int
  | .add n => n
  | _ => 0

def prefixSum (ops : List Op) (n : Nat) : Int := ((ops.take n).map opDelta).sum

def Balanced (programs : List (List Op)) : Prop := ∀ p ∈ programs, ∀ n, 0 ≤ prefixSum p n

theorem prefixSum_succ {ops : List Op} {n : Nat} {op : Op} (h : ops[n]? = some op) :
    prefixSum ops (n + 1) = prefixSum ops n + opDelta op := by
  simp [prefixSum, List.take_add_one, h]

/-- the deltas a thread has completed -/
def doneOf (th : Th Op) : Int := prefixSum th.ops th.pc

theorem sum_set (l : List Int) (t : Nat) (x y : Int) (h : l[t]? = some x) : (l.set t y).sum = l.sum - x + y := by
  induction l generalizing t with
  | nil => cases h
  | cons a r ih =>
    cases t with
    | zero => cases h; simp; omega
    | succ t => simp [ih t h]; omega

theorem sum_nonneg (l : List Int) (h : ∀ y ∈ l, 0 ≤ y) : 0 ≤ l.sum := by
  induction l with
  | nil => simp
  | cons a r ih =>
    have := h a List.mem_cons_self
    have := ih fun y hy => h y (List.mem_cons_of_mem _ hy)
    simp; omega

theorem le_sum_of_nonneg (l : List Int) (t : Nat) (x : Int) (h : ∀ y ∈ l, 0 ≤ y) (ht : l[t]? = some x) :
    x ≤ l.sum := by
  have := sum_nonneg (l.set t 0) fun y hy => by
    rcases List.mem_or_eq_of_mem_set hy with hy | rfl
    · exact h y hy
    · exact Int.le_refl 0
  rw [sum_set l t x 0 ht] at this
  omega

theorem reach_waiting {programs : List (List Op)} {s : Sys St Op} (hr : Reach subject (init programs) s) :
    WaitingIn (fun op => op = .wait) s :=
  hr.waitingIn (initSys_wf _ _) (initSys_waitingIn _ _ _) fun s _ t _ _ _ hseg c hc => by
    cases hseg with
    | start _ _ _ => exact (start_park (t := t) hc).1
    | resume _ _ _ => exact (resume_park (t := t) hc).1

/-- the invariant of runs of `Balanced` programs. `sum`: the counter is what the threads have completed
    (`doneOf`), which with `nonneg` shows that the next `Add` of any thread does not panic. `woken`: only a
    `Wait` is ever resumed, so an `Add` runs as a `start` segment, the only one with a panic test. -/
structure BInv (s : Sys St Op) : Prop where
  nonneg : ∀ (u : Nat) (th : Th Op), s.ths[u]? = some th → ∀ n, 0 ≤ prefixSum th.ops n
  woken : ∀ (u : Nat) (th : Th Op), s.ths[u]? = some th → th.st = .woken → th.ops[th.pc]? = some .wait
  sum : s.subj.counter = (s.ths.map doneOf).sum

theorem BInv.ge {s : Sys St Op} (h : BInv s) {p : Nat} {thp : Th Op} (hp : s.ths[p]? = some thp) :
    doneOf thp ≤ s.subj.counter := by
  rw [h.sum]
  apply le_sum_of_nonneg _ p
  · intro y hy
    obtain ⟨th, hm, rfl⟩ := List.mem_map.1 hy
    obtain ⟨u, hu⟩ := List.getElem?_of_mem hm
    exact h.nonneg u th hu th.pc
  · simp [hp]

theorem BInv.no_panic {s : Sys St Op} (h : BInv s) {t : Nat} {th : Th Op} {n : Int} (hth : s.ths[t]? = some th)
    (hop : th.ops[th.pc]? = some (.add n)) : ¬ (s.subj.counter + n < 0) := by
  have h1 := h.ge hth
  have h2 := h.nonneg t th hth (th.pc + 1)
  rw [prefixSum_succ hop] at h2
  simp only [doneOf, opDelta] at h1 h2
  omega

theorem binv_init {programs : List (List Op)} (hb : Balanced programs) : BInv (init programs) := by
  refine ⟨?_, ?_, ?_⟩
  · intro u th hth n
    obtain ⟨p, hp, rfl⟩ := initThs_get hth
    exact hb p (List.mem_of_getElem? hp) n
  · intro u th hth hw
    rcases initThs_st hth with e | e <;> rw [e] at hw <;> cases hw
  · show (0 : Int) = _
    simp only [init, initSys, List.map_map]
    induction programs with
    | nil => rfl
    | cons p r ih =>
      have := ih (fun q hq => hb q (List.mem_cons_of_mem _ hq))
      simp [doneOf, prefixSum] at this ⊢
      exact this

theorem binv_step {s s' : Sys St Op} {a : Act} {obs : String} (hwf : s.WF) (h : BInv s) (hen : a ∈ enabled s true)
    (hs : step subject s a = some (s', obs)) (hw : WaitingIn (fun op => op = .wait) s') : BInv s' := by
  have hnn' : ∀ (u : Nat) (th' : Th Op), s'.ths[u]? = some th' → ∀ n, 0 ≤ prefixSum th'.ops n := by
    intro u th' hth'
    have := congrArg (·[u]?) (step_ops hwf hen hs)
    simp only [List.getElem?_map, hth'] at this
    obtain ⟨th, hth, e⟩ := Option.map_eq_some_iff.1 this.symm
    exact e ▸ h.nonneg u th hth
  have hwk' : ∀ (u : Nat) (th' : Th Op), s'.ths[u]? = some th' → th'.st = .woken → th'.ops[th'.pc]? = some .wait :=
    fun u th' hth' hst => by obtain ⟨_, hop, rfl⟩ := hw u th' hth' (.inl hst); exact hop
  rcases a.seg_or_env with ⟨t, ha⟩ | ⟨t, ha⟩
  · obtain ⟨th0, op, o, hseg, r⟩ := step_seg hwf hen hs ha
    obtain ⟨tht, htht, hops, hpc, _, _, hop0, _, _⟩ := hseg.basic
    -- the segment changes the counter by what it adds to `doneOf`
    have hop1 : tht.ops[tht.pc]? = some op := by rw [← hops, ← hpc]; exact hop0
    have hdone : doneOf (finTh o.fin { th0 with helpers := sigHelpers o.sigs th0.helpers }) =
        doneOf tht + (match o.fin with | .ret _ => opDelta op | .park _ => 0) := by
      cases o.fin with
      | ret _ => simp only [finTh_ret, doneOf]; rw [hops, hpc]; exact prefixSum_succ hop1
      | park _ => simp [doneOf, hops, hpc]
    have hdelta : delta ⟨t, op, o.fin⟩ = match o.fin with | .ret _ => opDelta op | .park _ => 0 := by
      cases op with
      | add n =>
        cases hseg with
        | start hth _ _ =>
          -- balanced programs: this `Add` does not panic
          have hno := h.no_panic htht hop1
          show delta ⟨t, .add n, (start s.subj t (.add n)).fin⟩ = match (start s.subj t (.add n)).fin with
            | .ret _ => opDelta (.add n) | .park _ => 0
          simp [start, hno, delta, opDelta]
        | resume hth hst _ =>
          have hw := h.woken t th0 hth hst
          rw [hop0] at hw; cases hw
      | wait => cases o.fin <;> rfl
      | num => cases o.fin <;> rfl
      | isDone => cases o.fin <;> rfl
    have hkey : o.st.counter = s.subj.counter +
        (doneOf (finTh o.fin { th0 with helpers := sigHelpers o.sigs th0.helpers }) - doneOf tht) := by
      rw [(seg_facts hseg).counter, hdelta, hdone]; omega
    refine ⟨hnn', hwk', ?_⟩
    rw [r.subj, hkey, h.sum]
    rw [r.map_eq doneOf fun w => by simp [doneOf, w.ops, w.pc], sum_set _ t (doneOf tht) _ (by simp [htht])]; omega
  · refine ⟨hnn', hwk', ?_⟩
    rw [(cancel_fire_thread hwf hen hs ha).1, h.sum,
      cancel_fire_map_eq doneOf (fun hops hpc => by simp [doneOf, hops, hpc]) hwf hen hs ha]

theorem reach_binv {programs : List (List Op)} (hb : Balanced programs) {s : Sys St Op}
    (hr : Reach subject (init programs) s) : BInv s := by
  exact hr.inv BInv (binv_init hb) fun _ _ _ _ hr hi hen hs =>
    binv_step hr.wf_init hi hen hs (reach_waiting (hr.step hen hs))

theorem counter_ge_inflight {programs : List (List Op)} (hb : Balanced programs) {s : Sys St Op}
    (hr : Reach subject (init programs) s) {p : Nat} {thp : Th Op} (hp : s.ths[p]? = some thp) :
    doneOf thp ≤ s.subj.counter :=
  (reach_binv hb hr).ge hp

theorem balanced_no_panic {programs : List (List Op)} (hb : Balanced programs) {s : Sys St Op}
    (hr : Reach subject (init programs) s) {t : Nat} {th : Th Op} {n : Int} (hth : s.ths[t]? = some th)
    (hop : th.ops[th.pc]? = some (.add n)) : ¬ (s.subj.counter + n < 0) :=
  (reach_binv hb hr).no_panic hth hop

end FunModel.WaitGroup
