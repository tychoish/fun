import FunModel.Queue
import FunProofs.Assoc

/-! What the C05, C20 and C07 developments of `pubsub.Queue` share. `Seg` (with `NextSeg` for the iterator's
    loop) lists the ways through one critical section of queue.go; `Seg.of` proves it of `start`/`resume`
    once, and the later files read off it what they need instead of unfolding the loops. -/
namespace FunModel.Queue
open FunModel.Conc

theorem Tracker.remove_len (tr : Tracker) : tr.remove.len = tr.len - 1 := by
  cases tr with
  | noLimit l => rfl
  | soft sq hl l cr => simp only [Tracker.remove]; split <;> rfl

theorem Tracker.add_cases (tr : Tracker) :
    (tr.add.2 = .ok ∧ tr.add.1.len = tr.len + 1) ∨ (tr.add.2 ≠ .ok ∧ tr.add.1 = tr) := by
  cases tr with
  | noLimit l => exact .inl ⟨rfl, rfl⟩
  | soft sq hl l cr =>
    simp only [Tracker.add]
    split
    · split
      · exact .inr ⟨nofun, rfl⟩
      · split
        · exact .inr ⟨nofun, rfl⟩
        · exact .inl ⟨rfl, rfl⟩
    · exact .inl ⟨rfl, rfl⟩

theorem Tracker.add_ok_len {tr tr' : Tracker} (h : tr.add = (tr', .ok)) : tr'.len = tr.len + 1 := by
  have := Tracker.add_cases tr
  rw [h] at this
  simpa using this

def Op.isNext : Op → Bool
  | .next _ => true
  | _ => false

/-- the operations that have a `resume`: those `condOf` gives a condition to park on -/
def Op.blocking : Op → Bool
  | .badd _ | .wait | .recv | .next _ => true
  | _ => false

/-- which condition an operation may park on: 0 = `nempty`, 1 = `nupdates` -/
def condOf : Op → Option Nat
  | .wait => some 0
  | .recv => some 0
  | .badd _ => some 1
  | .next _ => some 1
  | _ => none

theorem Op.eq_next_of_isNext {op : Op} (h : op.isNext = true) : ∃ k, op = .next k := by
  cases op <;> first | exact ⟨_, rfl⟩ | cases h

@[simp] theorem cursor_setCursor_same (s : St) (k c : Nat) : (s.setCursor k c).cursor k = c := by
  simp [St.cursor, St.setCursor]

theorem cursor_setCursor_ne (s : St) {k k' : Nat} (c : Nat) (h : k' ≠ k) : (s.setCursor k c).cursor k' = s.cursor k' := by
  simp only [St.cursor, St.setCursor]
  have hb : ((k, c).1 == k') = false := by simpa using fun e => h e.symm
  rw [List.find?_cons, hb, List.find?_filter_key_ne h]

theorem cursor_congr {s s' : St} (h : s'.cursors = s.cursors) (k : Nat) : s'.cursor k = s.cursor k := by
  simp [St.cursor, h]

theorem linkOf_congr {s s' : St} (hq : s'.q = s.q) (hl : s'.links = s.links) (e : Nat) : s'.linkOf e = s.linkOf e := by
  simp [St.linkOf, hq, hl]

theorem back_congr {s s' : St} (hq : s'.q = s.q) : s'.back = s.back := by simp [St.back, hq]

theorem linkOf_congr_pos {s s' : St} (hl : s'.links = s.links) {e : Nat} (he : e ≠ 0) : s'.linkOf e = s.linkOf e := by
  simp [St.linkOf, he, hl]

/-- `q.back.link = e` of `doAdd`; `back` is the sentinel when the queue is empty -/
theorem linkOf_added {s s' : St} {v : Int} (hq : s'.q = s.q ++ [(s.nextId, v)])
    (hl : s'.links = if s.back = 0 then s.links else (s.back, s.nextId) :: s.links) (hb : s.back = 0 → s.q = [])
    (e : Nat) : s'.linkOf e = if e = s.back then some s.nextId else s.linkOf e := by
  by_cases he : e = 0
  · subst he
    cases hqq : s.q with
    | nil => simp [St.linkOf, hq, hqq, St.back]
    | cons p rest =>
      have : 0 ≠ s.back := fun h => by rw [hb h.symm] at hqq; cases hqq
      simp [St.linkOf, hq, hqq, this]
  · simp only [St.linkOf, he, if_false, hl]
    by_cases hb0 : s.back = 0
    · rw [if_pos hb0, if_neg (fun h : e = s.back => he (h ▸ hb0))]
    · rw [if_neg hb0, List.find?_cons]
      by_cases hbe : e = s.back
      · simp [hbe]
      · have : (s.back == e) = false := by simpa using Ne.symm hbe
        simp only [this, hbe, if_false]

/-- the cursor as the top of the iterator's loop re-bases it: the sentinel if the entry it yielded last
    was removed while it was the newest one -/
def St.adj (s : St) (c : Nat) : Nat := if c != 0 && (s.linkOf c).isNone && c != s.back then 0 else c

/-- the entry iterator `k` yields next, if any -/
def St.succ (s : St) (k : Nat) : Option Nat := s.linkOf (s.adj (s.cursor k))

theorem St.adj_cases (s : St) (c : Nat) :
    (s.adj c = 0 ∧ c ≠ 0 ∧ s.linkOf c = none ∧ c ≠ s.back) ∨ s.adj c = c := by
  unfold St.adj
  by_cases h : (c != 0 && (s.linkOf c).isNone && c != s.back) = true
  · rw [if_pos h]
    simp only [Bool.and_eq_true, bne_iff_ne, ne_eq, Option.isNone_iff_eq_none] at h
    exact .inl ⟨rfl, h.1.1, h.1.2, h.2⟩
  · exact .inr (if_neg h)

theorem St.adj_idem (s : St) (c : Nat) : s.adj (s.adj c) = s.adj c := by
  unfold St.adj
  by_cases h : (c != 0 && (s.linkOf c).isNone && c != s.back) = true <;> simp [h]

theorem adj_congr {s s' : St} (hq : s'.q = s.q) (hl : s'.links = s.links) (c : Nat) : s'.adj c = s.adj c := by
  simp [St.adj, linkOf_congr hq hl, back_congr hq]

theorem succ_congr {s s' : St} (hq : s'.q = s.q) (hl : s'.links = s.links) {k : Nat}
    (hc : s'.cursor k = s.cursor k) : s'.succ k = s.succ k := by
  simp [St.succ, adj_congr hq hl, linkOf_congr hq hl, hc]

/-- the state `doAdd` leaves when the tracker accepts (`tr` = the tracker after `add()`) -/
def St.added (s : St) (tr : Tracker) (v : Int) : St :=
  { s with tracker := tr, q := s.q ++ [(s.nextId, v)], vals := (s.nextId, v) :: s.vals, nextId := s.nextId + 1,
           links := if s.back = 0 then s.links else (s.back, s.nextId) :: s.links }

inductive DoAdd (s : St) (v : Int) : St × String × List Sig → Prop
  | closed : s.closed = true → DoAdd s v (s, "closed", [])
  | full (tr : Tracker) : s.closed = false → s.tracker.add = (tr, .full) → DoAdd s v (s, "full", [])
  | noCredit (tr : Tracker) : s.closed = false → s.tracker.add = (tr, .noCredit) → DoAdd s v (s, "nocredit", [])
  | ok (tr : Tracker) : s.closed = false → s.tracker.add = (tr, .ok) →
      DoAdd s v (s.added tr v, "ok", (if tr.len == 1 then [Sig.signal 0] else []) ++ [Sig.broadcast 1])

theorem doAdd_spec (s : St) (v : Int) : DoAdd s v (doAdd s v) := by
  unfold doAdd
  by_cases hc : s.closed = true
  · rw [if_pos hc]; exact .closed hc
  · rw [if_neg hc]
    have hc : s.closed = false := by simpa using hc
    cases ha : s.tracker.add with
    | mk tr res =>
      cases res with
      | ok => exact .ok tr hc ha
      | full => exact .full tr hc ha
      | noCredit => exact .noCredit tr hc ha

/-- how a pass of `baddLoop`/`waitLoop` ends when what it waits for is not there -/
def blockedEnd (s : St) (c : Bool) (cnd : Nat) : SegEnd :=
  if s.closed then .ret "closed" else if c then .ret "ctx" else .park cnd

theorem blockedEnd_ne_ok (s : St) (c : Bool) (cnd : Nat) : blockedEnd s c cnd ≠ .ret "ok" := by
  unfold blockedEnd
  cases s.closed <;> cases c <;> simp

theorem blockedEnd_cases (s : St) (c : Bool) (cnd : Nat) :
    (s.closed = true ∧ blockedEnd s c cnd = .ret "closed") ∨
    (s.closed = false ∧ c = true ∧ blockedEnd s c cnd = .ret "ctx") ∨
    (s.closed = false ∧ c = false ∧ blockedEnd s c cnd = .park cnd) := by
  unfold blockedEnd
  cases s.closed <;> cases c <;> simp

theorem baddLoop_noroom {s : St} (h : s.tracker.hasRoom = false) (v : Int) (c : Bool) (sigs : List Sig) :
    baddLoop s v c sigs = { st := s, sigs := sigs, fin := blockedEnd s c 1 } := by
  unfold baddLoop blockedEnd
  rw [h]
  cases s.closed <;> cases c <;> rfl

theorem baddLoop_room {s : St} (h : s.tracker.hasRoom = true) (v : Int) (c : Bool) (sigs : List Sig) :
    baddLoop s v c sigs =
      { st := (doAdd s v).1, sigs := sigs ++ (doAdd s v).2.2, fin := .ret (doAdd s v).2.1 } := by
  unfold baddLoop
  rw [h]; rfl

theorem waitLoop_empty {s : St} (h : s.tracker.len = 0) (c : Bool) (sigs : List Sig) :
    waitLoop s c sigs = { st := s, sigs := sigs, fin := blockedEnd s c 0 } := by
  unfold waitLoop blockedEnd
  rw [h]
  cases s.closed <;> cases c <;> rfl

theorem waitLoop_nonempty {s : St} (h : s.tracker.len ≠ 0) (c : Bool) (sigs : List Sig) :
    waitLoop s c sigs =
      { st := (popFront s).1, sigs := sigs ++ (popFront s).2.2, fin := .ret (toString (popFront s).2.1) } := by
  unfold waitLoop
  rw [if_neg (by simpa using h)]

inductive NextSeg (s : St) (t k : Nat) : Bool → SegOut St → Prop
  | yield {c : Bool} (n : Nat) (h : s.succ k = some n) :
      NextSeg s t k c { st := { (s.setCursor k n) with waited := s.waited.filter (· != t) },
                        fin := .ret (toString (s.valOf n)) }
  | stop {c : Bool} {r : String} (h : s.succ k = none)
      (hr : (s.closed = true ∧ r = "eof") ∨ (s.closed = false ∧ c = true ∧ r = "ctx")) :
      NextSeg s t k c { st := { (s.setCursor k (s.adj (s.cursor k))) with waited := s.waited.filter (· != t) },
                        fin := .ret r }
  | park (h : s.succ k = none) (hcl : s.closed = false) :
      NextSeg s t k false
        { st := { (s.setCursor k (s.adj (s.cursor k))) with
            waited := if s.waited.contains t then s.waited else t :: s.waited },
          sigs := if s.waited.contains t then [] else [.spawn 1], fin := .park 1 }

theorem nextLoop_spec (s : St) (t k : Nat) (c : Bool) : NextSeg s t k c (nextLoop s t k c) := by
  cases h : s.succ k with
  | some n =>
    have h' := h
    simp only [St.succ, St.adj] at h'
    simp only [nextLoop, h']
    exact .yield n h
  | none =>
    have h' := h
    simp only [St.succ, St.adj] at h'
    simp only [nextLoop, h']
    show NextSeg s t k c (if s.closed = true then _ else if c = true then _ else if s.waited.contains t = true then _ else _)
    cases hcl : s.closed with
    | true => exact .stop h (.inl ⟨hcl, rfl⟩)
    | false =>
      cases c with
      | true => exact .stop h (.inr ⟨hcl, rfl, rfl⟩)
      | false =>
        have := NextSeg.park (t := t) h hcl
        revert this
        cases s.waited.contains t <;> exact id

theorem NextSeg.frame {s : St} {t k : Nat} {c : Bool} {o : SegOut St} (h : NextSeg s t k c o) :
    o.st.tracker = s.tracker ∧ o.st.closed = s.closed ∧ o.st.q = s.q ∧ o.st.links = s.links ∧ o.st.vals = s.vals ∧
    o.st.nextId = s.nextId := by
  cases h <;> exact ⟨rfl, rfl, rfl, rfl, rfl, rfl⟩

/-- what a segment emits before it reaches `doAdd`/`popFront`: helper starts only -/
def Spawns (pre : List Sig) : Prop := ∀ sg ∈ pre, ∃ c, sg = Sig.spawn c

theorem spawns_nil : Spawns [] := fun _ h => by cases h
theorem spawns_one (c : Nat) : Spawns [.spawn c] := fun sg h => by simp at h; exact ⟨c, h⟩
theorem spawns_ite (b : Bool) (c : Nat) : Spawns (if b then [] else [.spawn c]) := by
  cases b
  · exact spawns_one c
  · exact spawns_nil
theorem Spawns.no_bcast {pre : List Sig} (h : Spawns pre) (c : Nat) : Sig.broadcast c ∉ pre := by
  intro hm; obtain ⟨_, he⟩ := h _ hm; cases he
theorem Spawns.no_signal {pre : List Sig} (h : Spawns pre) (c : Nat) : Sig.signal c ∉ pre := by
  intro hm; obtain ⟨_, he⟩ := h _ hm; cases he
theorem Spawns.no_release {pre : List Sig} (h : Spawns pre) : Sig.release ∉ pre := by
  intro hm; obtain ⟨_, he⟩ := h _ hm; cases he

/-- `BlockingAdd` (and `Receive`, below) starts with one pass of its loop; the helper is started unless the
    tests in front of the loop already decide the call -/
theorem start_badd (s : St) (t : Nat) (v : Int) :
    start s t (.badd v) = baddLoop s v false (if s.closed || s.tracker.hasRoom then [] else [.spawn 1]) := by
  unfold start baddLoop doAdd
  cases hc : s.closed <;> cases hr : s.tracker.hasRoom <;> simp

theorem start_recv (s : St) (t : Nat) :
    start s t .recv = waitLoop s false (if s.tracker.len != 0 then [] else [.spawn 0]) := by
  unfold start waitLoop
  by_cases h : s.tracker.len = 0 <;> simp [h]

theorem resume_nonblocking (s : St) (t : Nat) {op : Op} (c : Bool) (h : op.blocking = false) :
    resume s t op c = { st := s, fin := .ret "bad-resume" } := by
  cases op <;> first | rfl | cases h

/-- what a blocking operation waits for, as the loops test it -/
def St.avail (s : St) : Op → Bool
  | .wait | .recv => s.tracker.len != 0
  | .badd _ => s.tracker.hasRoom
  | .next k => (s.succ k).isSome
  | _ => true

/-- `Seg s t op first c o`: `o` is the critical section thread `t` runs for `op` in state `s` — the invocation
    (`first`) or a re-check after a wake-up, with context flag `c`. `pre` is the helper a first pass may have
    started; `blocked.hsp`: an invocation that parks has started it (`Seg.park_spawn`, for `Conc.ParkOK`).
    `bad` is `resume` of an operation that never parks; no run contains it. -/
inductive Seg (s : St) (t : Nat) : Op → Bool → Bool → SegOut St → Prop
  | add {op : Op} {first c : Bool} {pre : List Sig} {x : St × String × List Sig} (v : Int)
      (hop : op = .add v ∨ op = .badd v) (hav : s.avail op = true) (hpre : Spawns pre) (hd : DoAdd s v x) :
      Seg s t op first c { st := x.1, sigs := pre ++ x.2.2, fin := .ret x.2.1 }
  | pop {op : Op} {first c : Bool} {pre : List Sig} (e : Nat) (v : Int) (rest : List (Nat × Int))
      (hop : op = .remove ∨ op = .wait ∨ op = .recv) (hlen : s.tracker.len ≠ 0) (hpre : Spawns pre)
      (hq : s.q = (e, v) :: rest) :
      Seg s t op first c { st := { s with q := rest, tracker := s.tracker.remove }, sigs := pre ++ [.broadcast 1],
                           fin := .ret (toString v) }
  | blocked {op : Op} {first c : Bool} {pre : List Sig} {cnd : Nat} (hop : ∀ k, op ≠ .next k)
      (hc : condOf op = some cnd) (hav : s.avail op = false) (hpre : Spawns pre)
      (hsp : first = true → s.closed = false → Sig.spawn cnd ∈ pre) :
      Seg s t op first c { st := s, sigs := pre, fin := blockedEnd s c cnd }
  | none (hlen : s.tracker.len = 0) : Seg s t .remove true false { st := s, fin := .ret "none" }
  | len : Seg s t .len true false { st := s, fin := .ret (toString s.tracker.len) }
  | close : Seg s t .close true false
      { st := { s with closed := true }, sigs := [.broadcast 1, .broadcast 0], fin := .ret "ok" }
  | next (k : Nat) {first c : Bool} {o : SegOut St} (hn : NextSeg s t k c o) : Seg s t (.next k) first c o
  | bad {op : Op} {c : Bool} (hb : op.blocking = false) : Seg s t op false c { st := s, fin := .ret "bad-resume" }

theorem Seg.ofBadd {s : St} (t : Nat) (v : Int) (first c : Bool) {pre : List Sig}
    (hpre : Spawns pre) (hsp : first = true → s.closed = false → s.tracker.hasRoom = false → Sig.spawn 1 ∈ pre) :
    Seg s t (.badd v) first c (baddLoop s v c pre) := by
  cases hr : s.tracker.hasRoom with
  | true => rw [baddLoop_room hr]; exact .add v (.inr rfl) hr hpre (doAdd_spec s v)
  | false => rw [baddLoop_noroom hr]; exact .blocked nofun rfl hr hpre fun hf hc => hsp hf hc hr

theorem Seg.ofPop {s : St} (hl : s.tracker.len = s.q.length) (t : Nat) {op : Op} (first c : Bool) {pre : List Sig}
    (hop : op = .remove ∨ op = .wait ∨ op = .recv) (hlen : s.tracker.len ≠ 0) (hpre : Spawns pre) :
    Seg s t op first c { st := (popFront s).1, sigs := pre ++ (popFront s).2.2, fin := .ret (toString (popFront s).2.1) } := by
  unfold popFront
  cases hq : s.q with
  | nil => rw [hq] at hl; exact absurd hl hlen
  | cons p rest => exact .pop p.1 p.2 rest hop hlen hpre hq

theorem Seg.ofWait {s : St} (hl : s.tracker.len = s.q.length) (t : Nat) {op : Op} (first c : Bool) {pre : List Sig}
    (hop : op = .wait ∨ op = .recv) (hpre : Spawns pre)
    (hsp : first = true → s.tracker.len = 0 → Sig.spawn 0 ∈ pre) :
    Seg s t op first c (waitLoop s c pre) := by
  by_cases hlen : s.tracker.len = 0
  · rw [waitLoop_empty hlen]
    refine .blocked (fun k e => by rcases hop with rfl | rfl <;> cases e) (by rcases hop with rfl | rfl <;> rfl)
      (by rcases hop with rfl | rfl <;> simp [St.avail, hlen]) hpre fun hf _ => hsp hf hlen
  · rw [waitLoop_nonempty hlen]; exact .ofPop hl t first c (.inr hop) hlen hpre

theorem Seg.of {s : St} (hl : s.tracker.len = s.q.length) (t : Nat) (op : Op) :
    Seg s t op true false (start s t op) ∧ ∀ c, Seg s t op false c (resume s t op c) := by
  cases op with
  | badd v =>
    refine ⟨start_badd s t v ▸ .ofBadd t v _ _ (spawns_ite _ 1) fun _ hc hr => ?_,
      fun c => .ofBadd t v _ c spawns_nil nofun⟩
    simp [hc, hr]
  | wait => exact ⟨.ofWait hl t _ _ (.inl rfl) (spawns_one 0) (fun _ _ => List.mem_singleton.2 rfl),
      fun c => .ofWait hl t _ c (.inl rfl) spawns_nil nofun⟩
  | recv =>
    refine ⟨start_recv s t ▸ .ofWait hl t _ _ (.inr rfl) (spawns_ite _ 0) fun _ h0 => ?_,
      fun c => .ofWait hl t _ c (.inr rfl) spawns_nil nofun⟩
    simp [h0]
  | next k => exact ⟨.next k (nextLoop_spec ..), fun c => .next k (nextLoop_spec ..)⟩
  | add v => exact ⟨.add (pre := []) v (.inl rfl) rfl spawns_nil (doAdd_spec s v), fun _ => .bad rfl⟩
  | remove =>
    refine ⟨?_, fun _ => .bad rfl⟩
    unfold start
    by_cases hlen : s.tracker.len = 0
    · rw [if_pos (by simpa using hlen)]; exact .none hlen
    · rw [if_neg (by simpa using hlen)]; exact .ofPop (pre := []) hl t _ _ (.inl rfl) hlen spawns_nil
  | len => exact ⟨.len, fun _ => .bad rfl⟩
  | close => exact ⟨.close, fun _ => .bad rfl⟩

end FunModel.Queue
