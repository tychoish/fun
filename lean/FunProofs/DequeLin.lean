import FunProofs.Conc
import FunProofs.DequeSys

/-! Linearizability of the Deque model (C06): runs with the log of their segments (`ReachL`), the
    replay of such a log on the sequential specification (`Spec.replay`, `replay_reachL`), and that
    the log brackets each operation between its first and its returning segment (`Bracketed`,
    `bracketed_reachL`). A log entry `LEv` keeps the structured result `FinR` of the segment, which
    `Spec.lin` compares with what the sequential deque answers (the log of `ConcSubj.Reach'` holds
    the results rendered as strings). -/

namespace FunModel.Deque
open FunModel.Conc

structure LEv where
  t : Nat
  op : Op
  first : Bool         -- the segment that starts the operation (fresh, live context)
  cancelled : Bool     -- the operation's context was cancelled when the segment ran
  fin : FinR

def evOf (x : St) (t : Nat) (th0 : Th Op) (op : Op) : LEv :=
  ⟨t, op, decide (th0.st = .idle), th0.cancelled, (segROf x th0 op).fin⟩

/-- reachability that records the executed segments, oldest first -/
inductive ReachL (s0 : Sys St Op) : List LEv → Sys St Op → Prop
  | init : ReachL s0 [] s0
  | seg {evs : List LEv} {s s' : Sys St Op} {a : Act} {obs : String} {t : Nat} {th0 : Th Op} {op : Op}
      {o : SegOut St} : ReachL s0 evs s → a ∈ enabled s true → step subject s a = some (s', obs) →
      IsSeg subject s t a th0 op o → ReachL s0 (evs ++ [evOf s.subj t th0 op]) s'
  | other {evs : List LEv} {s s' : Sys St Op} {a : Act} {obs : String} {t : Nat} :
      ReachL s0 evs s → a ∈ enabled s true → step subject s a = some (s', obs) →
      (a = .cancel t ∨ a = .fire t) → ReachL s0 evs s'

theorem ReachL.reach {s0 s : Sys St Op} {evs : List LEv} (h : ReachL s0 evs s) : Reach subject s0 s := by
  induction h with
  | init => exact .init
  | seg _ hen hs _ ih => exact .step ih hen hs
  | other _ hen hs _ ih => exact .step ih hen hs

theorem reach_reachL {s0 s : Sys St Op} (hr : Reach subject s0 s) (h0 : s0.WF) : ∃ evs, ReachL s0 evs s := by
  obtain ⟨evs, ht⟩ := hr.reachT h0
  clear hr
  induction ht with
  | init => exact ⟨[], .init⟩
  | seg _ hen hs hseg ih => exact ih.elim fun _ h => ⟨_, .seg h hen hs hseg⟩
  | other _ hen hs ha ih => exact ih.elim fun _ h => ⟨_, .other h hen hs ha⟩

namespace Spec

/-- the effect of one logged segment on the sequential deque: a segment that parks and the
    iterator calls are not linearization points; a segment that returns `r` is the whole
    sequential operation and must produce exactly `r` (`none` = the log is not explained) -/
def lin (sp : Spec) (ev : LEv) : Option Spec :=
  match ev.fin with
  | .park _ => some sp
  | .ret r =>
    if ev.op.isIter then some sp
    else match sp.run ev.cancelled ev.op with
      | some (sp', r') => if r' = r then some sp' else none
      | none => none

def replay (sp : Spec) (evs : List LEv) : Option Spec := evs.foldlM lin sp

theorem replay_append (sp : Spec) (evs : List LEv) (ev : LEv) :
    replay sp (evs ++ [ev]) = (replay sp evs).bind (fun sp' => lin sp' ev) := by
  simp [replay, List.foldlM_append]

end Spec

/-- by `SegSpec` for the deque operations, by `Eff.absS_iter` for the iterator calls -/
theorem lin_segment (x : St) (hx : Inv x) (t : Nat) (th0 : Th Op) (op : Op)
    (hcan : th0.st = .idle → th0.cancelled = false) (hst : th0.st = .idle ∨ th0.st = .woken)
    (hblk : th0.st = .woken → op.blocking = true) :
    (absS x).lin (evOf x t th0 op) = some (absS (segROf x th0 op).st) := by
  unfold Spec.lin evOf
  simp only
  by_cases hit : op.isIter = true
  · rw [(segROf_eff x th0 op).absS_iter hit]
    cases (segROf x th0 op).fin <;> simp [hit]
  · have hit' : op.isIter = false := by simpa using hit
    have hspec : SegSpec x op th0.cancelled (segROf x th0 op) := by
      unfold segROf
      by_cases hi : th0.st = .idle
      · simp only [hi, ite_true]; rw [hcan hi]; exact startR_spec x hx op hit'
      · simp only [hi, ite_false]
        exact resumeR_spec x op th0.cancelled hit' (hblk (hst.resolve_left hi))
    unfold SegSpec at hspec
    cases hfin : (segROf x th0 op).fin with
    | ret r => rw [hfin] at hspec; simp [hit', hspec]
    | park c => rw [hfin] at hspec; simp [hspec.2]

/-- `linearizable` (C06) -/
theorem replay_reachL {s0 s : Sys St Op} {evs : List LEv} (hwf0 : s0.WF) (h0 : Inv s0.subj)
    (hw0 : WaitingIn (fun op => op.blocking = true) s0) (h : ReachL s0 evs s) :
    (absS s0.subj).replay evs = some (absS s.subj) := by
  induction h with
  | init => rfl
  | @seg evs s s' a obs t th0 op o hprev hen hs hseg ih =>
    rw [Spec.replay_append, ih]
    have hr := hprev.reach
    have hwf := hr.wf hwf0
    obtain ⟨ho, hcan, hst⟩ := isSeg_segR hseg
    have hrel := hseg.rel hwf hen hs
    -- only an operation that can park is ever resumed; `resumeR` of any other answers `bad`
    have hblk : th0.st = .woken → op.blocking = true := by
      intro hwk
      obtain ⟨_, hth, _⟩ := hseg.of_woken hwk
      obtain ⟨op', hop', hb⟩ := reach_waitingIn hwf0 hw0 hr t th0 hth (Or.inl hwk)
      obtain ⟨_, _, _, _, _, _, hop, _⟩ := hseg.basic
      rw [hop] at hop'; cases hop'; exact hb
    rw [Option.bind_some, lin_segment s.subj (reach_inv hwf0 h0 hr) t th0 op hcan hst hblk, hrel.subj, ho]
    rfl
  | @other evs s s' a obs t hprev hen hs ha ih =>
    rw [ih, (cancel_fire_thread (hprev.reach.wf hwf0) hen hs ha).1]

/-- thread `t` has an operation in progress after the log `evs`: its last segment parked -/
def pendingAfter (evs : List LEv) (t : Nat) : Bool :=
  evs.foldl (fun b ev => if ev.t = t then (match ev.fin with | .park _ => true | .ret _ => false) else b) false

theorem pendingAfter_snoc (evs : List LEv) (ev : LEv) (t : Nat) :
    pendingAfter (evs ++ [ev]) t =
      if ev.t = t then (match ev.fin with | .park _ => true | .ret _ => false) else pendingAfter evs t := by
  simp [pendingAfter, List.foldl_append]

/-- every logged segment is the first of an operation exactly when its thread has none in progress:
    a thread's segments come in blocks `first, resume*` that end with the segment that returns -/
inductive Bracketed : List LEv → Prop
  | nil : Bracketed []
  | snoc {evs : List LEv} {ev : LEv} : Bracketed evs → ev.first = !(pendingAfter evs ev.t) → Bracketed (evs ++ [ev])

theorem bracketed_reachL {init : St} {programs : List (List Op)} {evs : List LEv} {s : Sys St Op}
    (h : ReachL (initSys init programs) evs s) :
    Bracketed evs ∧ ∀ t th, s.ths[t]? = some th → (pendingAfter evs t = true ↔ Blocked th) := by
  induction h with
  | init =>
    refine ⟨.nil, ?_⟩
    intro t th hth
    simp only [pendingAfter, List.foldl_nil, Bool.false_eq_true, false_iff]
    rintro (h | ⟨c, h⟩) <;> rcases initThs_st hth with e | e <;> rw [e] at h <;> cases h
  | @seg evs s s' a obs t th0 op o hprev hen hs hseg ih =>
    obtain ⟨hb, hinv⟩ := ih
    have hwf := hprev.reach.wf (initSys_wf init programs)
    have r := hseg.rel hwf hen hs
    obtain ⟨ho, _, hrun⟩ := isSeg_segR hseg
    obtain ⟨th, hth, _, _, hst0, _, _, _, _⟩ := hseg.basic
    have hev_t : (evOf s.subj t th0 op).t = t := rfl
    have hev_fin : (evOf s.subj t th0 op).fin = (segROf s.subj th0 op).fin := rfl
    have hev_first : (evOf s.subj t th0 op).first = decide (th0.st = .idle) := rfl
    constructor
    · -- `first` records that the running thread was idle, and by the second conjunct a thread that
      -- can run a segment is idle exactly when the log shows nothing pending for it
      refine .snoc hb ?_
      rw [hev_t, hev_first]
      have hinvt := hinv t th hth
      rcases hrun with hidle | hwk
      · have : pendingAfter evs t ≠ true := fun hpa => by
          rcases hinvt.1 hpa with h | ⟨c, h⟩ <;> (rw [← hst0, hidle] at h; cases h)
        rw [Bool.eq_false_iff.2 this, hidle]; rfl
      · rw [hinvt.2 (Or.inl (hst0 ▸ hwk)), hwk]; rfl
    · intro u th' hth'
      rw [pendingAfter_snoc, hev_t]
      by_cases hut : u = t
      · subst hut
        simp only [ite_true, hev_fin]
        rw [r.self_eq hth', Blocked, finTh_waiting_iff, ho, SegR.out_fin]
        cases (segROf s.subj th0 op).fin with
        | ret rv => exact ⟨nofun, fun ⟨c, h⟩ => nomatch h⟩
        | park c => exact ⟨fun _ => ⟨c, rfl⟩, fun _ => rfl⟩
      · simp only [Ne.symm hut, ite_false]
        obtain ⟨thu, hthu, w⟩ := r.other_inv hut hth'
        rw [show Blocked th' ↔ Blocked thu from waiting_iff_of_wake w.st]
        exact hinv u thu hthu
  | @other evs s s' a obs t hprev hen hs ha ih =>
    obtain ⟨hb, hinv⟩ := ih
    refine ⟨hb, fun u th' hth' => ?_⟩
    -- a cancellation or a helper's broadcast at most turns a parked goroutine into a woken one
    obtain ⟨th, hth, _, _, hst⟩ := cancel_fire_back (hprev.reach.wf (initSys_wf init programs)) hen hs ha hth'
    rw [hinv u th hth]
    exact (waiting_iff_of_wake hst).symm

end FunModel.Deque
