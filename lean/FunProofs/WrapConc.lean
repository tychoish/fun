import FunModel.WrapConc
import FunProofs.ListAux

/-! Invariants of the small-step wrapper machines (C15). For Once the invariant names the phases the machine goes
    through, each as the record the state then is; for the others it is a structure of counter equations. A step proof
    opens the state into its fields, so that the step function computes on the program counter. -/
namespace FunModel.WrapConc
open FunModel.Wrap

theorem Machine.inv_reachable {m : Machine} {P : m.S → Prop} {s0 s : m.S} (h0 : P s0)
    (hstep : ∀ s a s', P s → m.step s a = some s' → P s') : m.Reachable s0 s → P s :=
  List.foldlM_option_reach_induction P h0 fun s a s' _ => hstep s a s'

/-- what every caller of the Once-wrapped function is to observe, given what the execution produced -/
def onceExpected (k : Kind) (r : Res) : Res :=
  match r with
  | .ret v e => k.cache (.ret v e)
  | .panic _ => .zero

/-- what the single execution produces -/
def firstOutcome (k : Kind) (script : List Step) : Res := k.proj (popStep script).1.res

/-- the first caller has not left `once.Do` yet -/
def RunPC.busy : RunPC → Nat
  | .none => 0
  | _ => 1

inductive OncePhase (k : Kind) (script : List Step) : OnceS → Prop
  | fresh (idle : Nat) : OncePhase k script { k := k, idle := idle, script := script }
  | running (idle blocked : Nat) : OncePhase k script
      { k := k, idle := idle, blocked := blocked, runner := .inFn, started := true, script := script, execs := 1 }
  /-- the function has returned and its result is stored; `Do` has not exited -/
  | returned (idle blocked : Nat) (scr : List Step) {v : Int} {e : Err} (h : firstOutcome k script = .ret v e) :
      OncePhase k script { k := k, idle := idle, blocked := blocked, runner := .assigned, started := true,
                           cache := k.cache (.ret v e), script := scr, execs := 1, finished := 1 }
  /-- the function has panicked; `Do` has not unwound -/
  | panicked (idle blocked : Nat) (scr : List Step) {p : Err} (h : firstOutcome k script = .panic p) :
      OncePhase k script { k := k, idle := idle, blocked := blocked, runner := .panicking p, started := true,
                           script := scr, execs := 1, finished := 1 }
  | fired (idle blocked after : Nat) (scr : List Step) (rets : List ORet) {cache : Res}
      (hc : cache = onceExpected k (firstOutcome k script))
      (h : ∀ r ∈ rets, r.fin = 1 ∧ (r.res = onceExpected k (firstOutcome k script) ∨
        ∃ p, firstOutcome k script = .panic p ∧ r.res = .panic p)) :
      OncePhase k script { k := k, idle := idle, blocked := blocked, after := after, started := true, fired := true,
                           cache := cache, script := scr, execs := 1, finished := 1, rets := rets }

def OnceInv (k : Kind) (callers : Nat) (script : List Step) (s : OnceS) : Prop :=
  s.rets.length + s.idle + s.blocked + s.after + s.runner.busy = callers ∧ OncePhase k script s

theorem onceInv_step (k : Kind) (callers : Nat) (script : List Step) (s : OnceS) (a : OnceA) (s' : OnceS)
    (h : OnceInv k callers script s) (hs : onceStep s a = some s') : OnceInv k callers script s' := by
  obtain ⟨hc, hph⟩ := h
  -- in each phase the program counter and the flags are known, so a disabled action computes to `none`
  cases hph with
  | fresh idle =>
    cases a with
    | enter =>
      cases idle with | zero => cases hs | succ idle => ?_
      cases hs
      exact ⟨by simpa +arith only [RunPC.busy, Nat.add_one_sub_one] using hc, .running _ _⟩
    | _ => cases hs
  | running idle blocked =>
    cases a with
    | enter =>
      cases idle with | zero => cases hs | succ idle => ?_
      cases hs
      exact ⟨by simpa +arith only [Nat.add_one_sub_one] using hc, .running _ _⟩
    | fnEnd =>
      simp only [onceStep] at hs
      split at hs <;> cases hs
      · exact ⟨hc, .panicked _ _ _ ‹_›⟩
      · exact ⟨hc, .returned _ _ _ ‹_›⟩
    | wake => cases blocked <;> cases hs
    | _ => cases hs
  | returned idle blocked scr hfo =>
    cases a with
    | enter =>
      cases idle with | zero => cases hs | succ idle => ?_
      cases hs
      exact ⟨by simpa +arith only [Nat.add_one_sub_one] using hc, .returned _ _ _ hfo⟩
    | exit =>
      cases hs
      exact ⟨by simpa +arith only [RunPC.busy] using hc, .fired _ _ _ _ _ (by rw [hfo]; rfl) nofun⟩
    | wake => cases blocked <;> cases hs
    | _ => cases hs
  | panicked idle blocked scr hfo =>
    cases a with
    | enter =>
      cases idle with | zero => cases hs | succ idle => ?_
      cases hs
      exact ⟨by simpa +arith only [Nat.add_one_sub_one] using hc, .panicked _ _ _ hfo⟩
    | exit =>
      cases hs
      exact ⟨by simpa +arith only [RunPC.busy, List.length_cons] using hc,
        .fired _ _ _ _ _ (by rw [hfo]; rfl) (List.forall_mem_cons.2 ⟨⟨rfl, .inr ⟨_, hfo, rfl⟩⟩, nofun⟩)⟩
    | wake => cases blocked <;> cases hs
    | _ => cases hs
  | fired idle blocked after scr rets hca hre =>
    cases a with
    | enter =>
      cases idle with | zero => cases hs | succ idle => ?_
      cases hs
      exact ⟨by simpa +arith only [Nat.add_one_sub_one] using hc, .fired _ _ _ _ _ hca hre⟩
    | wake =>
      cases blocked with | zero => cases hs | succ blocked => ?_
      cases hs
      exact ⟨by simpa +arith only [Nat.add_one_sub_one] using hc, .fired _ _ _ _ _ hca hre⟩
    | ret =>
      cases after with | zero => cases hs | succ after => ?_
      cases hs
      exact ⟨by simpa +arith only [List.length_cons, Nat.add_one_sub_one] using hc,
        .fired _ _ _ _ _ hca (List.forall_mem_cons.2 ⟨⟨rfl, .inl hca⟩, hre⟩)⟩
    | _ => cases hs

theorem onceInv_returned {k : Kind} {callers : Nat} {script : List Step} {s : OnceS}
    (h : OnceInv k callers script s) :
    s.execs ≤ 1 ∧ (s.rets ≠ [] → s.execs = 1 ∧ s.finished = 1) ∧
      ∀ r ∈ s.rets, r.fin = 1 ∧ (r.res = onceExpected k (firstOutcome k script) ∨
        ∃ p, firstOutcome k script = .panic p ∧ r.res = .panic p) := by
  cases h.2 with
  | fresh => exact ⟨Nat.zero_le 1, fun h => absurd rfl h, nofun⟩
  | fired _ _ _ _ _ _ hre => exact ⟨Nat.le_refl 1, fun _ => ⟨rfl, rfl⟩, hre⟩
  | _ => exact ⟨Nat.le_refl 1, fun h => absurd rfl h, nofun⟩

theorem onceInv_reachable {k : Kind} {callers : Nat} {script : List Step} {s : OnceS}
    (h : onceM.Reachable (onceInit k callers script) s) : OnceInv k callers script s :=
  Machine.inv_reachable ⟨Nat.zero_add _, .fresh _⟩ (onceInv_step k callers script) h

/-- executions that have returned but whose counter.Store is still to come -/
def pendStore : Option HPC → Nat
  | some (.assigning _ _) | some (.storing _ _) => 1
  | _ => 0

/-- executions that have returned whose caller has not returned yet -/
def pendOwn : Option HPC → Nat
  | some (.assigning _ _) | some (.storing _ _) | some (.leaving (some _)) => 1
  | _ => 0

def insideFn : Option HPC → Nat
  | some (.inFn _) => 1
  | _ => 0

theorem insideFn_le (h : Option HPC) : insideFn h ≤ 1 := by
  unfold insideFn; split <;> decide

def pendPanic : Option HPC → Nat
  | some (.panicLeaving _) => 1
  | _ => 0

def holds : Option HPC → Nat
  | some _ => 1
  | none => 0

/-- what the mutex owner knows at each of its program points -/
def holderOK (s : LimS) : Prop :=
  match s.holder with
  | none => True
  | some .locked => True
  | some (.inFn num) => num = s.counter ∧ s.counter < s.n
  | some (.assigning num r) => num = s.counter ∧ s.counter < s.n ∧ s.hist.head? = some r ∧ isPanicB r = false
  | some (.storing num r) => num = s.counter ∧ s.counter < s.n ∧ s.hist.head? = some r ∧ s.output = r
  | some (.leaving (some r)) => s.output = r
  | some (.leaving none) => s.counter = s.n
  | some (.panicLeaving _) => True

/-- a returned caller: one that executed returns its own execution's result; one that did not saw its own execution
    panic, or returned the result of the latest of `n` completed executions -/
def retOK (s : LimS) (r : LRet) : Prop :=
  (∀ x, r.own = some x → r.res = x) ∧
  (r.own = none → (∃ p, r.res = .panic p) ∨ (r.fin = s.n ∧ s.hist.length = s.n ∧ s.hist.head? = some r.res))

/-- The counter equations of `limitExec`. The counter lags the completed executions by the one whose `Store` is still
    to come (`fin_ctr`); a caller is on the fast path, or has returned the cached output, only with the counter at `n`
    (`fast_sat`, `cached_sat`), and then `output` is the result of the latest completed execution (`sat_out`: the
    `n`-th, by `hist_len`); every execution is accounted for by the caller that ran it, returned or still holding the
    mutex (`execs_eq`, `fin_own`, `pan_eq`), and every caller by where it is (`callers_eq`, `rets_len`). -/
structure LimInv (n callers : Nat) (s : LimS) : Prop where
  n_eq : s.n = n
  ctr_le : s.counter ≤ s.n
  fin_le : s.finished ≤ s.n
  hist_len : s.hist.length = s.finished
  fin_ctr : s.finished = s.counter + pendStore s.holder
  fast_sat : s.fastRead > 0 → s.counter = s.n
  sat_out : s.counter = s.n → s.hist.head? = some s.output
  out_ret : isPanicB s.output = false
  holder : holderOK s
  execs_eq : s.execs = s.finished + s.panics + insideFn s.holder
  fin_own : s.finished = s.retOwn + pendOwn s.holder
  pan_eq : s.panics = s.retPanic + pendPanic s.holder
  cached_sat : s.retCached > 0 → s.counter = s.n
  rets_len : s.rets.length = s.retOwn + s.retCached + s.retPanic
  rets_pan : ((s.rets.map (·.res)).filter isPanicB).length = s.retPanic
  callers_eq : s.rets.length + s.idle + s.want + s.fastRead + holds s.holder = callers
  rets_ok : ∀ r ∈ s.rets, retOK s r

theorem LimInv.retOK_cached {n callers : Nat} {s : LimS} (h : LimInv n callers s) (hsat : s.counter = s.n) :
    retOK s { res := s.output, own := none, fin := s.finished } :=
  have hfin : s.finished = s.n := Nat.le_antisymm h.fin_le (hsat ▸ h.fin_ctr ▸ Nat.le_add_right ..)
  ⟨nofun, fun _ => .inr ⟨hfin, h.hist_len.trans hfin, h.sat_out hsat⟩⟩

theorem limInv_step (n callers : Nat) (s : LimS) (a : LimA) (s' : LimS)
    (h : LimInv n callers s) (hs : limStep s a = some s') : LimInv n callers s' := by
  rcases s with ⟨k', n', idle, want, fr, holder, ctr, out, script, execs, fin, pan, hist, rOwn, rCached, rPanic, rets⟩
  cases a with
  | fast =>
    cases idle with | zero => cases hs | succ idle => ?_
    simp only [limStep, Nat.add_one_ne_zero, if_false] at hs
    split at hs <;> cases hs
    · exact { h with
        callers_eq := by simpa +arith only [Nat.add_one_sub_one] using h.callers_eq
        fast_sat := fun _ => ‹_› }
    · exact { h with callers_eq := by simpa +arith only [Nat.add_one_sub_one] using h.callers_eq }
  | readFast =>
    cases fr with | zero => cases hs | succ fr => ?_
    cases hs
    have hsat : ctr = n' := h.fast_sat (Nat.succ_pos fr)
    exact { h with
      fast_sat := fun _ => hsat
      cached_sat := fun _ => hsat
      rets_len := by simpa +arith only [List.length_cons] using h.rets_len
      rets_pan := by simpa [List.filter_cons, h.out_ret] using h.rets_pan
      callers_eq := by simpa +arith only [List.length_cons, Nat.add_one_sub_one] using h.callers_eq
      rets_ok := List.forall_mem_cons.2 ⟨h.retOK_cached hsat, h.rets_ok⟩ }
  | lock =>
    cases want with | zero => cases hs | succ want => ?_
    cases holder with
    | some pc => cases hs
    | none =>
      cases hs
      exact { h with callers_eq := by simpa +arith only [holds, Nat.add_one_sub_one] using h.callers_eq }
  | load =>
    cases holder with
    | none => cases hs
    | some pc =>
      cases pc with
      | locked =>
        simp only [limStep] at hs
        split at hs <;> cases hs
        · exact { h with
            holder := ⟨rfl, ‹_›⟩
            execs_eq := by simpa +arith only [insideFn] using h.execs_eq }
        · exact { h with holder := by have := h.ctr_le; simp only [holderOK] at this ⊢; omega }
      | _ => cases hs
  | fnEnd =>
    cases holder with
    | none => cases hs
    | some pc =>
      cases pc with
      | inFn num =>
        obtain ⟨hnum, hlt⟩ := h.holder
        have hfc := h.fin_ctr
        have hex := h.execs_eq
        simp only [limStep] at hs
        split at hs <;> cases hs
        · exact { h with
            holder := trivial
            execs_eq := by simpa +arith only [insideFn] using hex
            pan_eq := congrArg (· + 1) h.pan_eq }
        · simp only [pendStore] at hfc hlt
          -- the counter is still below n, so no caller has returned a cached result yet
          exact { h with
            fin_le := by simp only [] at hfc ⊢; omega
            hist_len := congrArg (· + 1) h.hist_len
            fin_ctr := congrArg (· + 1) hfc
            sat_out := fun hcn => absurd hcn (Nat.ne_of_lt hlt)
            holder := ⟨hnum, hlt, rfl, rfl⟩
            execs_eq := by simpa +arith only [insideFn] using hex
            fin_own := congrArg (· + 1) h.fin_own
            rets_ok := fun r hr => ⟨(h.rets_ok r hr).1, fun ho => ((h.rets_ok r hr).2 ho).imp_right
              fun ⟨_, hn, _⟩ => absurd (h.hist_len.symm.trans hn) (by simp only [] at hfc ⊢; omega)⟩ }
      | _ => cases hs
  | assign =>
    cases holder with
    | none => cases hs
    | some pc =>
      cases pc with
      | assigning num r =>
        cases hs
        obtain ⟨hnum, hlt, hhd, hr⟩ := h.holder
        exact { h with
          sat_out := fun hcn => absurd hcn (Nat.ne_of_lt hlt)
          out_ret := hr
          holder := ⟨hnum, hlt, hhd, rfl⟩ }
      | _ => cases hs
  | store =>
    cases holder with
    | none => cases hs
    | some pc =>
      cases pc with
      | storing num r =>
        cases hs
        obtain ⟨hnum, hlt, hhd, hout⟩ := h.holder
        have hmin : min n' (num + 1) = ctr + 1 := by simp only [] at hnum hlt; omega
        have hfc := h.fin_ctr
        exact { h with
          ctr_le := by simp only [hmin]; exact hlt
          fin_ctr := by simp only [hmin, pendStore] at hfc ⊢; exact hfc
          fast_sat := fun hf => absurd (h.fast_sat hf) (Nat.ne_of_lt hlt)
          sat_out := fun _ => hout ▸ hhd
          holder := hout
          cached_sat := fun hf => absurd (h.cached_sat hf) (Nat.ne_of_lt hlt) }
      | _ => cases hs
  | unlock =>
    cases holder with
    | none => cases hs
    | some pc =>
      have hl := h.rets_len
      cases pc with
      | leaving own =>
        cases own with
        | some r =>
          cases hs
          exact { h with
            holder := trivial
            fin_own := Nat.add_right_comm .. ▸ h.fin_own
            rets_len := by simpa +arith only [List.length_cons] using hl
            rets_pan := by simpa [List.filter_cons, h.out_ret] using h.rets_pan
            callers_eq := by simpa +arith only [List.length_cons, holds] using h.callers_eq
            rets_ok := List.forall_mem_cons.2 ⟨⟨fun x hx => (Option.some.inj hx) ▸ h.holder, nofun⟩, h.rets_ok⟩ }
        | none =>
          cases hs
          have hsat : ctr = n' := h.holder
          exact { h with
            holder := trivial
            cached_sat := fun _ => hsat
            rets_len := by simpa +arith only [List.length_cons] using hl
            rets_pan := by simpa [List.filter_cons, h.out_ret] using h.rets_pan
            callers_eq := by simpa +arith only [List.length_cons, holds] using h.callers_eq
            rets_ok := List.forall_mem_cons.2 ⟨h.retOK_cached hsat, h.rets_ok⟩ }
      | panicLeaving p =>
        cases hs
        exact { h with
          rets_len := by simpa +arith only [List.length_cons] using hl
          rets_pan := by simpa [List.filter_cons, isPanicB] using h.rets_pan
          callers_eq := by simpa +arith only [List.length_cons, holds] using h.callers_eq
          rets_ok := List.forall_mem_cons.2 ⟨⟨nofun, fun _ => .inl ⟨p, rfl⟩⟩, h.rets_ok⟩ }
      | _ => cases hs

theorem limInv_reachable {k : Kind} {n callers : Nat} {script : List Step} {s : LimS} (hn : 0 < n)
    (h : limM.Reachable (limInit k n callers script) s) : LimInv n callers s :=
  Machine.inv_reachable
    ⟨rfl, Nat.zero_le n, Nat.zero_le n, rfl, rfl, nofun, fun h => absurd h (Nat.ne_of_lt hn), rfl, trivial,
      rfl, rfl, rfl, nofun, rfl, rfl, Nat.zero_add _, nofun⟩
    (limInv_step n callers) h

/-- a cached return happens only once the counter has reached `n`, whence the `min` -/
theorem limInv_terminal {n callers : Nat} {s : LimS} (hi : LimInv n callers s) (ht : s.terminal) :
    s.panics = s.retPanic ∧ s.execs = s.finished + s.retPanic ∧ s.rets.length = callers ∧
      s.finished = min n (callers - s.retPanic) := by
  obtain ⟨h1, h2, h3, hh⟩ := ht
  have := hi.execs_eq; have := hi.fin_ctr; have := hi.fin_own; have := hi.pan_eq; have := hi.callers_eq
  have := hi.rets_len; have := hi.cached_sat; have := hi.ctr_le; have := hi.n_eq
  simp only [hh, pendStore, pendOwn, insideFn, pendPanic, holds] at *
  omega

/-- While an execution is inside, the counter is below n: nobody has returned a cached result, and every
    execution that ended has been returned by the caller that ran it. -/
theorem limInv_inside {n callers : Nat} {s : LimS} (hi : LimInv n callers s) (hin : insideFn s.holder ≠ 0) :
    s.rets.length = s.finished + s.panics := by
  have hho := hi.holder
  have := hi.fin_own; have := hi.pan_eq; have := hi.rets_len; have := hi.cached_sat
  unfold holderOK at hho
  cases hh : s.holder with
  | none => simp [hh, insideFn] at hin
  | some pc =>
    cases pc with
    | inFn num => simp only [hh, pendOwn, pendPanic] at *; omega
    | _ => simp [hh, insideFn] at hin

structure OLInv (n callers : Nat) (s : OLS) : Prop where
  n_eq : s.n = n
  ctr_le : s.counter ≤ s.n
  loaded_lt : ∀ c ∈ s.loaded, c < s.n
  execs_ctr : s.execs = s.counter
  execs_eq : s.execs = s.inFn + s.finished
  fin_eq : s.finished = s.retExec + s.retPanic
  skip_sat : s.retSkip > 0 → s.counter = s.n
  callers_eq : s.idle + s.loaded.length + s.inFn + s.retExec + s.retPanic + s.retSkip = callers

theorem olInv_step (n callers : Nat) (s : OLS) (a : OLA) (s' : OLS)
    (h : OLInv n callers s) (hs : olStep s a = some s') : OLInv n callers s' := by
  rcases s with ⟨n', idle, loaded, inFn, ctr, script, execs, fin, rExec, rPanic, rSkip, panicked⟩
  cases a with
  | load =>
    cases idle with | zero => cases hs | succ idle => ?_
    have hc := h.callers_eq
    simp only [olStep, Nat.add_one_ne_zero, if_false] at hs
    split at hs <;> cases hs
    · exact { h with
        skip_sat := fun _ => Nat.le_antisymm h.ctr_le ‹_›
        callers_eq := by simpa +arith only [Nat.add_one_sub_one] using hc }
    · exact { h with
        loaded_lt := List.forall_mem_cons.2 ⟨Nat.lt_of_not_le ‹_›, h.loaded_lt⟩
        callers_eq := by simpa +arith only [Nat.add_one_sub_one, List.length_cons] using hc }
  | cas i =>
    simp only [olStep] at hs
    split at hs
    · cases hs
    · rename_i cur hg
      have hcur : cur < n' := h.loaded_lt cur (List.mem_of_getElem? hg)
      have hmem : ∀ c ∈ loaded.eraseIdx i, c < n' := fun c hc => h.loaded_lt c (List.mem_of_mem_eraseIdx hc)
      have hc : idle + ((loaded.eraseIdx i).length + 1) + inFn + rExec + rPanic + rSkip = callers := by
        have hi := List.lt_of_getElem? hg
        rw [List.length_eraseIdx_of_lt hi, Nat.sub_add_cancel (Nat.zero_lt_of_lt hi)]
        exact h.callers_eq
      split at hs <;> cases hs
      · -- the CAS succeeds: the value loaded is still the counter, and it was below n
        rename_i hcc
        exact { h with
          ctr_le := hcur
          loaded_lt := hmem
          execs_ctr := congrArg (· + 1) (h.execs_ctr.trans hcc)
          execs_eq := (congrArg (· + 1) h.execs_eq).trans (Nat.add_right_comm ..)
          skip_sat := fun hk => absurd ((h.skip_sat hk).symm.trans hcc) (Nat.ne_of_gt hcur)
          callers_eq := by simpa +arith only using hc }
      · exact { h with loaded_lt := hmem, callers_eq := by simpa +arith only using hc }
  | fnEnd =>
    cases inFn with | zero => cases hs | succ inFn => ?_
    have hc := h.callers_eq
    have hee := h.execs_eq
    simp only [olStep, Nat.add_one_ne_zero, if_false] at hs
    split at hs <;> cases hs
    · exact { h with
        execs_eq := by simpa +arith only [Nat.add_one_sub_one] using hee
        fin_eq := congrArg (· + 1) h.fin_eq
        callers_eq := by simpa +arith only [Nat.add_one_sub_one] using hc }
    · exact { h with
        execs_eq := by simpa +arith only [Nat.add_one_sub_one] using hee
        fin_eq := (congrArg (· + 1) h.fin_eq).trans (Nat.add_right_comm ..)
        callers_eq := by simpa +arith only [Nat.add_one_sub_one] using hc }

theorem olInv_reachable {n callers : Nat} {script : List Step} {s : OLS}
    (h : olM.Reachable (olInit n callers script) s) : OLInv n callers s :=
  Machine.inv_reachable ⟨rfl, Nat.zero_le n, nofun, rfl, rfl, rfl, nofun, rfl⟩ (olInv_step n callers) h

theorem OLInv.execs_le {n callers : Nat} {s : OLS} (hi : OLInv n callers s) : s.execs ≤ n := by
  have := hi.n_eq; have := hi.ctr_le; have := hi.execs_ctr; omega

/-- when everybody has returned: a caller skipped only once the counter had reached n -/
theorem olInv_terminal {n callers : Nat} {s : OLS} (hi : OLInv n callers s) (ht : s.terminal) :
    s.retExec + s.retPanic + s.retSkip = callers ∧ s.execs = min n callers := by
  obtain ⟨h1, hl, h3⟩ := ht
  have := hi.n_eq; have := hi.ctr_le; have := hi.execs_ctr
  have := hi.execs_eq; have := hi.fin_eq; have := hi.skip_sat; have := hi.callers_eq
  simp only [hl, List.length_nil] at *
  omega

structure LkInv (callers : Nat) (s : LkS) : Prop where
  mutex : s.acquired + s.active + s.leaving.length = s.locked.toNat
  max_le : s.maxActive ≤ 1
  callers_eq : s.rets.length + s.idle + s.acquired + s.active + s.leaving.length = callers
  execs_eq : s.execs = s.active + s.leaving.length + s.rets.length

theorem lkInv_step (callers : Nat) (s : LkS) (a : LkA) (s' : LkS)
    (h : LkInv callers s) (hs : lkStep s a = some s') : LkInv callers s' := by
  rcases s with ⟨k, idle, locked, acquired, active, leaving, script, execs, maxActive, rets⟩
  cases a with
  | lock =>
    cases idle with | zero => cases hs | succ idle => ?_
    cases locked with
    | true => cases hs
    | false =>
      cases hs
      exact { h with
        mutex := by simpa +arith only [Bool.toNat_false, Bool.toNat_true] using h.mutex
        callers_eq := by simpa +arith only [Nat.add_one_sub_one] using h.callers_eq }
  | begin =>
    cases acquired with | zero => cases hs | succ acquired => ?_
    cases hs
    -- the caller that begins holds the mutex, so nobody else is inside
    have hm := h.mutex
    have hb := Bool.toNat_le locked
    exact { h with
      mutex := by simpa +arith only [Nat.add_one_sub_one] using hm
      max_le := Nat.max_le.2 ⟨h.max_le, by simp only [] at hm ⊢; omega⟩
      callers_eq := by simpa +arith only [Nat.add_one_sub_one] using h.callers_eq
      execs_eq := by simpa +arith only using h.execs_eq }
  | fnEnd =>
    cases active with | zero => cases hs | succ active => ?_
    cases hs
    exact { h with
      mutex := by simpa +arith only [List.length_cons, Nat.add_one_sub_one] using h.mutex
      callers_eq := by simpa +arith only [List.length_cons, Nat.add_one_sub_one] using h.callers_eq
      execs_eq := by simpa +arith only [List.length_cons, Nat.add_one_sub_one] using h.execs_eq }
  | unlock =>
    cases leaving with
    | nil => cases hs
    | cons r rest =>
      cases hs
      exact { h with
        mutex := by
          have := h.mutex; have := Bool.toNat_le locked
          simp only [List.length_cons, Bool.toNat_false] at *; omega
        callers_eq := by simpa +arith only [List.length_cons] using h.callers_eq
        execs_eq := by simpa +arith only [List.length_cons] using h.execs_eq }

theorem lkInv_reachable {k : Kind} {callers : Nat} {script : List Step} {s : LkS}
    (h : lkM.Reachable (lkInit k callers script) s) : LkInv callers s :=
  Machine.inv_reachable ⟨rfl, Nat.zero_le 1, Nat.zero_add _, rfl⟩ (lkInv_step callers) h

/-- for the repaired `Launch`: a waiter returns only after the background function has -/
structure BgInv (s : BgS) : Prop where
  repaired : s.dropsWait = false
  rets_done : ∀ r ∈ s.rets, r.done = true
  none_early : s.fnFinished = false → s.rets = []

theorem bgInv_step (s : BgS) (a : BgA) (s' : BgS) (h : BgInv s) (hs : bgStep s a = some s') : BgInv s' := by
  rcases s with ⟨worker, dropsWait, bg, waiting, script, rets⟩
  cases a with
  | begin =>
    cases bg with
    | spawned => cases hs; exact { h with none_early := fun _ => h.none_early rfl }
    | _ => cases hs
  | fnEnd =>
    cases bg with
    | inFn =>
      simp only [bgStep, if_true] at hs
      split at hs <;> cases hs
      exact { h with none_early := nofun }
    | _ => cases hs
  | send =>
    cases bg with
    | fnDone e =>
      simp only [bgStep] at hs
      split at hs <;> cases hs
      exact { h with rets_done := List.forall_mem_cons.2 ⟨rfl, h.rets_done⟩, none_early := nofun }
    | _ => cases hs
  | close =>
    cases bg with
    | fnDone e =>
      simp only [bgStep] at hs
      split at hs <;> cases hs
      exact { h with none_early := nofun }
    | sent => cases hs; exact { h with none_early := nofun }
    | _ => cases hs
  | waitRet =>
    simp only [bgStep] at hs
    split at hs
    · cases hs
    · split at hs <;> cases hs
      -- the waiter was not dropped, so the channel is closed
      rename_i hc
      cases hc.resolve_right fun hd => nomatch h.repaired.symm.trans hd
      exact { h with rets_done := List.forall_mem_cons.2 ⟨rfl, h.rets_done⟩, none_early := nofun }

theorem bgInv_reachable {worker : Bool} {waiters : Nat} {script : List Step} {s : BgS}
    (h : bgM.Reachable (bgInit worker false waiters script) s) : BgInv s :=
  Machine.inv_reachable ⟨rfl, List.forall_mem_nil _, fun _ => rfl⟩ bgInv_step h

/-- the WaitGroup counts the executions that have not called `Done`; a waiter returns only when
    all `n` have finished -/
structure SgInv (n : Nat) (s : SgS) : Prop where
  n_eq : s.n = n
  wg : s.counter = s.spawned + s.inFn + s.fnDone
  fin_eq : s.finished + s.spawned + s.inFn = n
  rets_fin : ∀ r ∈ s.rets, r.fin = n ∧ s.finished = n

theorem sgInv_step (n : Nat) (s : SgS) (a : SgA) (s' : SgS) (h : SgInv n s) (hs : sgStep s a = some s') :
    SgInv n s' := by
  rcases s with ⟨n', spawned, inFn, fnDone, counter, waiting, script, finished, errs, rets⟩
  cases a with
  | begin =>
    cases spawned with | zero => cases hs | succ spawned => ?_
    cases hs
    exact { h with
      wg := by simpa +arith only [Nat.add_one_sub_one] using h.wg
      fin_eq := by simpa +arith only [Nat.add_one_sub_one] using h.fin_eq }
  | fnEnd =>
    cases inFn with | zero => cases hs | succ inFn => ?_
    simp only [sgStep, Nat.add_one_ne_zero, if_false] at hs
    split at hs <;> cases hs
    have hf := h.fin_eq
    exact { h with
      wg := by simpa +arith only [Nat.add_one_sub_one] using h.wg
      fin_eq := by simpa +arith only [Nat.add_one_sub_one] using hf
      rets_fin := fun r hr => absurd (h.rets_fin r hr).2 (by simp only [] at hf ⊢; omega) }
  | done =>
    simp only [sgStep] at hs
    split at hs <;> cases hs
    exact { h with wg := by have := h.wg; simp only [] at this ⊢; omega }
  | waitRet =>
    simp only [sgStep] at hs
    split at hs <;> cases hs
    have hfin : finished = n := by have := h.wg; have := h.fin_eq; simp only [] at *; omega
    exact { h with rets_fin := List.forall_mem_cons.2 ⟨⟨hfin, hfin⟩, h.rets_fin⟩ }

theorem sgInv_reachable {n waiters : Nat} {script : List Step} {s : SgS}
    (h : sgM.Reachable (sgInit n waiters script) s) : SgInv n s :=
  Machine.inv_reachable ⟨rfl, rfl, Nat.zero_add n, List.forall_mem_nil _⟩ (sgInv_step n) h

/-- `Producer.Launch`: the background loop has ended at least one execution for every value delivered, and one more while
    it is not inside the function (a value waits to be sent, or the stream has ended); each return record was
    made in such a state -/
def PlInv (s : PlS) : Prop :=
  s.delivered + (if s.bg = .inFn then 0 else 1) ≤ s.finished ∧ ∀ r ∈ s.rets, r.idx + 1 ≤ r.fin

theorem plInv_step (s : PlS) (a : PlA) (s' : PlS) (h : PlInv s) (hs : plStep s a = some s') : PlInv s' := by
  rcases s with ⟨bg, waiting, script, finished, delivered, rets⟩
  obtain ⟨h1, h2⟩ := h
  cases a with
  | fnEnd =>
    cases bg with
    | inFn =>
      have : delivered ≤ finished := h1
      simp only [plStep, if_true] at hs
      split at hs
      · cases hs
      · split at hs
        · cases hs; exact ⟨Nat.succ_le_succ this, h2⟩
        · split at hs
          · cases hs; exact ⟨Nat.le_succ_of_le this, h2⟩
          · split at hs <;> cases hs <;> exact ⟨Nat.succ_le_succ this, h2⟩
    | _ => cases hs
  | recv =>
    cases bg with
    | sending v =>
      simp only [plStep] at hs
      split at hs <;> cases hs
      exact ⟨h1, List.forall_mem_cons.2 ⟨h1, h2⟩⟩
    | _ => cases hs
  | recvClosed =>
    cases bg with
    | closed e =>
      simp only [plStep] at hs
      split at hs <;> cases hs
      exact ⟨h1, List.forall_mem_cons.2 ⟨h1, h2⟩⟩
    | _ => cases hs

theorem plInv_reachable {waiters : Nat} {script : List Step} {s : PlS}
    (h : plM.Reachable (plInit waiters script) s) : PlInv s :=
  Machine.inv_reachable ⟨Nat.le_refl 0, List.forall_mem_nil _⟩ plInv_step h

end FunModel.WrapConc
