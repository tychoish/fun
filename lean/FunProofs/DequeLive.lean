import FunProofs.DequeSys
import FunProofs.PtrCommon
import FunProofs.Assoc

/-! Wake-up theory of the Deque model (C07, C20), one segment at a time: identities of elements and what
    a link can point at (`Links`, `Inv2`), which links a push or a pop can change (`nbr_push_near` …
    `nbr_pop_far_root`, `flip_signalled`), and the signalling discipline — a segment that makes a waiting
    operation ready signals the condition it waits on (`addEnd_wakes`, `popEnd_wakes`, `Eff.sig_ok`). -/

namespace FunModel.Deque
open FunModel.Conc

theorem End.cond_le (d : End) : d.cond ≤ 1 := by cases d <;> decide

theorem iterCond_le (d : End) (c : Nat) : iterCond d c ≤ 1 := by
  unfold iterCond; split <;> exact End.cond_le _

theorem condOf_le {x : St} {op : Op} {c : Nat} (h : condOf x op = some c) : c ≤ 2 := by
  cases op with
  | wait d => cases h; exact Nat.le_succ_of_le (End.cond_le d)
  | wpush d v => cases h; exact Nat.le_refl 2
  | next d b k => cases b with
    | true => cases h; exact Nat.le_succ_of_le (iterCond_le _ _)
    | false => cases h
  | _ => cases h

theorem End.opp_opp (d : End) : d.opp.opp = d := by cases d <;> rfl

/-- an iterator in direction `d'` watches the condition that a push or pop at end `d` always
    signals, unless it stands on an inner element and runs towards `d`'s far end, or stands on the
    root and looks at the far end -/
theorem iterCond_or (d d' : End) (c : Nat) :
    iterCond d' c = d.cond ∨ (d' = d ∧ c ≠ 0) ∨ (d' = d.opp ∧ c = 0) := by
  by_cases h0 : c = 0 <;> cases d <;> cases d' <;> simp [iterCond, h0, End.opp, End.cond]

/-- a front-first list in the order in which direction `d` meets it (the `match` inside `St.nbr`, `nbr_eq`) -/
def dirL {α : Type} (d : End) (l : List α) : List α := match d with | .front => l | .back => l.reverse

theorem dirL_map {α β : Type} (f : α → β) (d : End) (l : List α) : dirL d (l.map f) = (dirL d l).map f := by
  cases d
  · rfl
  · exact List.map_reverse.symm

theorem dirL_perm {α : Type} (d : End) (l : List α) : (dirL d l).Perm l := by
  cases d
  · exact .refl _
  · exact List.reverse_perm _

theorem mem_dirL {α : Type} {d : End} {l : List α} {a : α} : a ∈ dirL d l ↔ a ∈ l := (dirL_perm d l).mem_iff

theorem dirL_addQ_near (d : End) (p : Nat × Int) (l : List (Nat × Int)) : dirL d (addQ d p l) = p :: dirL d l := by
  cases d
  · rfl
  · exact List.reverse_concat

theorem dirL_addQ_far (d : End) (p : Nat × Int) (l : List (Nat × Int)) :
    dirL d.opp (addQ d p l) = dirL d.opp l ++ [p] := by
  cases d
  · exact List.reverse_cons
  · rfl

theorem nbr_eq (x : St) (d : End) (e : Nat) :
    x.nbr d e = if e = 0 then (dirL d x.ids).headD 0
      else match after (dirL d x.ids) e with
        | some n => n
        | none => match x.stale.find? (fun p => p.1 == e) with
          | some (_, n, p) => (match d with | .front => n | .back => p)
          | none => 0 := by
  cases d <;> rfl

theorem after_cons_ne {e c : Nat} (l : List Nat) (h : c ≠ e) : after (e :: l) c = after l c := by
  have : (e == c) = false := beq_false_of_ne (Ne.symm h)
  simp only [after, this, Bool.false_eq_true, ite_false]

theorem after_cons_self (e : Nat) (l : List Nat) : after (e :: l) e = some (l.headD 0) := by
  simp only [after, beq_self_eq_true, ite_true]

theorem after_none {l : List Nat} {c : Nat} (h : c ∉ l) : after l c = none := by
  induction l with
  | nil => rfl
  | cons x r ih =>
    simp only [List.mem_cons, not_or] at h
    rw [after_cons_ne r h.1]; exact ih h.2

theorem after_split {pre post : List Nat} {c : Nat} (h : c ∉ pre) : after (pre ++ c :: post) c = some (post.headD 0) := by
  induction pre with
  | nil => exact after_cons_self c post
  | cons x xs ih =>
    rw [List.mem_cons, not_or] at h
    rw [List.cons_append, after_cons_ne _ h.1]
    exact ih h.2

theorem after_mem {l : List Nat} {c n : Nat} (h : after l c = some n) : n = 0 ∨ n ∈ l := by
  induction l with
  | nil => cases h
  | cons x r ih =>
    by_cases hx : c = x
    · subst hx
      rw [after_cons_self] at h
      cases h
      exact (List.headD_mem 0 _).imp id (List.mem_cons_of_mem _)
    · rw [after_cons_ne r hx] at h
      exact (ih h).imp id (List.mem_cons_of_mem _)

theorem nbr_cases (x : St) (d : End) (e : Nat) :
    x.nbr d e = 0 ∨ x.nbr d e ∈ x.ids ∨ ∃ p ∈ x.stale, x.nbr d e = p.2.1 ∨ x.nbr d e = p.2.2 := by
  rw [nbr_eq]
  split
  · exact (List.headD_mem 0 _).imp id (fun h => .inl (mem_dirL.1 h))
  · split
    · rename_i n hn; exact (after_mem hn).imp id (fun h => .inl (mem_dirL.1 h))
    · split
      · rename_i a n p hf
        refine .inr (.inr ⟨_, List.mem_of_find?_eq_some hf, ?_⟩)
        cases d
        · exact .inl rfl
        · exact .inr rfl
      · exact .inl rfl

theorem nbr_root_mem (x : St) (d : End) : x.nbr d 0 = 0 ∨ x.nbr d 0 ∈ x.ids := by
  rw [nbr_eq, if_pos rfl]
  exact (List.headD_mem 0 _).imp id mem_dirL.1

theorem nbr_root_addQ {x : St} {d : End} {e : Nat} {v : Int} {rest : List (Nat × Int)} (hq : x.q = addQ d (e, v) rest) :
    x.nbr d 0 = e := by
  rw [nbr_eq, if_pos rfl, St.ids, hq, dirL_map, dirL_addQ_near]; rfl

theorem cursor_setCursor_same (x : St) (k c : Nat) : (x.setCursor k c).cursor k = c := by
  simp [St.setCursor, St.cursor]

theorem cursor_setCursor_ne (x : St) {k k' : Nat} (c : Nat) (h : k' ≠ k) : (x.setCursor k c).cursor k' = x.cursor k' := by
  have h1 : (k == k') = false := beq_false_of_ne (Ne.symm h)
  simp only [St.setCursor, St.cursor, List.find?_cons, h1, List.find?_filter_key_ne h]

/-- the key is `4 * k` plus an offset below 4 that tells the kind of iterator -/
theorem cursorKey_inj {d d' : End} {b b' : Bool} {k k' : Nat} (h : cursorKey d b k = cursorKey d' b' k') :
    d = d' ∧ b = b' ∧ k = k' := by
  have key : ∀ d b k, cursorKey d b k = 4 * k + cursorKey d b 0 ∧ cursorKey d b 0 < 4 := by
    intro d b k; cases d <;> cases b <;> exact ⟨rfl, by decide⟩
  have off : ∀ d d' b b', cursorKey d b 0 = cursorKey d' b' 0 → d = d' ∧ b = b' := by
    intro d d'; cases d <;> cases d' <;> decide
  obtain ⟨h1, h2⟩ := key d b k
  obtain ⟨h3, h4⟩ := key d' b' k'
  obtain ⟨hd, hb⟩ := off d d' b b' (by omega)
  exact ⟨hd, hb, by omega⟩

/-- everything a cursor can come to stand on satisfies `Q` (instances: `Inv2.links`, DequeIter's `Inv3.links`) -/
structure Links (Q : Nat → Prop) (x : St) : Prop where
  root : Q 0
  ids : ∀ i ∈ x.ids, Q i
  cur : ∀ p ∈ x.cursors, Q p.2
  stale : ∀ p ∈ x.stale, Q p.2.1 ∧ Q p.2.2

theorem Links.cursor {Q : Nat → Prop} {x : St} (h : Links Q x) (k : Nat) : Q (x.cursor k) := by
  unfold St.cursor
  cases hf : x.cursors.find? (fun p => p.1 == k) with
  | none => exact h.root
  | some p => exact h.cur p (List.mem_of_find?_eq_some hf)

theorem Links.nbr {Q : Nat → Prop} {x : St} (h : Links Q x) (d : End) (e : Nat) : Q (x.nbr d e) := by
  rcases nbr_cases x d e with h0 | hi | ⟨p, hp, h1 | h1⟩
  · rw [h0]; exact h.root
  · exact h.ids _ hi
  · rw [h1]; exact (h.stale p hp).1
  · rw [h1]; exact (h.stale p hp).2

theorem Links.setCursor {Q : Nat → Prop} {x : St} (h : Links Q x) (key : Nat) {n : Nat} (hn : Q n) :
    Links Q (x.setCursor key n) := by
  refine ⟨h.root, h.ids, ?_, h.stale⟩
  intro p hp
  rcases List.mem_cons.1 hp with rfl | hp
  · exact hn
  · exact h.cur p (List.mem_filter.1 hp).1

/-- identities are fresh (below `nextId`) and no element is linked twice -/
structure Inv2 (x : St) : Prop where
  next_pos : 1 ≤ x.nextId
  ids_lt : ∀ i ∈ x.ids, i < x.nextId
  nodup : x.ids.Nodup
  cur_lt : ∀ p ∈ x.cursors, p.2 < x.nextId
  stale_lt : ∀ p ∈ x.stale, p.2.1 < x.nextId ∧ p.2.2 < x.nextId

theorem Inv2.links {x : St} (h : Inv2 x) : Links (· < x.nextId) x := ⟨h.next_pos, h.ids_lt, h.cur_lt, h.stale_lt⟩

theorem inv2_of_empty {x : St} (hq : x.q = []) (hs : x.stale = []) (hc : x.cursors = []) (hn : 1 ≤ x.nextId) : Inv2 x := by
  have hi : x.ids = [] := by rw [St.ids, hq]; rfl
  refine ⟨hn, ?_, ?_, ?_, ?_⟩
  · rw [hi]; nofun
  · rw [hi]; exact List.nodup_nil
  · rw [hc]; nofun
  · rw [hs]; nofun

theorem Inv2.cursor_lt {x : St} (h : Inv2 x) (k : Nat) : x.cursor k < x.nextId := h.links.cursor k

theorem pushed_ids_perm (x : St) (d : End) (v : Int) : (pushed x d v).ids.Perm (x.nextId :: x.ids) :=
  (addQ_perm d _ _).map _

theorem Links.pushed {Q Q' : Nat → Prop} {x : St} (h : Links Q x) (d : End) (v : Int) (hq : ∀ i, Q i → Q' i)
    (hn : Q' x.nextId) : Links Q' (pushed x d v) := by
  refine ⟨hq _ h.root, ?_, fun p hp => hq _ (h.cur p hp), fun p hp => ⟨hq _ (h.stale p hp).1, hq _ (h.stale p hp).2⟩⟩
  intro i hi
  rcases List.mem_cons.1 ((pushed_ids_perm x d v).mem_iff.1 hi) with rfl | hi
  · exact hn
  · exact hq _ (h.ids _ hi)

theorem addEnd_inv2 (x : St) (d : End) (v : Int) (h : Inv2 x) : Inv2 (addEnd x d v).1 := by
  by_cases hok : (addEnd x d v).2.1 = .ok
  · rw [(addEnd_ok_eq hok).2.1]
    have hl : Links (· < x.nextId + 1) (pushed x d v) :=
      h.links.pushed d v (fun _ hi => Nat.lt_succ_of_lt hi) (Nat.lt_succ_self _)
    refine ⟨Nat.le_succ_of_le h.next_pos, hl.ids, ?_, hl.cur, hl.stale⟩
    exact (pushed_ids_perm x d v).nodup_iff.2 (List.nodup_cons.2 ⟨fun hm => Nat.lt_irrefl _ (h.ids_lt _ hm), h.nodup⟩)
  · rw [addEnd_fail_eq x d v hok]; exact h

theorem keptLinks_mem (d : End) (r : List Nat) :
    ((keptLinks d r).1 = 0 ∨ (keptLinks d r).1 ∈ r) ∧ ((keptLinks d r).2 = 0 ∨ (keptLinks d r).2 ∈ r) := by
  cases d with
  | front => exact ⟨List.headD_mem 0 _, .inl rfl⟩
  | back =>
    refine ⟨.inl rfl, ?_⟩
    show (r.getLast?).getD 0 = 0 ∨ (r.getLast?).getD 0 ∈ r
    rw [← FunProofs.Ptr.lastD_eq_getLast?]
    exact FunProofs.Ptr.lastD_mem 0 r

theorem Links.popped {Q : Nat → Prop} {x : St} (h : Links Q x) {d : End} {e : Nat} {v : Int} {rest : List (Nat × Int)}
    (hq : x.q = addQ d (e, v) rest) : Links Q (popped x d e rest) := by
  have hsub : ∀ i ∈ rest.map (·.1), Q i := fun i hi =>
    h.ids i (by rw [St.ids, hq]; exact ((addQ_sublist d _ rest).map _).subset hi)
  have hk := keptLinks_mem d (rest.map (·.1))
  have h0 : ∀ n, n = 0 ∨ n ∈ rest.map (·.1) → Q n := by
    rintro n (rfl | hn)
    · exact h.root
    · exact hsub n hn
  refine ⟨h.root, hsub, h.cur, ?_⟩
  intro p hp
  rcases List.mem_cons.1 hp with rfl | hp
  · exact ⟨h0 _ hk.1, h0 _ hk.2⟩
  · exact h.stale p hp

theorem popEnd_inv2 (x : St) (d : End) (h : Inv2 x) : Inv2 (popEnd x d).1 := by
  cases hp : (popEnd x d).2.1 with
  | none => rw [popEnd_none_eq x d hp]; exact h
  | some v =>
    obtain ⟨_, e, rest, hq, heq⟩ := popEnd_some hp
    have hl := h.links.popped hq
    rw [heq]
    refine ⟨h.next_pos, hl.ids, ?_, hl.cur, hl.stale⟩
    have := h.nodup
    rw [St.ids, hq] at this
    exact this.sublist ((addQ_sublist d _ rest).map _)

theorem setCursor_inv2 {x : St} (h : Inv2 x) (key : Nat) (d : End) (c : Nat) : Inv2 (x.setCursor key (x.nbr d c)) :=
  have hl := h.links.setCursor key (h.links.nbr d c)
  ⟨h.next_pos, hl.ids, h.nodup, hl.cur, hl.stale⟩

theorem Eff.inv2 {x : St} {op : Op} {o : SegR} (e : Eff x op o) (h : Inv2 x) : Inv2 o.st :=
  e.inv h addEnd_inv2 popEnd_inv2 ⟨h.next_pos, h.ids_lt, h.nodup, h.cur_lt, h.stale_lt⟩
    (fun d _ _ _ => setCursor_inv2 h _ d _)

theorem reach_inv2 {s0 s : Sys St Op} (hwf0 : s0.WF) (h0 : Inv2 s0.subj) (hr : Reach subject s0 s) : Inv2 s.subj :=
  reach_of_eff Eff.inv2 hwf0 h0 hr

theorem headD_append_ne {l : List Nat} (e : Nat) (h : l ≠ []) : (l ++ [e]).headD 0 = l.headD 0 := by
  cases l with
  | nil => exact absurd rfl h
  | cons a r => rfl

theorem dirL_ne_nil {α : Type} {d : End} {l : List α} (h : l ≠ []) : dirL d l ≠ [] := by
  cases d
  · exact h
  · exact fun e => h (List.reverse_eq_nil_iff.1 e)

theorem nbr_push_near (x : St) (d : End) (v : Int) {c0 : Nat} (h0 : c0 ≠ 0) (hne : c0 ≠ x.nextId) :
    (pushed x d v).nbr d c0 = x.nbr d c0 := by
  have : dirL d (pushed x d v).ids = x.nextId :: dirL d x.ids := by
    rw [St.ids, dirL_map, pushed, dirL_addQ_near, St.ids, dirL_map]; rfl
  rw [nbr_eq, nbr_eq, if_neg h0, if_neg h0, this, after_cons_ne _ hne]
  rfl

theorem nbr_push_far_root (x : St) (d : End) (v : Int) (hne : x.ids ≠ []) :
    (pushed x d v).nbr d.opp 0 = x.nbr d.opp 0 := by
  have : dirL d.opp (pushed x d v).ids = dirL d.opp x.ids ++ [x.nextId] := by
    rw [St.ids, dirL_map, pushed, dirL_addQ_far, St.ids, dirL_map]; simp only [List.map_append, List.map_cons, List.map_nil]
  rw [nbr_eq, nbr_eq, if_pos rfl, if_pos rfl, this, headD_append_ne _ (dirL_ne_nil hne)]

theorem find_stale_cons_self (e : Nat) (np : Nat × Nat) (l : List (Nat × Nat × Nat)) :
    ((e, np) :: l).find? (fun q => q.1 == e) = some (e, np) :=
  List.find?_cons_of_pos (beq_self_eq_true e)

theorem find_stale_cons_ne {e c0 : Nat} (np : Nat × Nat) (l : List (Nat × Nat × Nat)) (h : c0 ≠ e) :
    ((e, np) :: l).find? (fun q => q.1 == c0) = l.find? (fun q => q.1 == c0) :=
  List.find?_cons_of_neg (fun h' => h (beq_iff_eq.1 h').symm)

theorem nbr_pop_near {x : St} {d : End} {e : Nat} {v : Int} {rest : List (Nat × Int)} (hq : x.q = addQ d (e, v) rest)
    (hnd : e ∉ rest.map (·.1)) {c0 : Nat} (h0 : c0 ≠ 0) : (popped x d e rest).nbr d c0 = x.nbr d c0 := by
  have h1 : dirL d x.ids = e :: dirL d (rest.map (·.1)) := by
    rw [St.ids, hq, dirL_map, dirL_addQ_near, dirL_map]; rfl
  rw [nbr_eq, nbr_eq, if_neg h0, if_neg h0, h1]
  have h2 : (popped x d e rest).ids = rest.map (·.1) := rfl
  have h3 : (popped x d e rest).stale = (e, keptLinks d (rest.map (·.1))) :: x.stale := rfl
  rw [h2, h3]
  by_cases hce : c0 = e
  · -- the popped element itself keeps that link (`keptLinks`)
    subst hce
    rw [after_none (fun h => hnd (mem_dirL.1 h)), after_cons_self, find_stale_cons_self]
    cases d
    · rfl
    · exact (List.headD_eq_head?_getD.trans (congrArg (·.getD 0) List.head?_reverse)).symm
  · rw [after_cons_ne _ hce, find_stale_cons_ne _ _ hce]

theorem nbr_pop_far_root {x : St} {d : End} {e : Nat} {v : Int} {rest : List (Nat × Int)} (hq : x.q = addQ d (e, v) rest)
    (hne : rest.map (·.1) ≠ []) : (popped x d e rest).nbr d.opp 0 = x.nbr d.opp 0 := by
  have h1 : dirL d.opp x.ids = dirL d.opp (rest.map (·.1)) ++ [e] := by
    rw [St.ids, hq, dirL_map, dirL_addQ_far, dirL_map]; simp only [List.map_append, List.map_cons, List.map_nil]
  rw [nbr_eq, nbr_eq, if_pos rfl, if_pos rfl, h1, headD_append_ne _ (dirL_ne_nil hne)]
  rfl

theorem mem_signal_of_le_one {c : Nat} (hc : c ≤ 1) {l : List Sig} (h0 : Sig.signal 0 ∈ l) (h1 : Sig.signal 1 ∈ l) :
    Sig.signal c ∈ l := by
  have : c = 0 ∨ c = 1 := by omega
  rcases this with rfl | rfl <;> assumption

theorem mem_addSigs (d : End) (w : Bool) : Sig.signal d.cond ∈ addSigs d w := by
  cases d <;> cases w <;> decide

theorem mem_popSigs (d : End) (w : Bool) : Sig.signal d.cond ∈ popSigs d w := by
  cases d <;> cases w <;> decide

theorem mem_addSigs_empty (d : End) {c : Nat} (hc : c ≤ 1) : Sig.signal c ∈ addSigs d true :=
  mem_signal_of_le_one hc (by cases d <;> decide) (by cases d <;> decide)

theorem mem_popSigs_empty (d : End) {c : Nat} (hc : c ≤ 1) : Sig.signal c ∈ popSigs d true :=
  mem_signal_of_le_one hc (by cases d <;> decide) (by cases d <;> decide)

/-- the condition and loop test of a blocking iterator's call depend on its cursor (`condOf`, `waits`),
    which only the iterator's own calls move: `Owned` (DequeWake) discharges this hypothesis -/
def SameCursor (x y : St) (op : Op) : Prop :=
  ∀ d key, op = .next d true key → y.cursor (cursorKey d true key) = x.cursor (cursorKey d true key)

theorem cursor_congr {x y : St} (h : y.cursors = x.cursors) (k : Nat) : y.cursor k = x.cursor k := by
  simp only [St.cursor, h]

theorem sameCursor_of_cursors {x y : St} (op : Op) (h : y.cursors = x.cursors) : SameCursor x y op :=
  fun _ _ _ => cursor_congr h _

theorem SameCursor.refl (x : St) (op : Op) : SameCursor x x op := fun _ _ _ => rfl

theorem SameCursor.trans {x y z : St} {op : Op} (h1 : SameCursor x y op) (h2 : SameCursor y z op) : SameCursor x z op :=
  fun d key hop => (h2 d key hop).trans (h1 d key hop)

theorem condOf_congr {x y : St} {op : Op} (h : SameCursor x y op) : condOf y op = condOf x op := by
  cases op with
  | next d b key =>
    cases b with
    | true => simp only [condOf, h d key rfl]
    | false => rfl
  | _ => rfl

theorem waits_congr {x y : St} {op : Op} (hq : y.q = x.q) (hs : y.stale = x.stale) (ht : y.tracker = x.tracker)
    (h : SameCursor x y op) : waits y op = waits x op := by
  cases op with
  | wait d => simp only [waits, hq]
  | wpush d v => simp only [waits, ht]
  | next d b key =>
    cases b with
    | true =>
      have hn : ∀ e, y.nbr d e = x.nbr d e := by intro e; simp only [St.nbr, St.ids, hq, hs]
      simp only [waits, h d key rfl, hn]
    | false => rfl
  | _ => rfl

theorem addEnd_frame (x : St) (d : End) (v : Int) :
    (addEnd x d v).1.cursors = x.cursors ∧ (addEnd x d v).1.closed = x.closed := by
  by_cases hok : (addEnd x d v).2.1 = .ok
  · rw [(addEnd_ok_eq hok).2.1]; exact ⟨rfl, rfl⟩
  · rw [addEnd_fail_eq x d v hok]; exact ⟨rfl, rfl⟩

theorem popEnd_frame (x : St) (d : End) : (popEnd x d).1.cursors = x.cursors ∧ (popEnd x d).1.closed = x.closed := by
  cases hp : (popEnd x d).2.1 with
  | none => rw [popEnd_none_eq x d hp]; exact ⟨rfl, rfl⟩
  | some v => obtain ⟨_, _, _, _, heq⟩ := popEnd_some hp; rw [heq]; exact ⟨rfl, rfl⟩

/-- a push or pop at end `d` (it signals `d`'s condition) leaves alone the links of inner elements
    in direction `d` (the `_near` lemmas: in that direction `d` is where one starts) and the root's link in
    direction `d.opp` (`_far_root`): an iterator whose link it turns from the root to an element watches the
    condition it signals -/
theorem flip_signalled {x y : St} {d d' : End} {cur : Nat} {sg : List Sig} (hs : Sig.signal d.cond ∈ sg)
    (hnear : cur ≠ 0 → y.nbr d cur = x.nbr d cur) (hfar : y.nbr d.opp 0 = x.nbr d.opp 0)
    (hn : (x.nbr d' cur == 0) = true) (hr : (y.nbr d' cur == 0) = false) : Sig.signal (iterCond d' cur) ∈ sg := by
  rw [beq_iff_eq] at hn
  rw [beq_eq_false_iff_ne] at hr
  rcases iterCond_or d d' cur with h | ⟨rfl, h0⟩ | ⟨rfl, h0⟩
  · rw [h]; exact hs
  · exact absurd ((hnear h0).trans hn) hr
  · rw [h0] at hn hr; exact absurd (hfar.trans hn) hr

theorem addEnd_wakes (x : St) (hx : Inv2 x) (d : End) (v : Int) {op : Op} {c : Nat}
    (hc : condOf x op = some c) (hp : waits x op = true) (hr : waits (addEnd x d v).1 op = false) :
    Sig.signal c ∈ (addEnd x d v).2.2 := by
  by_cases hok : (addEnd x d v).2.1 = .ok
  · obtain ⟨_, heq, hsg, _⟩ := addEnd_ok_eq hok
    rw [hsg]
    rw [heq] at hr
    cases op with
    | wait d' =>
      -- a waiter waits only on an empty deque
      cases hc
      rw [show x.q.isEmpty = true from hp]
      exact mem_addSigs_empty d (End.cond_le d')
    | wpush d' v' =>
      -- a push never makes room
      have h1 : x.tracker.hasRoom = false := by simpa [waits] using hp
      have h2 : (pushed x d v).tracker.hasRoom = false := Tracker.add_no_room x.tracker h1
      simp [waits, h2] at hr
    | next d' b key =>
      cases b with
      | false => cases hp
      | true =>
        cases hc
        cases he : x.q.isEmpty with
        | true => exact mem_addSigs_empty d (iterCond_le _ _)
        | false =>
          have hne : x.ids ≠ [] := fun h0 => by
            rw [List.isEmpty_eq_false_iff] at he; exact he (List.map_eq_nil_iff.1 h0)
          exact flip_signalled (mem_addSigs d _) (fun h0 => nbr_push_near x d v h0 (Nat.ne_of_lt (hx.cursor_lt _)))
            (nbr_push_far_root x d v hne) hp hr
    | _ => cases hp
  · rw [addEnd_fail_eq x d v hok, hp] at hr
    cases hr

theorem popEnd_wakes (x : St) (hx : Inv2 x) (d : End) {op : Op} {c : Nat}
    (hc : condOf x op = some c) (hp : waits x op = true) (hr : waits (popEnd x d).1 op = false) :
    Sig.signal c ∈ (popEnd x d).2.2 ∨ Sig.broadcast c ∈ (popEnd x d).2.2 := by
  cases hpop : (popEnd x d).2.1 with
  | none =>
    rw [popEnd_none_eq x d hpop, hp] at hr
    cases hr
  | some v =>
    obtain ⟨_, e, rest, hq, heq⟩ := popEnd_some hpop
    rw [heq] at hr ⊢
    cases op with
    | wait d' =>
      -- a waiter waits only on an empty deque, from which nothing can be popped
      exact absurd (hq.symm.trans (List.isEmpty_iff.1 hp)) (addQ_ne_nil d _ _)
    | wpush d' v' =>
      cases hc
      exact .inr (by cases d <;> exact List.mem_cons_self)
    | next d' b key =>
      cases b with
      | false => cases hp
      | true =>
        left
        cases hc
        cases hre : rest.isEmpty with
        | true => exact mem_popSigs_empty d (iterCond_le _ _)
        | false =>
          have hrne : rest.map (·.1) ≠ [] := fun h0 => by
            rw [List.isEmpty_eq_false_iff] at hre; exact hre (List.map_eq_nil_iff.1 h0)
          have hnd : e ∉ rest.map (·.1) := by
            have := hx.nodup
            rw [St.ids, hq] at this
            exact (List.nodup_cons.1 (((addQ_perm d _ rest).map (fun p : Nat × Int => p.1)).nodup_iff.1 this)).1
          exact flip_signalled (mem_popSigs d _) (nbr_pop_near hq hnd) (nbr_pop_far_root hq hrne) hp hr
    | _ => cases hp

theorem forcePush_wakes (x : St) (hx : Inv2 x) (d : End) (v : Int) {op : Op} {c : Nat}
    (hc : condOf x op = some c) (hp : waits x op = true) (hr : waits (forcePush x d v).1 op = false) :
    Sig.signal c ∈ (forcePush x d v).2.2 ∨ Sig.broadcast c ∈ (forcePush x d v).2.2 := by
  unfold forcePush at hr ⊢
  by_cases hcap : x.tracker.atCap = true
  · simp only [hcap, ite_true] at hr ⊢
    show _ ∈ (popEnd x d.opp).2.2 ++ (addEnd (popEnd x d.opp).1 d v).2.2 ∨
      _ ∈ (popEnd x d.opp).2.2 ++ (addEnd (popEnd x d.opp).1 d v).2.2
    cases hmid : waits (popEnd x d.opp).1 op with
    | false => exact (popEnd_wakes x hx d.opp hc hp hmid).imp (List.mem_append_left _) (List.mem_append_left _)
    | true =>
      have hc1 : condOf (popEnd x d.opp).1 op = some c := by
        rw [condOf_congr (sameCursor_of_cursors op (popEnd_frame x d.opp).1)]; exact hc
      exact .inl (List.mem_append_right _ (addEnd_wakes (popEnd x d.opp).1 (popEnd_inv2 x d.opp hx) d v hc1 hmid hr))
  · simp only [hcap, Bool.false_eq_true, ite_false] at hr ⊢
    exact .inl (addEnd_wakes x hx d v hc hp hr)

theorem waits_flip {x y : St} {op : Op} (hcl : y.closed = x.closed) (hp : parks x op false = true)
    (hr : parks y op false = false) : waits x op = true ∧ waits y op = false := by
  rw [parks_eq] at hp hr
  rw [hcl] at hr
  exact (by decide : ∀ a b c : Bool, (a && !c && !false) = true → (b && !c && !false) = false → a = true ∧ b = false)
    _ _ _ hp hr

/-- the signalling discipline: `SegMon.keepW` for the guard `Guard` (DequeWake) -/
theorem Eff.sig_ok {x : St} {opt : Op} {o : SegR} (e : Eff x opt o) (hx : Inv2 x) (op : Op) (c : Nat)
    (hc : condOf x op = some c) (hsame : SameCursor x o.st op)
    (hp : parks x op false = true) (hr : parks o.st op false = false) :
    Sig.signal c ∈ o.sigs ∨ Sig.broadcast c ∈ o.sigs := by
  cases e with
  | same h => rw [h, hp] at hr; cases hr
  | add d v _ h hs =>
    rw [h] at hr
    obtain ⟨hw, hw'⟩ := waits_flip (addEnd_frame x d v).2 hp hr
    exact .inl (hs _ (addEnd_wakes x hx d v hc hw hw'))
  | pop d _ h hs =>
    rw [h] at hr
    obtain ⟨hw, hw'⟩ := waits_flip (popEnd_frame x d).2 hp hr
    exact (popEnd_wakes x hx d hc hw hw').imp (hs _) (hs _)
  | fpush d v _ h hs =>
    rw [h] at hr
    have hcl : (forcePush x d v).1.closed = x.closed := by
      unfold forcePush; split
      · exact (addEnd_frame _ d v).2.trans (popEnd_frame x d.opp).2
      · exact (addEnd_frame x d v).2
    obtain ⟨hw, hw'⟩ := waits_flip hcl hp hr
    exact (forcePush_wakes x hx d v hc hw hw').imp (hs _) (hs _)
  | close _ _ hs =>
    right
    rw [hs]
    have : c = 0 ∨ c = 1 ∨ c = 2 := by have := condOf_le hc; omega
    rcases this with rfl | rfl | rfl <;> decide
  | cur d b key _ h =>
    -- an iterator call touches nothing the loop tests of others look at
    rw [h] at hr hsame
    obtain ⟨hw, hw'⟩ := waits_flip (x := x) (y := x.setCursor _ _) rfl hp hr
    rw [waits_congr (x := x) (y := x.setCursor _ _) rfl rfl rfl hsame, hw] at hw'
    cases hw'

end FunModel.Deque
