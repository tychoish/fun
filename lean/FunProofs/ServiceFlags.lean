import FunProofs.Service

/-! `InvG`: the flags, the signals and the wait-group of the `srv.Service` model as functions of how far the three
    service goroutines got, kept by every step. -/

namespace FunModel.Service

/-- The thresholds are the ranks of the locations reached by the operation in question: Run goroutine 4 = `cancelled`
    (past `s.cancel()`), 6 = `signalled` (past `<-shutdownSignal; close(ehSignal)`), 9 = `finished` (past
    `isFinished.Store(true)`), 11 = `exit` (past `close(mainSignal)`); shutdown goroutine 2 = `inShutdown` (past
    `<-ctx.Done()`), 4 = `exit` (past `close(shutdownSignal)`); handler goroutine 2 = `main` (past `<-mainSignal`).
    `fresh`/`launched`: before the `doStart.Do` closure has run nothing of the service exists, afterwards all three
    goroutines do. `pan`: a panic of Run is in flight only between Run's end and the `erc.Recover` deferred around it.
    No clause uses `c`. -/
structure InvG (c : Cfg) (s : State) : Prop where
  fresh : s.once = .fresh → s.rg = .none ∧ s.sd = .none ∧ s.eh = .none
            ∧ s.cancelCalled = false ∧ s.svcParent = none ∧ s.coll = [] ∧ s.cancelSet = false
  launched : s.once ≠ .fresh → s.rg ≠ .none ∧ s.sd ≠ .none ∧ s.eh ≠ .none ∧ s.svcParent ≠ none
  wgEq : s.wg = liveRg s.rg + liveSd s.sd + liveEh s.eh
  fin : s.isFinished = decide (9 ≤ s.rg.rank)
  mainS : s.mainSig = decide (11 ≤ s.rg.rank)
  ehS : s.ehSig = decide (6 ≤ s.rg.rank)
  sdS : s.shutdownSig = decide (4 ≤ s.sd.rank)
  rgSd : 6 ≤ s.rg.rank → s.shutdownSig = true
  ccl : 4 ≤ s.rg.rank → s.cancelCalled = true
  sdCtx : 2 ≤ s.sd.rank → s.ctxDone = true
  ehMain : 2 ≤ s.eh.rank → s.mainSig = true
  pan : s.panicking ≠ none → s.rg = .returned ∨ s.rg = .cancelled

/-- `InvG` once the goroutines are launched, with their locations as parameters. The thresholds are written with
    `decide`: at concrete locations a clause whose threshold a step does not cross is then the same proposition before
    and after, so `{ f with … }` names exactly the clauses the step touches. -/
structure Launched (s : State) (l : RgLoc) (m : SdLoc) (n : EhLoc) : Prop where
  once : s.once ≠ .fresh
  parent : s.svcParent ≠ none
  rgL : (l != .none) = true
  sdL : (m != .none) = true
  ehL : (n != .none) = true
  wgEq : s.wg = liveRg l + liveSd m + liveEh n
  fin : s.isFinished = decide (9 ≤ l.rank)
  mainS : s.mainSig = decide (11 ≤ l.rank)
  ehS : s.ehSig = decide (6 ≤ l.rank)
  sdS : s.shutdownSig = decide (4 ≤ m.rank)
  rgSd : decide (6 ≤ l.rank) = true → s.shutdownSig = true
  ccl : decide (4 ≤ l.rank) = true → s.cancelCalled = true
  sdCtx : decide (2 ≤ m.rank) = true → s.ctxDone = true
  ehMain : decide (2 ≤ n.rank) = true → s.mainSig = true
  pan : s.panicking ≠ none → decide (l = .returned ∨ l = .cancelled) = true

theorem InvG.launchedAt {c : Cfg} {s : State} (h : InvG c s) (hl : s.once ≠ .fresh) : Launched s s.rg s.sd s.eh := by
  obtain ⟨a, b, d, e⟩ := h.launched hl
  exact ⟨hl, e, by simpa using a, by simpa using b, by simpa using d, h.wgEq, h.fin, h.mainS, h.ehS, h.sdS,
    fun g => h.rgSd (of_decide_eq_true g), fun g => h.ccl (of_decide_eq_true g), fun g => h.sdCtx (of_decide_eq_true g),
    fun g => h.ehMain (of_decide_eq_true g), fun g => decide_eq_true (h.pan g)⟩

theorem Launched.invG {c : Cfg} {s : State} (f : Launched s s.rg s.sd s.eh) : InvG c s where
  fresh h0 := absurd h0 f.once
  launched _ := ⟨by simpa using f.rgL, by simpa using f.sdL, by simpa using f.ehL, f.parent⟩
  wgEq := f.wgEq
  fin := f.fin
  mainS := f.mainS
  ehS := f.ehS
  sdS := f.sdS
  rgSd g := f.rgSd (decide_eq_true g)
  ccl g := f.ccl (decide_eq_true g)
  sdCtx g := f.sdCtx (decide_eq_true g)
  ehMain g := f.ehMain (decide_eq_true g)
  pan g := of_decide_eq_true (f.pan g)

theorem InvG.atRg {c : Cfg} {s : State} (h : InvG c s) {l : RgLoc} (hr : s.rg = l) (hl : l ≠ .none) :
    Launched s l s.sd s.eh := by
  subst hr; exact h.launchedAt (fun h0 => hl (h.fresh h0).1)

theorem InvG.atSd {c : Cfg} {s : State} (h : InvG c s) {m : SdLoc} (hr : s.sd = m) (hm : m ≠ .none) :
    Launched s s.rg m s.eh := by
  subst hr; exact h.launchedAt (fun h0 => hm (h.fresh h0).2.1)

theorem InvG.atEh {c : Cfg} {s : State} (h : InvG c s) {n : EhLoc} (hr : s.eh = n) (hn : n ≠ .none) :
    Launched s s.rg s.sd n := by
  subst hr; exact h.launchedAt (fun h0 => hn (h.fresh h0).2.2.1)

theorem RgStep.invG {c : Cfg} {s s' : State} (h : InvG c s) (hs : RgStep c s s') : InvG c s' := by
  cases hs with
  | entry hr | cleanupAbsent hr | cleanupBegin hr | cleanupEnd hr | notRunning hr =>
    exact Launched.invG { h.atRg hr nofun with }
  | entryAbsent hr | runPanic hr | runRet hr => exact Launched.invG { h.atRg hr nofun with pan := fun _ => rfl }
  | cancel hr =>
    exact Launched.invG { h.atRg hr nofun with ccl := fun _ => rfl, sdCtx := fun _ => rfl, pan := fun _ => rfl }
  | recoverPanic hr p hp => exact Launched.invG { h.atRg hr nofun with pan := fun g => absurd rfl g }
  | recoverNone hr hp => exact Launched.invG { h.atRg hr nofun with pan := fun g => absurd hp g }
  | signal hr hg => exact Launched.invG { h.atRg hr nofun with ehS := rfl, rgSd := fun _ => hg }
  | finish hr => exact Launched.invG { h.atRg hr nofun with fin := rfl }
  | closeMain hr => exact Launched.invG { h.atRg hr nofun with mainS := rfl, ehMain := fun _ => rfl }
  | done hr =>
    have f := h.atRg hr nofun
    exact Launched.invG { f with wgEq := by have := f.wgEq; simp [liveRg, State.tick] at this ⊢; omega }

theorem SdStep.invG {c : Cfg} {s s' : State} (h : InvG c s) (hs : SdStep c s s') : InvG c s' := by
  cases hs with
  | entryAbsent hr hd | entry hr hd => exact Launched.invG { h.atSd hr nofun with sdCtx := fun _ => hd }
  | shutdownEnd hr => exact Launched.invG { h.atSd hr nofun with }
  | closeSig hr => exact Launched.invG { h.atSd hr nofun with sdS := rfl, rgSd := fun _ => rfl }
  | done hr =>
    have f := h.atSd hr nofun
    exact Launched.invG { f with wgEq := by have := f.wgEq; simp [liveSd, State.tick] at this ⊢; omega }

theorem EhStep.invG {c : Cfg} {s s' : State} (h : InvG c s) (hs : EhStep c s s') : InvG c s' := by
  cases hs with
  | entry hr hg => exact Launched.invG { h.atEh hr nofun with ehMain := fun _ => hg }
  | call hr | skip hr | handlerPanic hr | handlerEnd hr => exact Launched.invG { h.atEh hr nofun with }
  | done hr =>
    have f := h.atEh hr nofun
    exact Launched.invG { f with wgEq := by have := f.wgEq; simp [liveEh, State.tick] at this ⊢; omega }

theorem ctxDone_mono {s s' : State} (e1 : s.cancelCalled = true → s'.cancelCalled = true)
    (e2 : s'.svcParent = s.svcParent) (e3 : ∀ q ∈ s.cancelled, q ∈ s'.cancelled) (h : s.ctxDone = true) :
    s'.ctxDone = true := by
  simp only [State.ctxDone, e2, Bool.or_eq_true] at h ⊢
  rcases h with h | h
  · exact Or.inl (e1 h)
  · refine Or.inr ?_
    cases hp : s.svcParent with
    | none => simp [hp] at h
    | some q => simp only [hp, List.contains_eq_mem, decide_eq_true_eq] at h ⊢; exact e3 q h

theorem InvG.cancelParent {c : Cfg} {s : State} (h : InvG c s) (p : Nat) :
    InvG c ({ s with cancelled := p :: s.cancelled }.tick [.cancelParent p]) :=
  { h with sdCtx := fun g => ctxDone_mono (s := s) id rfl (fun _ hq => List.mem_cons_of_mem _ hq) (h.sdCtx g) }

theorem InvG.move {c : Cfg} {s : State} (h : InvG c s) {t : Nat} {th : Thread} {evs : List Ev} :
    InvG c ((s.setTh t th).tick evs) := { h with }

theorem ThStep.invG {c : Cfg} {s s' : State} {t : Nat} {th : Thread} {op : Op} (h : InvG c s)
    (hon : th.loc = .startStarted → s.once ≠ .fresh) (hs : ThStep c s t th op s') : InvG c s' := by
  cases hs with
  | startSwap | startClaim | startStore | startUndo => apply InvG.move; exact { h with }
  | startLaunch p hl hon =>
    -- all three goroutines go from `none` to `entry`: every flag is still in its initial state
    obtain ⟨hr, hsd, heh, -⟩ := h.fresh hon
    have hw := h.wgEq; have hf := h.fin; have hm := h.mainS; have he := h.ehS; have hs := h.sdS; have hp := h.pan
    rw [hr, hsd, heh] at hw; rw [hr] at hf hm he hp; rw [hsd] at hs
    exact Launched.invG ⟨nofun, nofun, rfl, rfl, rfl, congrArg (· + 3) hw, hf, hm, he, hs, nofun, nofun, nofun, nofun,
      fun g => by simpa using hp g⟩
  | startNil p hl =>
    exact { h with fresh := nofun, launched := fun _ => h.launched (hon hl) }
  | close hl =>
    refine { h with fresh := fun h0 => ?_, ccl := fun g => ?_, sdCtx := fun g => ?_ }
    · obtain ⟨a, b, d, e, f, g, k⟩ := h.fresh h0
      exact ⟨a, b, d, by simp [State.finish, State.setTh, State.tick, e, k], f, g, k⟩
    · simp [State.finish, State.setTh, State.tick, h.ccl g]
    · exact ctxDone_mono (s := s) (fun e => by simp [State.finish, State.setTh, State.tick, e]) rfl (fun _ hq => hq) (h.sdCtx g)
  | _ => exact h.move

theorem InvG.launched_of_finished {c : Cfg} {s : State} (h : InvG c s) (hf : s.isFinished = true) : s.once ≠ .fresh := by
  intro h0
  have := h.fin; rw [(h.fresh h0).1, hf] at this; cases this

theorem InvG.rg_of_finished {c : Cfg} {s : State} (h : InvG c s) (hf : s.isFinished = true) : 9 ≤ s.rg.rank :=
  of_decide_eq_true (h.fin.symm.trans hf)

/-- the Run goroutine gets past `recovered` only after the shutdown goroutine has closed its signal -/
theorem InvG.sd_of_rg {c : Cfg} {s : State} (h : InvG c s) (hr : 6 ≤ s.rg.rank) : 4 ≤ s.sd.rank :=
  of_decide_eq_true (h.sdS.symm.trans (h.rgSd hr))

end FunModel.Service
