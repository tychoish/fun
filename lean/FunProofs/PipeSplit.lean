import FunModel.Pipe
import FunProofs.ListAux

/-! The Split model with per-output contexts: the abandoned-first-output leak (finding D25) as a
    kernel-checked schedule, the proof that the leak is permanent, and that the reader is started once. -/
namespace FunModel.Pipe.Split

/-- two outputs, input 1 2 3: output 0 is advanced first (the reader goroutine gets *its* context),
    both outputs take one item, output 1 is closed, output 0 is abandoned (never touched again) -/
def leakSchedule : List Act :=
  [.advance 0, .rRead, .deliver 0, .advance 1, .rRead, .deliver 1, .close 1, .rRead]

def leakState : St :=
  { src := [], rd := .running (some 3), rdCtx := some 0, spawned := 1, pclosed := false, ucancel := false,
    outs := [{ closed := false, parked := false, got := [1] }, { closed := true, parked := false, got := [2] }] }

theorem leak_reached : run (init [1, 2, 3] 2) leakSchedule = some leakState := by decide

/-- what stays true as long as nobody touches the abandoned output 0 and the caller's context lives -/
def Leaked (s : St) : Prop :=
  s.rd = .running (some 3) ∧ s.rdCtx = some 0 ∧ s.ucancel = false ∧
  ∃ o1, s.outs = [{ closed := false, parked := false, got := [1] }, o1] ∧ o1.closed = true ∧ o1.parked = false

theorem leaked_leakState : Leaked leakState :=
  ⟨rfl, rfl, rfl, _, rfl, rfl, rfl⟩

theorem leaked_step {s s' : St} {a : Act} (h : Leaked s) (ha : a.touches 0 = false) (hc : a ≠ .cancel)
    (hs : step s a = some s') : Leaked s' := by
  obtain ⟨h1, h2, h3, o1, h4, h5, h6⟩ := h
  cases a with
  | cancel => exact absurd rfl hc
  | rRead | rEof => simp [step, h1] at hs
  | rCtx => simp [step, h1, St.rdDone, h2, St.ctxDone, h3, h4] at hs
  | advance i | deliver i | eof i | ctx i =>
    -- an output other than 0 is output 1, closed and not parked, or does not exist
    match i with
    | 0 => simp [Act.touches] at ha
    | 1 => simp [step, *] at hs
    | j + 2 => simp [step, h4] at hs
  | close i =>
    match i with
    | 0 => simp [Act.touches] at ha
    | 1 =>
      simp [step, h4] at hs
      subst hs
      exact ⟨h1, h2, h3, { o1 with closed := true }, by simp, rfl, h6⟩
    | j + 2 => simp [step, h4] at hs

theorem leaked_run (as : List Act) : ∀ {s s' : St}, Leaked s →
    (∀ a ∈ as, a.touches 0 = false ∧ a ≠ .cancel) → run s as = some s' → Leaked s' :=
  fun h hall => List.foldlM_option_inv_mem Leaked as (fun a ha _ _ h => leaked_step h (hall a ha).1 (hall a ha).2) h

theorem leaked_stuck {s : St} (h : Leaked s) : s.readerStuck = true := by
  obtain ⟨h1, h2, h3, o1, h4, h5, h6⟩ := h
  simp [St.readerStuck, step, h1, St.rdDone, h2, St.ctxDone, h3, h4]

/-- the reader goroutine is started at most once, by the first advance, under that output's context -/
def Once (s : St) : Prop :=
  (s.rd = .notStarted ∧ s.spawned = 0 ∧ s.rdCtx = none) ∨ (s.rd ≠ .notStarted ∧ s.spawned = 1 ∧ s.rdCtx ≠ none)

theorem once_step {s s' : St} {a : Act} (h : Once s) (hs : step s a = some s') : Once s' := by
  cases a <;> simp only [step] at hs <;> (repeat' (split at hs)) <;> cases hs
  all_goals (first | exact h | (unfold Once at h ⊢; simp_all))

theorem once_run (as : List Act) : ∀ {s s' : St}, Once s → run s as = some s' → Once s' :=
  List.foldlM_option_inv _ (fun _ _ _ => once_step) as

end FunModel.Pipe.Split
