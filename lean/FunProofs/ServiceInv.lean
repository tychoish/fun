import FunProofs.ServiceFlags
import FunProofs.ServicePhases
import FunProofs.ServiceLock
import FunProofs.ServiceCalls

/-! The invariants of the `srv.Service` model that depend on one another, kept together by every transition (`Inv`):
    `Inv1` = `InvG` ∧ `InvT`, `Inv2` = the log invariants and `Book`, `Evs` = every logged event meets its obligation
    `evOk`. `Lock` stays beside `Inv` because `InvT` and `ThLog` in the new state are read off `Lock` in the new state:
    `Trans.inv` proves `Lock s'` first and hands it on. -/

namespace FunModel.Service

theorem finished_of_wg {c : Cfg} {s : State} (hG : InvG c s) (hT : InvT c s) (hst : s.isStarted = true) (hw : s.wg = 0) :
    s.isFinished = true := by
  have hl := hG.launched (hT.st hst)
  have := hG.wgEq
  rw [hw] at this
  -- the Run goroutine holds no count of the wait-group and was launched, so it is `gone`, past `isFinished.Store(true)`
  have hr : liveRg s.rg = 0 := by omega
  rw [hG.fin]
  have hne := hl.1
  cases hrg : s.rg <;> simp [hrg, liveRg, RgLoc.rank] at hr hne ⊢

def Inv1 (c : Cfg) (s : State) : Prop := InvG c s ∧ InvT c s

theorem Inv1.init (c : Cfg) (ps : List (List Op)) : Inv1 c (init ps) := by
  constructor
  · constructor <;> (try simp [Service.init, RgLoc.rank, SdLoc.rank, EhLoc.rank, liveRg, liveSd, liveEh, State.ctxDone])
  · have hl : ∀ (t : Nat) (th : Thread), (Service.init ps).ths[t]? = some th → th.loc = .idle :=
      fun t th h => (init_thread h).1
    have e1 : (Service.init ps).once = .fresh := rfl
    have e2 : (Service.init ps).claimed = false := rfl
    have e3 : (Service.init ps).isStarted = false := rfl
    have e4 : (Service.init ps).isFinished = false := rfl
    constructor <;> grind [inClaim]

theorem Inv1.claimed {c : Cfg} {s : State} (h : Inv1 c s) (hr : s.rg ≠ .none) : s.claimed = true :=
  h.2.lc fun h0 => hr (h.1.fresh h0).1

theorem Trans.inv1 {c : Cfg} {s s' : State} (h : Inv1 c s) (hL : Lock s) (hs : Trans c s s') (hk : Lock s') : Inv1 c s' := by
  obtain ⟨hG, hT⟩ := h
  cases hs with
  | th t th op hth ho h => exact ⟨h.invG hG fun hl => by rw [hT.t6 t th hth (Or.inr hl)]; nofun, h.invT hT hL hth hk⟩
  | rg h =>
    exact ⟨h.invG hG, h.invT hT fun hr => ⟨by rw [hG.fin, hr]; rfl, Inv1.claimed ⟨hG, hT⟩ (by rw [hr]; nofun)⟩⟩
  | sd h => exact ⟨h.invG hG, h.invT hT⟩
  | eh h => exact ⟨h.invG hG, h.invT hT⟩
  | cancelParent p hp => exact ⟨hG.cancelParent p, { hT with }⟩

theorem Trans.lock {c : Cfg} {s s' : State} (h1 : Inv1 c s) (h : Lock s) (hs : Trans c s s') : Lock s' := by
  obtain ⟨hG, hT⟩ := h1
  cases hs with
  | th t th op hth ho hs =>
    exact hs.lock h hT (fun hf => hT.lc (hG.launched_of_finished hf)) hth
  | rg hs =>
    refine hs.gstep.lock h fun hc => ?_
    cases hs with
    | notRunning hr =>
      have := Inv1.claimed ⟨hG, hT⟩ (by rw [hr]; nofun)
      rw [hc] at this; cases this
    | _ => rfl
  | sd hs => exact hs.gstep.lock h fun _ => by cases hs <;> rfl
  | eh hs => exact hs.gstep.lock h fun _ => by cases hs <;> rfl
  | cancelParent p hp => exact (gstep_cancelParent s p).lock h fun _ => rfl

theorem Lock.init (ps : List (List Op)) : Lock (init ps) := by
  have hl : ∀ (P : Loc → Prop) [DecidablePred P], ¬ P .idle → nAt (Service.init ps) P = 0 := fun P _ hP =>
    nAt_zero fun u x hu hx => hP ((init_thread hu).1 ▸ hx)
  exact ⟨by unfold Token; rw [hl _ (by simp [inClaim])]; rfl, fun _ => hl _ (by simp)⟩

structure Inv2 (c : Cfg) (s : State) : Prop where
  clk : Clk s
  run : RunLog c s
  sd : SdLog c s
  eh : EhLog c s
  coll : Coll c s
  ctx : CtxLog c s
  th : ThLog c s
  book : Book s

/-- the log invariants of the stepping goroutine are given, all others are framed -/
theorem GStep.inv2 {c : Cfg} {s s' : State} {phs : List Phase} (g : GStep s s' phs) (k : Inv2 c s) (hk : Lock s')
    (hrun : (phs.contains .run || phs.contains .cleanup) = true → RunLog c s')
    (hsd : phs.contains .shutdown = true → SdLog c s') (heh : phs.contains .handler = true → EhLog c s')
    (hcoll : Coll c s') (hctx : CtxLog c s') : Inv2 c s' where
  clk := k.clk.frame (g.appends fun _ _ => trivial)
  run := by
    cases h : (phs.contains .run || phs.contains .cleanup) with
    | true => exact hrun h
    | false =>
      rw [Bool.or_eq_false_iff] at h
      exact k.run.frame (g.rg (by rw [h.1, h.2]; rfl)) (g.appends fun e he => ⟨gEv_notPhase _ he h.1, gEv_notPhase _ he h.2⟩)
  sd := by
    cases h : phs.contains .shutdown with
    | true => exact hsd h
    | false => exact k.sd.frame (g.sd h) (g.appends fun e he => gEv_notPhase _ he h)
  eh := by
    cases h : phs.contains .handler with
    | true => exact heh h
    | false => exact k.eh.frame' (g.eh h) (g.appends fun e he => (gEv_notPhase _ he h).1)
  coll := hcoll
  ctx := hctx
  th := k.th.frameG hk g.ths g.claimed g.fin g.isStarted (g.appends fun e he => (gEv_not_call_ret he).1)
  book := k.book.frameG g.ths (g.appends fun e he => (gEv_not_call_ret he).2.2)

theorem RgStep.inv2 {c : Cfg} {s s' : State} (h : Inv2 c s) (hs : RgStep c s s') (hk : Lock s') : Inv2 c s' :=
  hs.gstep.inv2 h hk (fun _ => hs.runLog h.run) nofun nofun (hs.coll h.coll h.run) (hs.ctxLog h.ctx h.run)

theorem SdStep.inv2 {c : Cfg} {s s' : State} (h : Inv2 c s) (hs : SdStep c s s') (hk : Lock s') : Inv2 c s' :=
  hs.gstep.inv2 h hk nofun (fun _ => hs.sdLog h.sd) nofun (hs.coll h.coll) (hs.ctxLog h.ctx)

theorem EhStep.inv2 {c : Cfg} {s s' : State} (h : Inv2 c s) (hs : EhStep c s s') (hk : Lock s') : Inv2 c s' :=
  hs.gstep.inv2 h hk nofun nofun (fun _ => hs.ehLog h.eh) (hs.coll h.coll) (hs.ctxLog h.ctx)

theorem ThStep.inv2 {c : Cfg} {s s' : State} {t : Nat} {th : Thread} {op : Op} (h1 : Inv1 c s) (h : Inv2 c s)
    (hth : s.ths[t]? = some th) (ho : th.ops[th.pc]? = some op) (hs : ThStep c s t th op s') (hk : Lock s') :
    Inv2 c s' := by
  have hctx := hs.ctxLog h.ctx fun hl => by
    obtain ⟨k, op', ho', hk⟩ := h.book.cm1 t th hth hl
    cases ho.symm.trans ho'; exact ⟨k, hk⟩
  have hthl := hs.thLog h.th (fun hf => h1.2.lc (h1.1.launched_of_finished hf)) (finished_of_wg h1.1 h1.2) h.clk hth hk
  have hbook := hs.book h.book hth ho
  have ha := hs.appends
  have hclk : Clk s' := h.clk.frame (ha.mono fun _ _ => trivial)
  cases hs with
  | startLaunch p hl hon =>
    -- the goroutines go from `none` to `entry`: no threshold of the log and collector invariants is crossed
    obtain ⟨hr, hsd, heh, _⟩ := h1.1.fresh hon
    obtain ⟨fr, fc⟩ := h.run.phases
    have fs := h.sd.phase
    have fk := h.coll.at
    rw [hr] at fr fc fk; rw [hsd] at fs fk; rw [heh] at fk
    exact ⟨hclk, .ofPhases rfl rfl (fr.same _) (fc.same _), .ofPhase (fs.same _),
      h.eh.frame _ [] (by rw [heh]; exact Nat.zero_le _) nofun rfl nofun, CollAt.coll { fk with }, hctx, hthl, hbook⟩
  | _ =>
    refine ⟨hclk, h.run.frame rfl (ha.mono fun e he => ⟨notPhase_of_call_ret _ he, notPhase_of_call_ret _ he⟩),
      h.sd.frame rfl (ha.mono fun e he => notPhase_of_call_ret _ he),
      h.eh.frame' rfl (ha.mono fun e he => (notPhase_of_call_ret .handler he).1), Coll.move ?_, hctx, hthl, hbook⟩
    exact { h.coll with }

theorem Inv2.init (c : Cfg) (ps : List (List Op)) : Inv2 c (init ps) := by
  have hl : ∀ (t : Nat) (th : Thread), (Service.init ps).ths[t]? = some th → th.loc = .idle :=
    fun t th h => (init_thread h).1
  refine ⟨?_, ⟨?_, ?_, ?_, ?_, ?_, ?_⟩, ⟨?_, ?_, ?_⟩, ⟨?_, ?_, ?_, ?_⟩, ⟨?_, ?_, ?_, ?_, ?_, ?_, ?_, ?_, ?_, ?_⟩,
    ⟨?_, ?_, ?_⟩, ⟨?_, ?_, ?_, ?_, ?_, ?_, ?_, ?_⟩, ⟨?_, ?_, ?_⟩⟩ <;>
    (try simp [Clk, Service.init, countEv, has, RgLoc.rank, SdLoc.rank, EhLoc.rank]) <;> (try (intros; simp_all [inClaim]))

theorem Trans.inv2 {c : Cfg} {s s' : State} (h1 : Inv1 c s) (h : Inv2 c s) (hs : Trans c s s') (hk : Lock s') :
    Inv2 c s' := by
  cases hs with
  | th t th op hth ho hs => exact hs.inv2 h1 h hth ho hk
  | rg hs => exact hs.inv2 h hk
  | sd hs => exact hs.inv2 h hk
  | eh hs => exact hs.inv2 h hk
  | cancelParent p hp =>
    exact (gstep_cancelParent s p).inv2 h hk nofun nofun nofun { h.coll with } (h.ctx.cancelParent p)

theorem endedBefore_tick {c : Cfg} {l : Log} {k K : Nat} (h : k ≤ K) (evs : List Ev) (ph : Phase) :
    endedBefore c (l ++ stamp K evs) k ph = endedBefore c l k ph := by
  simp only [endedBefore, before_tick h]

theorem phasesDoneBefore_tick {c : Cfg} {l : Log} {k K : Nat} (h : k ≤ K) (evs : List Ev) :
    phasesDoneBefore c (l ++ stamp K evs) k = phasesDoneBefore c l k := by
  simp only [phasesDoneBefore, endedBefore_tick h]

theorem ctxEndBefore_mono {c : Cfg} {l : Log} {k K : Nat} (h : k ≤ K) (evs : List Ev)
    (h0 : ctxEndBefore c l k = true) : ctxEndBefore c (l ++ stamp K evs) k = true := by
  simp only [ctxEndBefore, before_tick h, Bool.or_eq_true] at h0 ⊢
  rcases h0 with h0 | h0
  · exact Or.inl h0
  · refine Or.inr ?_
    rw [List.any_eq_true] at h0 ⊢
    obtain ⟨x, hx, hp⟩ := h0
    refine ⟨x, List.mem_append_left _ hx, ?_⟩
    cases hx2 : x.2 <;> simp only [hx2] at hp ⊢ <;> (try exact hp)
    simp only [Bool.and_eq_true] at hp ⊢
    refine ⟨hp.1, ?_⟩
    have := hp.2
    rw [List.any_eq_true] at this ⊢
    obtain ⟨y, hy, hq⟩ := this
    exact ⟨y, List.mem_append_left _ hy, hq⟩

theorem runningCallOk_mono {l : Log} {K : Nat} (hclk : ∀ x ∈ l, x.1 < K) (evs : List Ev) (t i : Nat)
    (h0 : runningCallOk l t i = true) : runningCallOk (l ++ stamp K evs) t i = true := by
  simp only [runningCallOk, List.any_eq_true] at h0 ⊢
  obtain ⟨y, hy, hp⟩ := h0
  refine ⟨y, List.mem_append_left _ hy, ?_⟩
  rw [before_tick (Nat.le_of_lt (hclk y hy))]
  exact hp

/-- An obligation that is met stays met when the log grows: the `before` clauses look only below the event's own clock
    (`before_tick`), and the two searches through the whole log (`ctxEndBefore`'s `Start` call, `runningCallOk`) are
    existential. -/
theorem evOk_mono {c : Cfg} {l : Log} {k K : Nat} (hclk : ∀ x ∈ l, x.1 < K) (hk : k ≤ K) (evs : List Ev) (e : Ev)
    (h0 : evOk c l k e = true) : evOk c (l ++ stamp K evs) k e = true := by
  cases e with
  | call t i op => simp [evOk]
  | cancelParent p => simp [evOk]
  | phEnd ph => simpa only [evOk, before_tick hk] using h0
  | phBegin ph agg =>
    cases ph with
    | run => simpa only [evOk] using h0
    | shutdown =>
      simp only [evOk, Bool.and_eq_true] at h0 ⊢
      exact ⟨h0.1, ctxEndBefore_mono hk evs h0.2⟩
    | cleanup => simpa only [evOk, endedBefore_tick hk] using h0
    | handler => simpa only [evOk, phasesDoneBefore_tick hk] using h0
  | ret t i r =>
    cases r with
    | waitResult ids => simpa only [evOk, phasesDoneBefore_tick hk] using h0
    | startReturned => simpa only [evOk, phasesDoneBefore_tick hk] using h0
    | running b =>
      cases b with
      | true => simp only [evOk] at h0 ⊢; exact runningCallOk_mono hclk evs t i h0
      | false => simp [evOk]
    | _ => simp [evOk]

def Evs (c : Cfg) (s : State) : Prop := ∀ x ∈ s.log, evOk c s.log x.1 x.2 = true

theorem Evs.step {c : Cfg} {s s' : State} (h : Evs c s) (hclk : Clk s) (evs : List Ev)
    (hl : s'.log = s.log ++ stamp s.clock evs)
    (hnew : evs.all (evOk c (s.log ++ stamp s.clock evs) s.clock) = true) : Evs c s' := by
  intro x hx
  rw [hl] at hx ⊢
  rcases List.mem_append.mp hx with hx | hx
  · exact evOk_mono hclk (Nat.le_of_lt (hclk x hx)) evs x.2 (h x hx)
  · rw [mem_stamp] at hx
    rw [hx.1]; exact List.all_eq_true.mp hnew _ hx.2

theorem Evs.step1 {c : Cfg} {s s' : State} (h : Evs c s) (hclk : Clk s) (e : Ev)
    (hl : s'.log = s.log ++ stamp s.clock [e]) (hnew : evOk c (s.log ++ stamp s.clock [e]) s.clock e = true) :
    Evs c s' :=
  h.step hclk [e] hl (by rw [List.all_cons, hnew]; rfl)

/-- what `isFinished` gives an event logged in this step: the conjuncts of `evOk` for a Wait result, for
    `startReturned` and for the handler's begin -/
theorem finished_facts {c : Cfg} {s : State} (hG : InvG c s) (h2 : Inv2 c s) (hf : s.isFinished = true) (evs : List Ev) :
    phasesDoneBefore c (s.log ++ stamp s.clock evs) s.clock = true
      ∧ (mustIds c).all (fun i => s.coll.contains i) = true ∧ (!(mustIds c).isEmpty || s.coll.isEmpty) = true := by
  have hr := hG.rg_of_finished hf
  have hsd := hG.sd_of_rg (Nat.le_trans (by decide) hr)
  refine ⟨?_, ?_, ?_⟩
  · simp only [phasesDoneBefore, endedBefore, before_new h2.clk, h2.run.runE, h2.run.cuE, h2.sd.sdE, Cfg.get]
    have a1 : 3 ≤ s.rg.rank := by omega
    have a2 : 8 ≤ s.rg.rank := by omega
    have a3 : 3 ≤ s.sd.rank := by omega
    cases c.run.present <;> cases c.shutdown.present <;> cases c.cleanup.present <;> simp [a1, a2, a3]
  · rw [List.all_eq_true]
    intro i hi
    have hc := h2.coll
    simp only [List.contains_eq_mem, decide_eq_true_eq]
    rcases mem_mustIds.mp hi with (h | ⟨rfl, h⟩) | (h | ⟨rfl, p, h⟩) | (h | ⟨rfl, p, h⟩)
    · exact hc.collRun (by omega) i h
    · exact hc.collRunP (by omega) h
    · exact hc.collSdE (by omega) i h
    · exact hc.collSdP (by omega) p h
    · exact hc.collCuE (by omega) i h
    · exact hc.collCuP (by omega) p h
  · cases hm : (mustIds c).isEmpty
    · rfl
    · have : mustIds c = [] := by simpa using hm
      have := h2.coll.collNil ((mustIds_nil_iff c).mp this)
      simp [this]

theorem evOk_end {c : Cfg} {s : State} (hclk : Clk s) {ph : Phase} (hb : has s.log (isBegin ph) = true) :
    evOk c (s.log ++ stamp s.clock [.phEnd ph]) s.clock (.phEnd ph) = true := by
  simp only [evOk, before_new hclk]; exact hb

theorem RgStep.evs {c : Cfg} {s s' : State} (hG : InvG c s) (h2 : Inv2 c s) (h : Evs c s) (hs : RgStep c s s') :
    Evs c s' := by
  have hclk := h2.clk
  cases hs with
  | entry hr hc => exact h.step1 hclk _ rfl (present_of_ne hc)
  | runPanic hr | runRet hr =>
    have f := h2.run.phases.1
    rw [hr] at f
    exact h.step1 hclk _ rfl (evOk_end hclk f.begun)
  | cleanupBegin hr hc =>
    refine h.step1 hclk _ rfl ?_
    have hsd := hG.sd_of_rg (by rw [hr]; decide)
    have a3 : 3 ≤ s.sd.rank := by omega
    simp only [evOk, endedBefore, before_new hclk, h2.run.runE, h2.sd.sdE, Cfg.get, hr, RgLoc.rank, present_of_ne hc]
    cases c.run.present <;> cases c.shutdown.present <;> simp [a3]
  | cleanupEnd hr =>
    have f := h2.run.phases.2
    rw [hr] at f
    exact h.step1 hclk _ rfl (evOk_end hclk f.begun)
  | _ => exact h.step hclk [] rfl rfl

theorem ctxEnd_new {c : Cfg} {s : State} (h2 : Inv2 c s) (hd : s.ctxDone = true) (evs : List Ev) :
    ctxEndBefore c (s.log ++ stamp s.clock evs) s.clock = true := by
  have hclk := h2.clk
  simp only [ctxEndBefore, before_new hclk, Bool.or_eq_true]
  simp only [State.ctxDone, Bool.or_eq_true] at hd
  rcases hd with hd | hd
  · rcases h2.ctx.cc hd with h | h | h
    · exact Or.inl (Or.inl (Or.inl (by simp [h])))
    · exact Or.inl (Or.inl (Or.inr h))
    · exact Or.inl (Or.inr h)
  · refine Or.inr ?_
    cases hp : s.svcParent with
    | none => simp [hp] at hd
    | some p =>
      simp only [hp, List.contains_eq_mem, decide_eq_true_eq] at hd
      obtain ⟨k, hk⟩ := h2.ctx.pc1 p hd
      obtain ⟨k', t, i, hk'⟩ := h2.ctx.pc2 p hp
      rw [List.any_eq_true]
      refine ⟨(k, .cancelParent p), List.mem_append_left _ hk, ?_⟩
      simp only [Bool.and_eq_true, decide_eq_true_eq]
      refine ⟨hclk _ hk, ?_⟩
      rw [List.any_eq_true]
      exact ⟨(k', .call t i (.start p)), List.mem_append_left _ hk', by simp⟩

theorem SdStep.evs {c : Cfg} {s s' : State} (h2 : Inv2 c s) (h : Evs c s) (hs : SdStep c s s') : Evs c s' := by
  have hclk := h2.clk
  cases hs with
  | entry hr hd hc => exact h.step1 hclk _ rfl (Bool.and_eq_true_iff.mpr ⟨present_of_ne hc, ctxEnd_new h2 hd _⟩)
  | shutdownEnd hr =>
    have f := h2.sd.phase
    rw [hr] at f
    exact h.step1 hclk _ rfl (evOk_end hclk f.begun)
  | _ => exact h.step hclk [] rfl rfl

theorem EhStep.evs {c : Cfg} {s s' : State} (hG : InvG c s) (h2 : Inv2 c s) (h : Evs c s) (hs : EhStep c s s') :
    Evs c s' := by
  have hclk := h2.clk
  cases hs with
  | call hr hg hx =>
    obtain ⟨hc, hn⟩ := hx
    refine h.step1 hclk _ rfl ?_
    -- the handler goroutine got past `mainSignal`, which is closed after `isFinished` is set
    have h11 : 11 ≤ s.rg.rank := of_decide_eq_true (hG.mainS.symm.trans (hG.ehMain (by rw [hr]; decide)))
    have hf : s.isFinished = true := hG.fin.trans (decide_eq_true (Nat.le_trans (by decide) h11))
    have := (finished_facts hG h2 hf [Ev.phBegin Phase.handler s.coll]).1
    simp [evOk, this, present_of_ne hc, hn]
  | handlerPanic hr | handlerEnd hr => exact h.step1 hclk _ rfl (evOk_end hclk (h2.eh.ehBeg hr))
  | _ => exact h.step hclk [] rfl rfl

theorem evOk_waitResult {c : Cfg} {s : State} (hG : InvG c s) (h2 : Inv2 c s) (hf : s.isFinished = true)
    (evs : List Ev) (t i : Nat) : evOk c (s.log ++ stamp s.clock evs) s.clock (.ret t i (.waitResult s.coll)) = true := by
  obtain ⟨a, b, d⟩ := finished_facts hG h2 hf evs
  simp only [evOk, a, b, d, Bool.and_self]

theorem evOk_startReturned {c : Cfg} {s : State} (hG : InvG c s) (h2 : Inv2 c s) (hf : s.isFinished = true)
    (evs : List Ev) (t i : Nat) : evOk c (s.log ++ stamp s.clock evs) s.clock (.ret t i .startReturned) = true := by
  simp only [evOk, (finished_facts hG h2 hf evs).1]

theorem ThStep.evs {c : Cfg} {s s' : State} {t : Nat} {th : Thread} {op : Op} (h1 : Inv1 c s) (h2 : Inv2 c s) (h : Evs c s)
    (hth : s.ths[t]? = some th) (ho : th.ops[th.pc]? = some op) (hs : ThStep c s t th op s') : Evs c s' := by
  have hclk := h2.clk
  obtain ⟨hG, hT⟩ := h1
  cases hs with
  | startReturned p hl hf =>
    refine h.step hclk _ rfl ?_
    simp only [List.cons_append, List.nil_append, List.all_cons, evOk_startReturned hG h2 hf]; rfl
  | startUndo p hl =>
    refine h.step1 hclk _ rfl ?_
    exact evOk_startReturned hG h2 (hT.t5 t th hth hl) _ _ _
  | waitFinished hl hf =>
    refine h.step hclk _ rfl ?_
    simp only [List.cons_append, List.nil_append, List.all_cons, evOk_waitResult hG h2 hf]; rfl
  | waitDone hl hw =>
    refine h.step1 hclk _ rfl ?_
    exact evOk_waitResult hG h2 (finished_of_wg hG hT (h2.th.ws t th hth hl) hw) _ _ _
  | runningLoad hl =>
    refine h.step1 hclk _ rfl ?_
    cases hr : s.isRunning with
    | false => simp [evOk]
    | true =>
      -- the witness is this thread's own call event (`cm1`); no Wait result is stamped before it (`rc`)
      obtain ⟨k, op, ho', hk⟩ := h2.book.cm1 t th hth (by simp [hl])
      rw [ho] at ho'; injection ho' with ho'; subst ho'
      simp only [evOk, runningCallOk, List.any_eq_true]
      refine ⟨(k, .call t th.pc .running), List.mem_append_left _ hk, ?_⟩
      have hkK : k ≤ s.clock := Nat.le_of_lt (hclk _ hk)
      simp only [before_tick hkK, beq_self_eq_true, Bool.true_and, Bool.not_eq_true']
      cases hb : before s.log k isWaitRes with
      | false => rfl
      | true =>
        simp only [before, List.any_eq_true, Bool.and_eq_true, decide_eq_true_eq] at hb
        obtain ⟨x, hx, hlt, hw⟩ := hb
        have := h2.th.rc t th hth hl x hx (k, .call t th.pc .running) hk hw rfl
        simp at this; omega
  | _ => exact h.step hclk _ rfl rfl

structure Inv (c : Cfg) (s : State) : Prop where
  i1 : Inv1 c s
  i2 : Inv2 c s
  evs : Evs c s

theorem Inv.init (c : Cfg) (ps : List (List Op)) : Inv c (init ps) :=
  ⟨Inv1.init c ps, Inv2.init c ps, by intro x hx; simp [Service.init] at hx⟩

theorem Trans.inv {c : Cfg} {s s' : State} (h : Inv c s) (hk : Lock s) (hs : Trans c s s') : Inv c s' ∧ Lock s' := by
  obtain ⟨h1, h2, h3⟩ := h
  have hk' := hs.lock h1 hk
  refine ⟨⟨hs.inv1 h1 hk hk', hs.inv2 h1 h2 hk', ?_⟩, hk'⟩
  cases hs with
  | th t th op hth ho hs => exact hs.evs h1 h2 h3 hth ho
  | rg hs => exact hs.evs h1.1 h2 h3
  | sd hs => exact hs.evs h2 h3
  | eh hs => exact hs.evs h1.1 h2 h3
  | cancelParent p hp => exact h3.step h2.clk _ rfl rfl

theorem Inv.reachable_lock {c : Cfg} (hc : c.current) {ps : List (List Op)} {s : State} (hr : Reachable c ps s) :
    Inv c s ∧ Lock s :=
  reachable_induction hc (fun s => Inv c s ∧ Lock s) ⟨Inv.init c ps, Lock.init ps⟩ (fun _ _ _ h hs => hs.inv h.1 h.2) hr

theorem Inv.reachable {c : Cfg} (hc : c.current) {ps : List (List Op)} {s : State} (hr : Reachable c ps s) : Inv c s :=
  (Inv.reachable_lock hc hr).1

end FunModel.Service
