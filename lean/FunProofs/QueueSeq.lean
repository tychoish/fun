import FunProofs.ListAux
import FunProofs.QueueBase
import FunProofs.QueueSpec
import FunProofs.ConcSubj

/-! `pubsub.Queue` against its sequential specification (`FunProofs/QueueSpec.lean`), for C05: a returning
    segment is the whole `Spec.apply`, a parking one no step (`seg_sim`). `run_induction` is induction over the
    segments of a run from an `InitQ` state with `SInv` carried along (QueueIter and QueuePtr lift their
    invariants through it too, case by case over `seg_effect`, what a segment does to the entries); `LinInv` is the
    linearization invariant over `history`/`results` of the log. -/
namespace FunModel.Queue
open FunModel.Conc FunModel.ConcSubj

/-- the tracker invariant of C05 `tracker_inv`; `1 ≤ softQuota` because `remove()` never lowers the quota
    below 1 and `Validate` rejects a hard limit of 0 -/
def Tracker.Ok : Tracker → Prop
  | .noLimit _ => True
  | .soft sq hl l _ => l ≤ hl ∧ 1 ≤ sq ∧ sq ≤ hl

def Tracker.hardLimit : Tracker → Option Nat
  | .noLimit _ => none
  | .soft _ hl _ _ => some hl

theorem Tracker.Ok.add {tr : Tracker} (h : tr.Ok) : tr.add.1.Ok := by
  cases tr with
  | noLimit l => trivial
  | soft sq hl l cr =>
    simp only [Tracker.Ok] at h
    simp only [Tracker.add]
    split
    · split
      · exact h
      · have : l ≠ hl := by simpa using ‹¬(l == hl) = true›
        split
        · exact h
        · simp only [Tracker.Ok]; omega
    · simp only [Tracker.Ok]; omega

theorem Tracker.Ok.remove {tr : Tracker} (h : tr.Ok) : tr.remove.Ok := by
  cases tr with
  | noLimit l => trivial
  | soft sq hl l cr =>
    simp only [Tracker.Ok] at h
    simp only [Tracker.remove]
    by_cases h1 : l - 1 < sq
    · by_cases h2 : (decide (sq > 1) && decide (l - 1 < sq / 2)) = true
      · have : sq > 1 := by simp at h2; omega
        simp only [h1, h2, if_true, Tracker.Ok]; omega
      · simp only [h1, h2, if_true, Tracker.Ok]; simp; omega
    · simp only [h1, if_false, Tracker.Ok]; omega

theorem Tracker.hardLimit_add (tr : Tracker) : tr.add.1.hardLimit = tr.hardLimit := by
  cases tr with
  | noLimit l => rfl
  | soft sq hl l cr =>
    simp only [Tracker.add]
    repeat' split
    all_goals rfl

theorem Tracker.hardLimit_remove (tr : Tracker) : tr.remove.hardLimit = tr.hardLimit := by
  cases tr with
  | noLimit l => rfl
  | soft sq hl l cr => simp only [Tracker.remove]; split <;> rfl

theorem Tracker.len_le_hard {tr : Tracker} (h : tr.Ok) {hl : Nat} (hh : tr.hardLimit = some hl) : tr.len ≤ hl := by
  cases tr with
  | noLimit l => cases hh
  | soft sq hl' l cr =>
    simp only [Tracker.hardLimit, Option.some.injEq] at hh
    subst hh
    exact h.1

def Tracker.atHardLimit : Tracker → Bool
  | .noLimit _ => false
  | .soft _ hl l _ => l == hl
def Tracker.atOrOverQuota : Tracker → Bool
  | .noLimit _ => false
  | .soft sq _ l _ => decide (l ≥ sq)
/-- the only question the decision asks about the float -/
def Tracker.creditBelowOne : Tracker → Bool
  | .noLimit _ => false
  | .soft _ _ _ cr => decide (cr < 1)

theorem Tracker.atHard_over {tr : Tracker} (h : tr.Ok) (ha : tr.atHardLimit = true) : tr.atOrOverQuota = true := by
  cases tr with
  | noLimit l => simp [Tracker.atHardLimit] at ha
  | soft sq hl l cr =>
    simp only [Tracker.atHardLimit, beq_iff_eq] at ha
    simp only [Tracker.Ok] at h
    simp only [Tracker.atOrOverQuota, decide_eq_true_eq]; omega

theorem Tracker.add_decision (tr : Tracker) :
    (tr.add.2 = .full ↔ (tr.atOrOverQuota = true ∧ tr.atHardLimit = true)) ∧
    (tr.add.2 = .noCredit ↔ (tr.atOrOverQuota = true ∧ tr.atHardLimit = false ∧ tr.creditBelowOne = true)) ∧
    (tr.add.2 = .ok ↔ (tr.atOrOverQuota = false ∨ (tr.atHardLimit = false ∧ tr.creditBelowOne = false))) := by
  cases tr with
  | noLimit l => simp [Tracker.add, Tracker.atHardLimit, Tracker.atOrOverQuota, Tracker.creditBelowOne]
  | soft sq hl l cr =>
    simp only [Tracker.add, Tracker.atHardLimit, Tracker.atOrOverQuota, Tracker.creditBelowOne]
    by_cases h1 : l ≥ sq
    · by_cases h2 : (l == hl) = true
      · simp [h1, h2]
      · by_cases h3 : cr < 1
        · simp [h1, h2, h3]
        · simp [h1, h2, h3]
    · simp [h1]

theorem Tracker.add_of_room {tr : Tracker} (h : tr.hasRoom = true) : tr.add.2 = .ok := by
  cases tr with
  | noLimit l => rfl
  | soft sq hl l cr =>
    have : ¬ l ≥ sq := by simpa [Tracker.hasRoom, Tracker.cap, Tracker.len] using h
    simp only [Tracker.add, this, if_false]

theorem doAdd_result (s : St) (v : Int) :
    ((doAdd s v).2.1 = "closed" ↔ s.closed = true) ∧
    ((doAdd s v).2.1 = "full" ↔ s.closed = false ∧ s.tracker.add.2 = .full) ∧
    ((doAdd s v).2.1 = "nocredit" ↔ s.closed = false ∧ s.tracker.add.2 = .noCredit) ∧
    ((doAdd s v).2.1 = "ok" ↔ s.closed = false ∧ s.tracker.add.2 = .ok) ∧
    ((doAdd s v).2.1 ≠ "ok" → (doAdd s v).1 = s) ∧
    ((doAdd s v).2.1 = "ok" → (doAdd s v).1.q = s.q ++ [((doAdd s v).1.nextId - 1, v)] ∧
        (doAdd s v).1.closed = s.closed) := by
  have hd := doAdd_spec s v
  generalize doAdd s v = x at hd ⊢
  cases hd with
  | closed hc => simp [hc]
  | full tr hc ha | noCredit tr hc ha => simp [hc, ha]
  | ok tr hc ha => simp [hc, ha, St.added]

/-- the operations test `tracker.len()` where the specification looks at the items, so the two must agree
    (`len`); `ok` is what keeps `Len ≤ hard limit` -/
structure SInv (s : St) : Prop where
  ok : s.tracker.Ok
  len : s.tracker.len = s.q.length

theorem abs_length (s : St) : (abs s).length = s.q.length := by simp [abs]

theorem DoAdd.sim {s : St} (h : SInv s) {v : Int} {x : St × String × List Sig} (hd : DoAdd s v x) :
    SInv x.1 ∧
    (if s.closed then some (specOf s, "closed") else some (Spec.push (specOf s) v)) = some (specOf x.1, x.2.1) := by
  cases hd with
  | closed hc => exact ⟨h, by simp [hc]⟩
  | full tr hc ha | noCredit tr hc ha => exact ⟨h, by simp [hc, Spec.push, specOf, ha]⟩
  | ok tr hc ha =>
    have hok := h.ok.add
    rw [ha] at hok
    refine ⟨⟨hok, ?_⟩, ?_⟩
    · simp [St.added, Tracker.add_ok_len ha, h.len]
    · simp [Spec.push, specOf, ha, abs, hc, St.added]

/-- a returning segment is the whole operation of the specification; a parking one is no step, and the
    specification cannot complete the operation either -/
def SegSim (s : St) (op : Op) (c : Bool) (o : SegOut St) : Prop :=
  SInv o.st ∧
  match o.fin with
  | .ret r => Spec.apply (specOf s) op c = some (specOf o.st, r)
  | .park _ => Spec.apply (specOf s) op c = none ∧ specOf o.st = specOf s

theorem len_zero_iff {s : St} (h : SInv s) : s.tracker.len = 0 ↔ s.q = [] := by
  rw [h.len]; exact List.length_eq_zero_iff

/-- a pass that cannot go on makes the tests the specification makes, in the same order -/
theorem blocked_sim {s : St} (h : SInv s) {op : Op} {c : Bool} (cnd : Nat) (sigs : List Sig)
    (happ : Spec.apply (specOf s) op c =
      if s.closed then some (specOf s, "closed") else if c then some (specOf s, "ctx") else none) :
    SegSim s op c { st := s, sigs := sigs, fin := blockedEnd s c cnd } := by
  unfold blockedEnd
  split
  · exact ⟨h, by rw [happ, if_pos ‹_›]⟩
  · split
    · exact ⟨h, by rw [happ, if_neg ‹_›, if_pos ‹_›]⟩
    · exact ⟨h, by rw [happ, if_neg ‹_›, if_neg ‹_›], rfl⟩

/-- the segments a run contains (`Reach'.induction`): the invocation (`first`, the context is live) or a
    re-check after a wake-up of a blocking operation with context flag `c` -/
structure IsSeg (s : St) (t : Nat) (op : Op) (first c : Bool) (o : SegOut St) : Prop where
  out : o = segOut subject s t op first c
  live : first = true → c = false
  blocking : first = false → op.blocking = true

variable {s : St} {t k : Nat} {op : Op} {first c : Bool} {o : SegOut St}

/-- a segment that saw its context cancelled is a re-check: an invocation starts with a live context -/
theorem IsSeg.recheck (hs : IsSeg s t op first c o) (hc : c = true) : first = false := by
  cases first with
  | false => rfl
  | true => cases (hs.live rfl).symm.trans hc

theorem IsSeg.seg (h : SInv s) (hs : IsSeg s t op first c o) : Seg s t op first c o := by
  have hc := Seg.of h.len t op
  rw [hs.out]
  cases first with
  | true => cases hs.live rfl; exact hc.1
  | false => exact hc.2 c

theorem seg_sim (h : SInv s) (hs : IsSeg s t op first c o) (hn : op.isNext = false) : SegSim s op c o := by
  have hseg := hs.seg h
  cases hseg with
  | add v hop hav hpre hd =>
    obtain ⟨h1, h2⟩ := hd.sim h
    refine ⟨h1, ?_⟩
    have hcl : (specOf s).closed = s.closed := rfl
    rcases hop with rfl | rfl
    · simpa [Spec.apply, hcl] using h2
    · have hr : (specOf s).tracker.hasRoom = true := hav
      simpa [Spec.apply, hcl, hr] using h2
  | pop e v rest hop hlen hpre hq =>
    refine ⟨⟨h.ok.remove, by simp [Tracker.remove_len, h.len, hq]⟩, ?_⟩
    rcases hop with rfl | rfl | rfl <;> simp [Spec.apply, Spec.pop, specOf, abs, hq]
  | blocked hop hc hav hpre hsp =>
    refine blocked_sim h _ _ ?_
    cases op with
    | badd v =>
      have hr : (specOf s).tracker.hasRoom = false := hav
      simp only [Spec.apply, hr]; rfl
    | wait | recv =>
      have ha : (specOf s).items = [] := by
        simp [specOf, abs, (len_zero_iff h).1 (by simpa [St.avail] using hav)]
      simp only [Spec.apply, ha]; rfl
    | next k => exact absurd rfl (hop k)
    | _ => cases hc
  | none hlen => exact ⟨h, by simp [Spec.apply, specOf, abs, (len_zero_iff h).1 hlen]⟩
  | len => exact ⟨h, by simp [Spec.apply, specOf, abs, h.len]⟩
  | close => exact ⟨⟨h.ok, h.len⟩, by simp [Spec.apply, specOf, abs]⟩
  | next k _ => cases hn
  | bad hb => cases (hs.blocking rfl).symm.trans hb

/-- the converse reading of `seg_sim` -/
theorem seg_returns (h : SInv s) (hs : IsSeg s t op first c o) {p : SpecState × String}
    (hp : Spec.apply (specOf s) op c = some p) : o.fin = .ret p.2 ∧ specOf o.st = p.1 := by
  have hn : op.isNext = false := by
    cases op with
    | next k => cases hp
    | _ => rfl
  have h2 := (seg_sim h hs hn).2
  cases hf : o.fin with
  | ret r => rw [hf, hp] at h2; cases h2; exact ⟨rfl, rfl⟩
  | park cnd => rw [hf, hp] at h2; cases h2.1

/-- what a segment of a queue operation proper does to the entry structure (also what QueuePtr refines);
    the tracker, `closed` and `waited` are not mentioned -/
inductive QEffect (s : St) (op : Op) (o : SegOut St) : Prop where
  | same (hq : o.st.q = s.q) (hlinks : o.st.links = s.links) (hvals : o.st.vals = s.vals)
      (hid : o.st.nextId = s.nextId) (hcur : o.st.cursors = s.cursors)
      (hnot : ∀ v, op = .add v ∨ op = .badd v → o.fin ≠ .ret "ok")
  | added (v : Int) (hop : op = .add v ∨ op = .badd v) (hfin : o.fin = .ret "ok")
      (hq : o.st.q = s.q ++ [(s.nextId, v)]) (hvals : o.st.vals = (s.nextId, v) :: s.vals)
      (hid : o.st.nextId = s.nextId + 1)
      (hlinks : o.st.links = if s.back = 0 then s.links else (s.back, s.nextId) :: s.links)
      (hcur : o.st.cursors = s.cursors)
  | popped (p : Nat × Int) (rest : List (Nat × Int)) (hop : op = .remove ∨ op = .wait ∨ op = .recv)
      (hs : s.q = p :: rest) (hq : o.st.q = rest) (hfin : o.fin = .ret (toString p.2))
      (hlinks : o.st.links = s.links) (hvals : o.st.vals = s.vals) (hid : o.st.nextId = s.nextId)
      (hcur : o.st.cursors = s.cursors)

theorem seg_effect (h : SInv s) (hs : IsSeg s t op first c o) (hn : op.isNext = false) : QEffect s op o := by
  have hseg := hs.seg h
  cases hseg with
  | add v hop hav hpre hd =>
    cases hd with
    | ok tr _ _ => exact .added v hop rfl rfl rfl rfl rfl rfl
    | _ => exact .same rfl rfl rfl rfl rfl (fun _ _ h => by simp at h)
  | pop e v rest hop hlen hpre hq => exact .popped (e, v) rest hop hq rfl rfl rfl rfl rfl rfl
  | blocked hop hc hav hpre hsp => exact .same rfl rfl rfl rfl rfl fun _ _ => blockedEnd_ne_ok s c _
  | len | close => exact .same rfl rfl rfl rfl rfl (fun _ hv => by rcases hv with hv | hv <;> cases hv)
  | next k _ => cases hn
  | none | bad hb => exact .same rfl rfl rfl rfl rfl (fun _ _ h => by simp at h)

theorem IsSeg.next_eq (h : IsSeg s t (.next k) first c o) :
    o = nextLoop s t k c := by
  rw [h.out]
  cases first with
  | false => rfl
  | true => cases h.live rfl; rfl

theorem IsSeg.next (h : IsSeg s t (.next k) first c o) : NextSeg s t k c o :=
  h.next_eq ▸ nextLoop_spec s t k c

theorem IsSeg.next_frame (h : IsSeg s t (.next k) first c o) :
    o.st.tracker = s.tracker ∧ o.st.closed = s.closed ∧ o.st.q = s.q ∧ o.st.links = s.links ∧ o.st.vals = s.vals ∧
      o.st.nextId = s.nextId :=
  h.next.frame

theorem IsSeg.next_specOf (h : IsSeg s t (.next k) first c o) :
    specOf o.st = specOf s := by
  obtain ⟨h1, h2, h3, -⟩ := h.next_frame
  simp [specOf, abs, h1, h2, h3]

theorem seg_sinv (h : SInv s) (hs : IsSeg s t op first c o) : SInv o.st := by
  cases hn : op.isNext with
  | true =>
    obtain ⟨k, rfl⟩ := Op.eq_next_of_isNext hn
    obtain ⟨h1, _, h3, -⟩ := hs.next_frame
    exact ⟨h1 ▸ h.ok, by rw [h1, h3]; exact h.len⟩
  | false => exact (seg_sim h hs hn).1

/-! Results are strings; the decimal rendering of an item is none of the keywords. -/

theorem int_toString_chars (v : Int) : ∀ ch ∈ (toString v).toList, ch.isDigit = true ∨ ch = '-' := by
  intro ch hch
  rw [Int.toString_eq_repr, Int.repr_eq_if] at hch
  split at hch
  · left
    rw [Nat.toList_repr] at hch
    exact Nat.isDigit_of_mem_toDigits (by decide) (by decide) hch
  · rw [String.toList_append] at hch
    simp only [List.mem_append] at hch
    rcases hch with h | h
    · right; simpa using h
    · left
      rw [Nat.toList_repr] at h
      exact Nat.isDigit_of_mem_toDigits (by decide) (by decide) h

theorem int_toString_ne (v : Int) (w : String) (ch : Char) (hch : ch ∈ w.toList) (hd : ch.isDigit = false)
    (hm : ch ≠ '-') : toString v ≠ w := by
  intro e
  rcases int_toString_chars v ch (e ▸ hch) with h | h
  · rw [h] at hd; cases hd
  · exact hm h

theorem int_ne_ctx (v : Int) : toString v ≠ "ctx" := int_toString_ne v _ 'c' (by decide) (by decide) (by decide)
theorem int_ne_closed (v : Int) : toString v ≠ "closed" := int_toString_ne v _ 'c' (by decide) (by decide) (by decide)
theorem int_ne_none (v : Int) : toString v ≠ "none" := int_toString_ne v _ 'n' (by decide) (by decide) (by decide)
theorem int_ne_eof (v : Int) : toString v ≠ "eof" := int_toString_ne v _ 'e' (by decide) (by decide) (by decide)
theorem int_ne_ok (v : Int) : toString v ≠ "ok" := int_toString_ne v _ 'o' (by decide) (by decide) (by decide)

/-- the queues `NewUnlimitedQueue()` and `NewQueue(opts)` with valid options produce -/
def InitQ (q0 : St) : Prop :=
  q0 = mkUnlimited ∨ ∃ hard soft burst, 1 ≤ hard ∧ soft ≤ hard ∧ q0 = mkSoft hard soft burst

theorem InitQ.sinv {q0 : St} (h : InitQ q0) : SInv q0 := by
  rcases h with rfl | ⟨hard, soft, burst, h1, h2, rfl⟩
  · exact ⟨trivial, rfl⟩
  · refine ⟨?_, rfl⟩
    simp only [mkSoft, Tracker.Ok]
    by_cases hs : (soft == 0) = true
    · simp [hs]; omega
    · have : soft ≠ 0 := by simpa using hs
      simp [hs]; omega

theorem InitQ.empty {q0 : St} (h : InitQ q0) :
    q0.q = [] ∧ q0.closed = false ∧ q0.links = [] ∧ q0.vals = [] ∧ q0.nextId = 1 ∧ q0.cursors = [] ∧ q0.waited = [] := by
  rcases h with rfl | ⟨hard, soft, burst, h1, h2, rfl⟩ <;> simp [mkUnlimited, mkSoft]

theorem mkSoft_hardLimit (hard soft : Nat) (burst : Float) : (mkSoft hard soft burst).tracker.hardLimit = some hard := rfl

theorem Spec.push_cases (s : SpecState) (v : Int) :
    ((Spec.push s v).2 = "ok" ∧ (Spec.push s v).1.items = s.items ++ [v] ∧ (Spec.push s v).1.closed = s.closed) ∨
    (((Spec.push s v).2 = "full" ∨ (Spec.push s v).2 = "nocredit") ∧ (Spec.push s v).1 = s) := by
  simp only [Spec.push]
  cases hadd : s.tracker.add with
  | mk tr r => cases r <;> simp

theorem Spec.add_cases {s : SpecState} {op : Op} {v : Int} {c : Bool} {p : SpecState × String}
    (hop : op = .add v ∨ op = .badd v) (h : Spec.apply s op c = some p) :
    (s.closed = true ∧ p = (s, "closed")) ∨
    (s.closed = false ∧ (op = .badd v → s.tracker.hasRoom = true) ∧ p = Spec.push s v) ∨
    (s.closed = false ∧ c = true ∧ p = (s, "ctx")) := by
  cases hcl : s.closed with
  | true =>
    have : Spec.apply s op c = some (s, "closed") := by rcases hop with rfl | rfl <;> simp [Spec.apply, hcl]
    exact .inl ⟨rfl, Option.some.inj (h.symm.trans this)⟩
  | false =>
    rcases hop with rfl | rfl
    · exact .inr (.inl ⟨rfl, nofun, Option.some.inj (h.symm.trans (by simp [Spec.apply, hcl]))⟩)
    · simp only [Spec.apply, hcl, Bool.false_eq_true, if_false] at h
      cases hr : s.tracker.hasRoom with
      | true => rw [hr, if_pos rfl] at h; exact .inr (.inl ⟨rfl, fun _ => rfl, (Option.some.inj h).symm⟩)
      | false =>
        rw [hr] at h
        cases c with
        | true => exact .inr (.inr ⟨rfl, rfl, (Option.some.inj h).symm⟩)
        | false => cases h

theorem Spec.apply_cases {Q : SpecState × String → Prop} {s : SpecState} {op : Op} {c : Bool} {p : SpecState × String}
    (h : Spec.apply s op c = some p) (closed : Q (s, "closed")) (push : ∀ v, Q (Spec.push s v))
    (ctx : c = true → Q (s, "ctx")) (none : Q (s, "none")) (pop : ∀ v rest, Q (Spec.pop s v rest))
    (len : Q (s, toString s.items.length)) (close : Q ({ s with closed := true }, "ok")) : Q p := by
  have key : ∀ {p'}, some p' = some p → Q p' → Q p := fun hp hq => by cases hp; exact hq
  have take : (match s.items with
      | v :: rest => some (Spec.pop s v rest)
      | [] => if s.closed then some (s, "closed") else if c then some (s, "ctx") else .none) = some p → Q p := by
    intro h
    split at h
    · exact key h (pop _ _)
    · split at h
      · exact key h closed
      · split at h
        · exact key h (ctx ‹_›)
        · cases h
  cases op with
  | add v =>
    rcases Spec.add_cases (.inl rfl) h with ⟨_, rfl⟩ | ⟨_, _, rfl⟩ | ⟨_, hc, rfl⟩
    · exact closed
    · exact push v
    · exact ctx hc
  | badd v =>
    rcases Spec.add_cases (.inr rfl) h with ⟨_, rfl⟩ | ⟨_, _, rfl⟩ | ⟨_, hc, rfl⟩
    · exact closed
    · exact push v
    · exact ctx hc
  | remove =>
    simp only [Spec.apply] at h
    split at h
    · exact key h none
    · exact key h (pop _ _)
  | wait => exact take h
  | recv => exact take h
  | len => exact key h len
  | close => exact key h close
  | next k => cases h

theorem Spec.apply_hardLimit {s s' : SpecState} {op : Op} {c : Bool} {r : String}
    (h : Spec.apply s op c = some (s', r)) : s'.tracker.hardLimit = s.tracker.hardLimit := by
  refine Spec.apply_cases (Q := fun x => x.1.tracker.hardLimit = s.tracker.hardLimit) h rfl (fun v => ?_) (fun _ => rfl) rfl
    (fun _ _ => Tracker.hardLimit_remove _) rfl rfl
  have := Tracker.hardLimit_add s.tracker
  simp only [Spec.push]
  cases hadd : s.tracker.add with
  | mk tr res => rw [hadd] at this; cases res <;> simp [this]

theorem Spec.apply_closed {s s' : SpecState} {op : Op} {c : Bool} {r : String}
    (h : Spec.apply s op c = some (s', r)) (hc : s.closed = true) : s'.closed = true := by
  refine Spec.apply_cases (Q := fun x => x.1.closed = true) h hc (fun v => ?_) (fun _ => hc) hc (fun _ _ => hc) hc rfl
  rcases Spec.push_cases s v with ⟨_, _, e⟩ | ⟨_, e⟩
  · rw [e]; exact hc
  · rw [e]; exact hc

theorem Spec.add_reading {s s' : SpecState} {op : Op} {v : Int} {c : Bool} {r : String}
    (hop : op = .add v ∨ op = .badd v) (h : Spec.apply s op c = some (s', r)) :
    (r = "ok" → s'.items = s.items ++ [v] ∧ s'.closed = false ∧ s.closed = false) ∧ (r ≠ "ok" → s' = s) := by
  rcases Spec.add_cases hop h with ⟨_, e⟩ | ⟨hcl, _, e⟩ | ⟨_, _, e⟩
  · cases e; exact ⟨fun h => absurd h (by decide), fun _ => rfl⟩
  · obtain ⟨rfl, rfl⟩ : s' = (Spec.push s v).1 ∧ r = (Spec.push s v).2 := ⟨congrArg Prod.fst e, congrArg Prod.snd e⟩
    rcases Spec.push_cases s v with ⟨p1, p2, p3⟩ | ⟨p1 | p1, p2⟩
    · exact ⟨fun _ => ⟨p2, p3.trans hcl, hcl⟩, fun hne => absurd p1 hne⟩
    · exact ⟨fun hok => absurd (p1.symm.trans hok) (by decide), fun _ => p2⟩
    · exact ⟨fun hok => absurd (p1.symm.trans hok) (by decide), fun _ => p2⟩
  · cases e; exact ⟨fun h => absurd h (by decide), fun _ => rfl⟩

theorem Spec.apply_take_cons {s : SpecState} {op : Op} {c : Bool} {v : Int} {rest : List Int}
    (hop : op = .remove ∨ op = .wait ∨ op = .recv) (hi : s.items = v :: rest) :
    Spec.apply s op c = some (Spec.pop s v rest) := by
  rcases hop with rfl | rfl | rfl <;> simp only [Spec.apply, hi]

theorem Spec.take_reading {s s' : SpecState} {op : Op} {c : Bool} {r : String}
    (hop : op = .remove ∨ op = .wait ∨ op = .recv) (h : Spec.apply s op c = some (s', r)) :
    (∀ v rest, s.items = v :: rest → r = toString v ∧ s'.items = rest ∧ s'.closed = s.closed ∧
        s'.tracker = s.tracker.remove) ∧
    (s.items = [] → s' = s ∧
      ((op = .remove ∧ r = "none") ∨ (op ≠ .remove ∧ s.closed = true ∧ r = "closed") ∨
       (op ≠ .remove ∧ s.closed = false ∧ c = true ∧ r = "ctx"))) := by
  cases hi : s.items with
  | cons v rest =>
    cases h.symm.trans (Spec.apply_take_cons hop hi)
    exact ⟨fun _ _ e => by cases e; exact ⟨rfl, rfl, rfl, rfl⟩, nofun⟩
  | nil =>
    refine ⟨nofun, fun _ => ?_⟩
    rcases hop with rfl | rfl | rfl
    · simp only [Spec.apply, hi] at h
      cases h; exact ⟨rfl, .inl ⟨rfl, rfl⟩⟩
    all_goals
      simp only [Spec.apply, hi] at h
      cases hcl : s.closed with
      | true => rw [hcl, if_pos rfl] at h; cases h; exact ⟨rfl, .inr (.inl ⟨nofun, rfl, rfl⟩)⟩
      | false =>
        rw [hcl, if_neg (by decide)] at h
        cases c with
        | true => cases h; exact ⟨rfl, .inr (.inr ⟨nofun, rfl, rfl, rfl⟩)⟩
        | false => cases h

theorem Spec.len_reading {s s' : SpecState} {c : Bool} {r : String} (h : Spec.apply s .len c = some (s', r)) :
    s' = s ∧ r = toString s.items.length := by
  simp only [Spec.apply, Option.some.injEq, Prod.mk.injEq] at h
  exact ⟨h.1.symm, h.2.symm⟩

theorem Spec.close_reading {s s' : SpecState} {c : Bool} {r : String} (h : Spec.apply s .close c = some (s', r)) :
    s'.items = s.items ∧ s'.tracker = s.tracker ∧ s'.closed = true ∧ r = "ok" := by
  simp only [Spec.apply, Option.some.injEq, Prod.mk.injEq] at h
  obtain ⟨h1, h2⟩ := h
  subst h1
  exact ⟨rfl, rfl, rfl, h2.symm⟩

theorem Spec.ctx_reading {s s' : SpecState} {op : Op} {c : Bool} (h : Spec.apply s op c = some (s', "ctx")) :
    s' = s ∧ c = true := by
  -- "ctx" is none of the other results
  refine Spec.apply_cases (Q := fun x => x.2 = "ctx" → x.1 = s ∧ c = true) h
    (fun (e : "closed" = "ctx") => absurd e (by decide)) (fun v e => ?_) (fun hc _ => ⟨rfl, hc⟩)
    (fun (e : "none" = "ctx") => absurd e (by decide)) (fun v _ e => absurd e (int_ne_ctx v))
    (fun e => absurd e (int_ne_ctx (s.items.length : Int)))
    (fun (e : "ok" = "ctx") => absurd e (by decide)) rfl
  rcases Spec.push_cases s v with ⟨e', _⟩ | ⟨e' | e', _⟩ <;> (rw [e'] at e; exact absurd e (by decide))

theorem Spec.replay_snoc (s : SpecState) (h : List (Op × Bool)) (op : Op) (c : Bool) :
    Spec.replay s (h ++ [(op, c)]) =
      match Spec.replay s h with
      | none => none
      | some (s', rs) =>
        match Spec.apply s' op c with
        | none => none
        | some (s'', r) => some (s'', rs ++ [r]) := by
  induction h generalizing s with
  | nil => simp only [List.nil_append, Spec.replay]; cases Spec.apply s op c <;> rfl
  | cons x rest ih =>
    simp only [List.cons_append, Spec.replay]
    cases Spec.apply s x.1 x.2 with
    | none => rfl
    | some p =>
      simp only [ih p.1]
      cases Spec.replay p.1 rest with
      | none => rfl
      | some q =>
        obtain ⟨s2, rs⟩ := q
        dsimp only
        cases Spec.apply s2 op c <;> rfl

theorem canPark_blocking {op : Op} (h : CanPark subject op) : op.blocking = true := by
  obtain ⟨s, t, first, c, cnd, h⟩ := h
  cases hb : op.blocking with
  | true => rfl
  | false =>
    cases first with
    | false =>
      simp only [segOut, subject, Bool.false_eq_true, if_false] at h
      rw [resume_nonblocking s t c hb] at h; cases h
    | true =>
      cases op with
      | remove => simp only [segOut, subject, start, if_true] at h; split at h <;> cases h
      | add v => cases h
      | len => cases h
      | close => cases h
      | _ => cases hb

theorem run_induction {q0 : St} (h0 : InitQ q0) {programs : List (List Op)} (I : List (Ev St Op) → St → Prop)
    (init : I [] q0)
    (seg : ∀ {log s t op first c o} pc, SInv s → I log s → IsSeg s t op first c o →
      I (log ++ [.seg t pc op first c s o]) o.st)
    (env : ∀ {log s} a, I log s → I (log ++ [.env a]) s)
    {log : List (Ev St Op)} {s : Sys St Op} (h : Reach' subject (initSys q0 programs) log s) :
    SInv s.subj ∧ I log s.subj := by
  refine Reach'.induction (fun log s => SInv s ∧ I log s) ⟨h0.sinv, init⟩ ?_ ?_ h
  · intro log s t pc op first c hI hc hb
    have hseg : IsSeg s t op first c (segOut subject s t op first c) := ⟨rfl, hc, fun hf => canPark_blocking (hb hf)⟩
    exact ⟨seg_sinv hI.1 hseg, seg pc hI.1 hI.2 hseg⟩
  · intro log s a hI
    exact ⟨hI.1, env a hI.2⟩

def EvOK : Ev St Op → Prop
  | .seg t _ op first c pre out => SInv pre ∧ IsSeg pre t op first c out
  | .env _ => True

theorem run_segments {q0 : St} (h0 : InitQ q0) {programs : List (List Op)} {log : List (Ev St Op)} {s : Sys St Op}
    (h : Reach' subject (initSys q0 programs) log s) : SInv s.subj ∧ ∀ ev ∈ log, EvOK ev := by
  refine run_induction h0 (fun log _ => ∀ ev ∈ log, EvOK ev) (by simp) ?_ ?_ h
  · intro log s t pc op first c o hS hI hseg
    exact List.forall_mem_append.2 ⟨hI, List.forall_mem_singleton.2 ⟨hS, hseg⟩⟩
  · intro log s a hI
    exact List.forall_mem_append.2 ⟨hI, List.forall_mem_singleton.2 trivial⟩

/-- the linearization record of an event: only a returning segment of a queue operation has one -/
def linOf : Ev St Op → Option ((Op × Bool) × String)
  | .seg _ _ op _ c _ o =>
    if op.isNext then none
    else match o.fin with
      | .ret r => some ((op, c), r)
      | .park _ => none
  | .env _ => none

def history (log : List (Ev St Op)) : List (Op × Bool) := (log.filterMap linOf).map (·.1)
def results (log : List (Ev St Op)) : List String := (log.filterMap linOf).map (·.2)

/-- `seg_sim` and `IsSeg.next_specOf` by what the event contributes to the history: the hypothesis of
    `LinInv.snoc` -/
theorem seg_spec (h : SInv s) (pc : Nat) (hs : IsSeg s t op first c o) :
    match linOf (.seg t pc op first c s o) with
    | some (oc, r) => Spec.apply (specOf s) oc.1 oc.2 = some (specOf o.st, r)
    | none => specOf o.st = specOf s := by
  simp only [linOf]
  cases hn : op.isNext with
  | true => obtain ⟨k, rfl⟩ := Op.eq_next_of_isNext hn; exact hs.next_specOf
  | false =>
    have h2 := (seg_sim h hs hn).2
    cases hf : o.fin with
    | ret r => rw [hf] at h2; exact h2
    | park cnd => rw [hf] at h2; exact h2.2

/-- the returned operations, replayed in the order of their returning segments, give the results the run
    gave and the abstract state of `s` (C05 `linearizable`); `hard`: the configured hard limit never changes -/
structure LinInv (q0 : St) (log : List (Ev St Op)) (s : St) : Prop where
  hard : s.tracker.hardLimit = q0.tracker.hardLimit
  lin : Spec.replay (specOf q0) (history log) = some (specOf s, results log)

theorem LinInv.snoc {q0 : St} {log : List (Ev St Op)} {s s' : St} (hI : LinInv q0 log s) (ev : Ev St Op)
    (h : match linOf ev with
      | some (oc, r) => Spec.apply (specOf s) oc.1 oc.2 = some (specOf s', r)
      | none => specOf s' = specOf s) : LinInv q0 (log ++ [ev]) s' := by
  have hl := hI.lin
  cases hev : linOf ev with
  | none =>
    rw [hev] at h
    refine ⟨(congrArg (·.tracker.hardLimit) h).trans hI.hard, ?_⟩
    simp only [history, results, List.filterMap_snoc, hev, Option.toList_none, List.append_nil, h] at hl ⊢
    exact hl
  | some p =>
    rw [hev] at h
    refine ⟨(Spec.apply_hardLimit h).trans hI.hard, ?_⟩
    simp only [history, results, List.filterMap_snoc, hev, Option.toList_some, List.map_append, List.map_cons,
      List.map_nil] at hl ⊢
    rw [Spec.replay_snoc, hl]
    simp only [h]

theorem LinInv.run {q0 : St} (h0 : InitQ q0) {programs : List (List Op)} {log : List (Ev St Op)} {s : Sys St Op}
    (h : Reach' subject (initSys q0 programs) log s) : SInv s.subj ∧ LinInv q0 log s.subj :=
  run_induction h0 (LinInv q0) ⟨rfl, rfl⟩ (fun pc hS hI hseg => hI.snoc _ (seg_spec hS pc hseg))
    (fun a hI => hI.snoc (.env a) rfl) h

end FunModel.Queue
