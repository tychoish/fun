import FunModel.Deque

/-! Sequential theory of the `pubsub.Deque` model: tracker arithmetic, the invariant `Inv`, the sequential
    specification `Spec` and the refinement of every atomic segment to it. Every segment, first or resumed,
    is one waiting loop (`loopSeg`) around the operation's `work` (`seg`, `startR_eq`, `resumeR_eq`) and
    applies at most one primitive (`Eff`), so a property of all reachable states is a property of `addEnd`,
    `popEnd`, `Close` and a cursor move (`Eff.inv`). Last: `Validate` / `NewDeque` (`validate_eq_some`, `newDeque_ok`). -/

namespace FunModel.Deque
open FunModel.Conc

namespace Tracker

/-- what `NewDeque` establishes (`newDeque_cases`) and `add` / `remove` keep: the length is within
    `cap()`. For the soft tracker `cap()` is the quota, not the hard limit: `add` raises the quota with
    the length when it spends burst credit, `remove` lowers it only while less than half of it is in use. -/
def WF : Tracker → Prop
  | .noLimit _ => True
  | .hard c l => 1 ≤ c ∧ l ≤ c
  | .soft sq hl l _ => 1 ≤ sq ∧ sq ≤ hl ∧ l ≤ sq

theorem add_hard (c l : Nat) : add (.hard c l) = if l ≥ c then (.hard c l, .full) else (.hard c (l + 1), .ok) := rfl

theorem add_soft (sq hl l : Nat) (cr : Float) : add (.soft sq hl l cr) =
    if l ≥ sq then
      if l == hl then (.soft sq hl l cr, .full)
      else if cr < 1 then (.soft sq hl l cr, .noCredit)
      else (.soft (l + 1) hl (l + 1) (cr - 1), .ok)
    else (.soft sq hl (l + 1) cr, .ok) := rfl

theorem add_cases (tr : Tracker) :
    (tr.add.2 ≠ .ok ∧ tr.add.1 = tr) ∨ (tr.add.2 = .ok ∧ tr.add.1.len = tr.len + 1 ∧ (tr.WF → tr.add.1.WF)) := by
  cases tr with
  | noLimit l => exact .inr ⟨rfl, rfl, fun _ => trivial⟩
  | hard c l =>
    rw [add_hard]
    by_cases h1 : l ≥ c
    · rw [if_pos h1]; exact .inl ⟨nofun, rfl⟩
    · rw [if_neg h1]; exact .inr ⟨rfl, rfl, fun h => ⟨h.1, Nat.lt_of_not_le h1⟩⟩
  | soft sq hl l cr =>
    rw [add_soft]
    by_cases h1 : l ≥ sq
    · rw [if_pos h1]
      by_cases h2 : (l == hl) = true
      · rw [if_pos h2]; exact .inl ⟨nofun, rfl⟩
      · rw [if_neg h2]
        by_cases h3 : cr < 1
        · rw [if_pos h3]; exact .inl ⟨nofun, rfl⟩
        · rw [if_neg h3]
          refine .inr ⟨rfl, rfl, fun h => ?_⟩
          have hne : l ≠ hl := fun e => h2 (beq_iff_eq.2 e)
          have h : 1 ≤ sq ∧ sq ≤ hl ∧ l ≤ sq := h
          exact ⟨Nat.succ_le_succ (Nat.zero_le l), by omega, Nat.le_refl _⟩
    · rw [if_neg h1]
      exact .inr ⟨rfl, rfl, fun h => ⟨h.1, h.2.1, Nat.lt_of_not_le h1⟩⟩

theorem add_fail_eq (tr : Tracker) (h : tr.add.2 ≠ .ok) : tr.add.1 = tr :=
  (add_cases tr).elim (·.2) (fun h' => absurd h'.1 h)

theorem add_ok_len (tr : Tracker) (h : tr.add.2 = .ok) : tr.add.1.len = tr.len + 1 :=
  (add_cases tr).elim (fun h' => absurd h h'.1) (·.2.1)

theorem add_wf (tr : Tracker) (h : tr.WF) : tr.add.1.WF := by
  rcases add_cases tr with ⟨_, he⟩ | ⟨_, _, hw⟩
  · rw [he]; exact h
  · exact hw h

theorem remove_soft (sq hl l : Nat) (cr : Float) :
    ∃ sq' cr', remove (.soft sq hl l cr) = .soft sq' hl (l - 1) cr' ∧
      (sq' = sq ∨ (sq' = sq - 1 ∧ 1 < sq ∧ l - 1 < sq / 2)) := by
  by_cases h1 : l - 1 < sq
  · refine ⟨if (decide (sq > 1) && decide (l - 1 < sq / 2)) = true then sq - 1 else sq, _, if_pos h1, ?_⟩
    by_cases h2 : (decide (sq > 1) && decide (l - 1 < sq / 2)) = true
    · rw [if_pos h2]
      simp only [Bool.and_eq_true, decide_eq_true_eq] at h2
      exact .inr ⟨rfl, h2⟩
    · rw [if_neg h2]; exact .inl rfl
  · exact ⟨sq, cr, if_neg h1, .inl rfl⟩

theorem remove_len (tr : Tracker) : tr.remove.len = tr.len - 1 := by
  cases tr with
  | noLimit l | hard c l => rfl
  | soft sq hl l cr => obtain ⟨sq', cr', h, _⟩ := remove_soft sq hl l cr; rw [h]; rfl

theorem remove_wf (tr : Tracker) (h : tr.WF) : tr.remove.WF := by
  cases tr with
  | noLimit l => trivial
  | hard c l => exact ⟨h.1, Nat.le_trans (Nat.sub_le _ _) h.2⟩
  | soft sq hl l cr =>
    have h : 1 ≤ sq ∧ sq ≤ hl ∧ l ≤ sq := h
    obtain ⟨sq', cr', he, hs⟩ := remove_soft sq hl l cr
    rw [he]
    show 1 ≤ sq' ∧ sq' ≤ hl ∧ l - 1 ≤ sq'
    -- the quota is lowered only if `l - 1 < sq / 2`, so it still covers the length
    omega

theorem len_le_limit (tr : Tracker) (h : tr.WF) (n : Nat) (hn : tr.limit = some n) : tr.len ≤ n := by
  cases tr with
  | noLimit l => simp [limit] at hn
  | hard c l => simp only [limit, Option.some.injEq] at hn; subst hn; exact h.2
  | soft sq hl l cr => simp only [limit, Option.some.injEq] at hn; subst hn; simp only [WF, len] at h ⊢; omega

theorem len_le_cap (tr : Tracker) (h : tr.WF) (n : Nat) (hn : tr.cap = some n) : tr.len ≤ n := by
  cases tr with
  | noLimit l => simp [cap] at hn
  | hard c l => simp only [cap, Option.some.injEq] at hn; subst hn; exact h.2
  | soft sq hl l cr => simp only [cap, Option.some.injEq] at hn; subst hn; simp only [WF, len] at h ⊢; omega

theorem add_of_room (tr : Tracker) (h : tr.hasRoom = true) : tr.add.2 = .ok := by
  cases tr with
  | noLimit l => rfl
  | hard c l =>
    have h1 : ¬ l ≥ c := by simpa [hasRoom, cap, len] using h
    rw [add_hard, if_neg h1]
  | soft sq hl l cr =>
    have h1 : ¬ l ≥ sq := by simpa [hasRoom, cap, len] using h
    rw [add_soft, if_neg h1]

/-- a soft tracker below its hard limit can accept with burst credit; it then raises its quota to the
    new length, so there is still no room -/
theorem add_no_room (tr : Tracker) (h : tr.hasRoom = false) : tr.add.1.hasRoom = false := by
  cases tr with
  | noLimit l => cases h
  | hard c l =>
    have h1 : l ≥ c := by simpa [hasRoom, cap, len] using h
    rw [add_hard, if_pos h1]
    exact h
  | soft sq hl l cr =>
    have h1 : l ≥ sq := by simpa [hasRoom, cap, len] using h
    rw [add_soft, if_pos h1]
    split
    · exact h
    · split
      · exact h
      · simp [hasRoom, cap, len]

theorem full_at_limit (tr : Tracker) (h : tr.WF) (hl : tr.limit = some tr.len) : tr.add.2 = .full := by
  cases tr with
  | noLimit l => cases hl
  | hard c l =>
    have e : c = l := Option.some.inj hl
    rw [add_hard, if_pos (Nat.le_of_eq e)]
  | soft sq hl' l cr =>
    have e : hl' = l := Option.some.inj hl
    have h : 1 ≤ sq ∧ sq ≤ hl' ∧ l ≤ sq := h
    rw [add_soft, if_pos (Nat.le_trans h.2.1 (Nat.le_of_eq e)), if_pos (beq_iff_eq.2 e.symm)]

theorem full_only_at_limit (tr : Tracker) (h : tr.add.2 = .full) : tr.limit = some tr.len ∨ (∃ c, tr.limit = some c ∧ c ≤ tr.len) := by
  cases tr with
  | noLimit l => cases h
  | hard c l =>
    rw [add_hard] at h
    by_cases hc : l ≥ c
    · exact .inr ⟨c, rfl, hc⟩
    · rw [if_neg hc] at h; cases h
  | soft sq hl l cr =>
    rw [add_soft] at h
    by_cases h1 : l ≥ sq
    · rw [if_pos h1] at h
      by_cases h2 : (l == hl) = true
      · exact .inl (congrArg some (beq_iff_eq.1 h2).symm)
      · rw [if_neg h2] at h
        by_cases h3 : cr < 1
        · rw [if_pos h3] at h; cases h
        · rw [if_neg h3] at h; cases h
    · rw [if_neg h1] at h; cases h

/-- the room a Force push makes is exactly the room it uses -/
theorem atCap_remove_add (tr : Tracker) (h : tr.WF) (hc : tr.atCap = true) :
    tr.remove.add.2 = .ok ∧ tr.remove.add.1.len = tr.len := by
  cases tr with
  | noLimit l => cases hc
  | hard c l =>
    have hc : c = l := beq_iff_eq.1 hc
    subst hc
    have h1 : ¬ c - 1 ≥ c := Nat.not_le.2 (Nat.sub_lt h.1 Nat.one_pos)
    show (add (.hard c (c - 1))).2 = .ok ∧ (add (.hard c (c - 1))).1.len = c
    rw [add_hard, if_neg h1]
    exact ⟨rfl, Nat.sub_add_cancel h.1⟩
  | soft sq hl l cr =>
    have hc : sq = l := beq_iff_eq.1 hc
    subst hc
    have h : 1 ≤ sq ∧ sq ≤ hl ∧ sq ≤ sq := h
    obtain ⟨sq', cr', he, hs⟩ := remove_soft sq hl sq cr
    -- at the quota nothing is unused, so the quota stays
    have hsq : sq' = sq := by omega
    subst hsq
    have h1 : ¬ sq' - 1 ≥ sq' := Nat.not_le.2 (Nat.sub_lt h.1 Nat.one_pos)
    rw [he, add_soft, if_neg h1]
    exact ⟨rfl, Nat.sub_add_cancel h.1⟩

theorem atCap_pos (tr : Tracker) (h : tr.WF) (hc : tr.atCap = true) : 0 < tr.len := by
  cases tr with
  | noLimit l => cases hc
  | hard c l => exact beq_iff_eq.1 hc ▸ h.1
  | soft sq hl l cr => exact beq_iff_eq.1 hc ▸ h.1

theorem not_atCap_noLimit (l : Nat) : (Tracker.noLimit l).atCap = false := rfl

end Tracker

def abs (s : St) : List Int := s.q.map (·.2)

/-- the representation invariant of C06: the tracker counts the linked elements (so `Len`, which
    reads the tracker, is the number of items) and is within its bounds -/
structure Inv (s : St) : Prop where
  len : s.tracker.len = s.q.length
  wf : s.tracker.WF

theorem abs_length (s : St) : (abs s).length = s.q.length := by simp [abs]

/-- the sequential bounded deque; its capacity rule is the tracker itself (which of
    `ok / full / nocredit` a push gets, what `cap()` and `len()` are) -/
structure Spec where
  items : List Int
  closed : Bool
  tr : Tracker

def absS (s : St) : Spec := ⟨abs s, s.closed, s.tracker⟩

namespace Spec

def push (sp : Spec) (e : End) (v : Int) : Spec × Res :=
  if sp.closed then (sp, .closed)
  else match sp.tr.add with
    | (_, .full) => (sp, .full)
    | (_, .noCredit) => (sp, .nocredit)
    | (tr, .ok) =>
      ({ sp with tr := tr, items := match e with | .front => v :: sp.items | .back => sp.items ++ [v] }, .ok)

def take (sp : Spec) (e : End) : Spec × Option Int :=
  if sp.closed then (sp, none)
  else match e with
    | .front =>
      match sp.items with
      | [] => (sp, none)
      | v :: rest => ({ sp with items := rest, tr := sp.tr.remove }, some v)
    | .back =>
      match sp.items.getLast? with
      | none => (sp, none)
      | some v => ({ sp with items := sp.items.dropLast, tr := sp.tr.remove }, some v)

def fpush (sp : Spec) (e : End) (v : Int) : Spec × Res :=
  if sp.tr.atCap then (sp.take e.opp).1.push e v else sp.push e v

/-- `dflt`: what a pop answers when `take` refused (`none` for `PopFront`/`PopBack`, `closed` for
    `WaitFront`/`WaitBack`) -/
def popRes : Spec × Option Int → Res → Spec × Res
  | (sp, some v), _ => (sp, .val v)
  | (sp, none), dflt => (sp, dflt)

/-- one operation of the sequential deque; `none` = the operation blocks (sequentially: for ever).
    The iterator calls are not operations of the deque (they never change it: `Eff.absS_iter`, C20
    `iter_nondestructive`). -/
def run (sp : Spec) (cancelled : Bool) : Op → Option (Spec × Res)
  | .push e v => some (sp.push e v)
  | .fpush e v => some (sp.fpush e v)
  | .pop e => some (popRes (sp.take e) .none)
  | .wait e =>
    if sp.closed then some (sp, .closed)
    else if sp.items.isEmpty then (if cancelled then some (sp, .ctx) else none)
    else some (popRes (sp.take e) .closed)
  | .wpush e v =>
    if sp.tr.hasRoom then some (sp.push e v)
    else if sp.closed then some (sp, .closed)
    else if cancelled then some (sp, .ctx)
    else none
  | .len => some (sp, .num sp.items.length)
  | .close => some ({ sp with closed := true }, .ok)
  | .next _ _ _ => none

end Spec

def addQ (d : End) (p : Nat × Int) (q : List (Nat × Int)) : List (Nat × Int) :=
  match d with | .front => p :: q | .back => q ++ [p]

theorem mem_addQ {d : End} {p q : Nat × Int} {l : List (Nat × Int)} : q ∈ addQ d p l ↔ q = p ∨ q ∈ l := by
  cases d
  · exact List.mem_cons
  · simp only [addQ, List.mem_append, List.mem_singleton]; exact Or.comm

theorem addQ_perm (d : End) (p : Nat × Int) (l : List (Nat × Int)) : (addQ d p l).Perm (p :: l) := by
  cases d
  · exact .refl _
  · exact List.perm_append_singleton _ _

theorem addQ_sublist (d : End) (p : Nat × Int) (l : List (Nat × Int)) : l.Sublist (addQ d p l) := by
  cases d
  · exact List.sublist_cons_self _ _
  · exact List.sublist_append_left _ _

theorem addQ_length (d : End) (p : Nat × Int) (l : List (Nat × Int)) : (addQ d p l).length = l.length + 1 :=
  (addQ_perm d p l).length_eq

theorem addQ_ne_nil (d : End) (p : Nat × Int) (l : List (Nat × Int)) : addQ d p l ≠ [] := fun h => by
  have := addQ_length d p l
  rw [h] at this; cases this

theorem eq_nil_or_addQ (d : End) (l : List (Nat × Int)) : l = [] ∨ ∃ p rest, l = addQ d p rest := by
  cases d with
  | front => cases l with
    | nil => exact .inl rfl
    | cons p rest => exact .inr ⟨p, rest, rfl⟩
  | back => exact (List.eq_nil_or_concat l).imp id (fun ⟨rest, p, h⟩ => ⟨p, rest, h.trans (List.concat_eq_append ..)⟩)

/-- the signals of a successful `addAfter` -/
def addSigs (d : End) (wasEmpty : Bool) : List Sig :=
  match d with
  | .front => [Sig.signal 0] ++ (if wasEmpty then [Sig.signal 1] else []) ++ [Sig.signal 2]
  | .back => (if wasEmpty then [Sig.signal 0] else []) ++ [Sig.signal 1, Sig.signal 2]

/-- the state an `addEnd x d v` that answers `ok` leaves (`addEnd_ok_eq`) -/
def pushed (x : St) (d : End) (v : Int) : St :=
  { x with tracker := x.tracker.add.1, q := addQ d (x.nextId, v) x.q, vals := (x.nextId, v) :: x.vals, nextId := x.nextId + 1 }

theorem addEnd_closed (s : St) (d : End) (v : Int) (hc : s.closed = true) : addEnd s d v = (s, .closed, []) := by
  simp only [addEnd, hc, ite_true]

theorem addEnd_open {x : St} (hc : x.closed = false) (d : End) (v : Int) :
    addEnd x d v = match x.tracker.add.2 with
      | .full => (x, .full, [.broadcast 2])
      | .noCredit => (x, .nocredit, [.broadcast 2])
      | .ok => (pushed x d v, .ok, addSigs d x.q.isEmpty) := by
  unfold addEnd pushed
  simp only [hc, Bool.false_eq_true, ite_false]
  rcases x.tracker.add with ⟨tr, r⟩
  cases r <;> cases d <;> rfl

theorem addEnd_ok_eq {x : St} {d : End} {v : Int} (h : (addEnd x d v).2.1 = .ok) :
    x.closed = false ∧ (addEnd x d v).1 = pushed x d v ∧ (addEnd x d v).2.2 = addSigs d x.q.isEmpty ∧
      x.tracker.add.2 = .ok := by
  cases hc : x.closed with
  | true => rw [addEnd_closed x d v hc] at h; cases h
  | false =>
    rw [addEnd_open hc] at h ⊢
    cases hr : x.tracker.add.2 with
    | ok => exact ⟨rfl, rfl, rfl, rfl⟩
    | full | noCredit => rw [hr] at h; cases h

theorem addEnd_fail_eq (s : St) (d : End) (v : Int) (h : (addEnd s d v).2.1 ≠ .ok) : (addEnd s d v).1 = s := by
  cases hc : s.closed with
  | true => rw [addEnd_closed s d v hc]
  | false =>
    rw [addEnd_open hc] at h ⊢
    cases hr : s.tracker.add.2 with
    | ok => rw [hr] at h; exact absurd rfl h
    | full | noCredit => rfl

theorem addEnd_ne_ctx (s : St) (d : End) (v : Int) : FinR.ret (addEnd s d v).2.1 ≠ .ret .ctx := by
  cases hc : s.closed with
  | true => rw [addEnd_closed s d v hc]; nofun
  | false => rw [addEnd_open hc]; cases s.tracker.add.2 <;> nofun

theorem addEnd_inv (s : St) (d : End) (v : Int) (h : Inv s) : Inv (addEnd s d v).1 := by
  by_cases hok : (addEnd s d v).2.1 = .ok
  · obtain ⟨_, heq, _, hadd⟩ := addEnd_ok_eq hok
    rw [heq]
    exact ⟨(Tracker.add_ok_len _ hadd).trans (by rw [h.len]; exact (addQ_length d _ _).symm), Tracker.add_wf _ h.wf⟩
  · rw [addEnd_fail_eq s d v hok]; exact h

/-- the `next` and `prev` an element removed at end `d` keeps, `r` being the elements that remain -/
def keptLinks (d : End) (r : List Nat) : Nat × Nat :=
  match d with | .front => (r.headD 0, 0) | .back => (0, (r.getLast?).getD 0)

/-- the state a `popEnd x d` that removes element `e` and leaves `rest` linked ends in (`popEnd_addQ`) -/
def popped (x : St) (d : End) (e : Nat) (rest : List (Nat × Int)) : St :=
  { x with q := rest, tracker := x.tracker.remove, stale := (e, keptLinks d (rest.map (·.1))) :: x.stale }

/-- the signals of a successful `pop` -/
def popSigs (d : End) (nowEmpty : Bool) : List Sig :=
  match d with
  | .front => [Sig.broadcast 2] ++ (if nowEmpty then [Sig.signal 1] else []) ++ [Sig.signal 0]
  | .back => [Sig.broadcast 2, Sig.signal 1] ++ (if nowEmpty then [Sig.signal 0] else [])

theorem popEnd_closed (s : St) (d : End) (hc : s.closed = true) : popEnd s d = (s, none, []) := by
  simp only [popEnd, hc, ite_true]

theorem popEnd_nil (x : St) (d : End) (hq : x.q = []) : popEnd x d = (x, none, []) := by
  unfold popEnd
  split
  · rfl
  · cases d <;> simp only [hq] <;> rfl

theorem popEnd_addQ {x : St} {d : End} {e : Nat} {v : Int} {rest : List (Nat × Int)} (hc : x.closed = false)
    (hq : x.q = addQ d (e, v) rest) : popEnd x d = (popped x d e rest, some v, popSigs d rest.isEmpty) := by
  unfold popEnd
  rw [if_neg (Bool.eq_false_iff.1 hc)]
  cases d with
  | front => simp only [hq, addQ]; rfl
  | back =>
    have h1 : x.q.getLast? = some (e, v) := by rw [hq]; exact List.getLast?_concat
    have h2 : x.q.dropLast = rest := by rw [hq]; exact List.dropLast_concat
    simp only [h1, h2]; rfl

theorem popEnd_cases (x : St) (d : End) :
    ((x.closed = true ∨ x.q = []) ∧ popEnd x d = (x, none, [])) ∨
    (x.closed = false ∧ ∃ e v rest, x.q = addQ d (e, v) rest ∧
      popEnd x d = (popped x d e rest, some v, popSigs d rest.isEmpty)) := by
  cases hc : x.closed with
  | true => exact .inl ⟨.inl rfl, popEnd_closed x d hc⟩
  | false =>
    rcases eq_nil_or_addQ d x.q with hq | ⟨⟨e, v⟩, rest, hq⟩
    · exact .inl ⟨.inr hq, popEnd_nil x d hq⟩
    · exact .inr ⟨rfl, e, v, rest, hq, popEnd_addQ hc hq⟩

theorem popEnd_some {x : St} {d : End} {v : Int} (h : (popEnd x d).2.1 = some v) :
    x.closed = false ∧ ∃ e rest, x.q = addQ d (e, v) rest ∧
      popEnd x d = (popped x d e rest, some v, popSigs d rest.isEmpty) := by
  rcases popEnd_cases x d with ⟨_, heq⟩ | ⟨hc, e, w, rest, hq, heq⟩
  · rw [heq] at h; cases h
  · rw [heq] at h; cases h; exact ⟨hc, e, rest, hq, heq⟩

theorem popEnd_none_eq (s : St) (d : End) (h : (popEnd s d).2.1 = none) : (popEnd s d).1 = s := by
  rcases popEnd_cases s d with ⟨_, heq⟩ | ⟨_, e, w, rest, _, heq⟩
  · rw [heq]
  · rw [heq] at h; cases h

theorem popEnd_inv (s : St) (d : End) (h : Inv s) : Inv (popEnd s d).1 := by
  rcases popEnd_cases s d with ⟨_, heq⟩ | ⟨_, e, w, rest, hq, heq⟩
  · rw [heq]; exact h
  · rw [heq]
    refine ⟨?_, Tracker.remove_wf _ h.wf⟩
    show s.tracker.remove.len = rest.length
    rw [Tracker.remove_len, h.len, hq, addQ_length]; rfl

theorem addEnd_spec (s : St) (d : End) (v : Int) :
    absS (addEnd s d v).1 = ((absS s).push d v).1 ∧ (addEnd s d v).2.1 = ((absS s).push d v).2 := by
  unfold Spec.push
  cases hc : s.closed with
  | true => rw [addEnd_closed s d v hc]; simp only [absS, hc, ite_true, and_self]
  | false =>
    rw [addEnd_open hc]
    simp only [absS, hc, Bool.false_eq_true, ite_false]
    rcases hadd : s.tracker.add with ⟨tr, r⟩
    cases r with
    | full | noCredit => simp [hc]
    | ok => cases d <;> simp [pushed, abs, addQ, hadd, hc]

theorem popEnd_spec (s : St) (d : End) :
    absS (popEnd s d).1 = ((absS s).take d).1 ∧ (popEnd s d).2.1 = ((absS s).take d).2 := by
  unfold Spec.take
  rcases popEnd_cases s d with ⟨hcl | hq, heq⟩ | ⟨hc, e, w, rest, hq, heq⟩
  · rw [heq]; simp only [absS, hcl, ite_true, and_self]
  · rw [heq]; cases d <;> simp [absS, abs, hq]
  · rw [heq]
    cases d <;> simp [absS, abs, hq, hc, popped, addQ]

theorem forcePush_spec (s : St) (d : End) (v : Int) :
    absS (forcePush s d v).1 = ((absS s).fpush d v).1 ∧ (forcePush s d v).2.1 = ((absS s).fpush d v).2 := by
  unfold forcePush Spec.fpush
  have ht : (absS s).tr = s.tracker := rfl
  rw [ht]
  by_cases hc : s.tracker.atCap = true
  · simp only [hc, ite_true]
    have hp := popEnd_spec s d.opp
    have ha := addEnd_spec (popEnd s d.opp).1 d v
    rw [hp.1] at ha
    exact ha
  · simp only [hc, Bool.false_eq_true, ite_false]
    exact addEnd_spec s d v

theorem inv_len_le (s : St) (h : Inv s) : s.tracker.len = (abs s).length ∧ ∀ n, s.tracker.limit = some n → (abs s).length ≤ n := by
  refine ⟨by rw [abs_length]; exact h.len, ?_⟩
  intro n hn
  rw [abs_length, ← h.len]
  exact Tracker.len_le_limit _ h.wf n hn

theorem push_full (s : St) (h : Inv s) (hc : s.closed = false) (hl : s.tracker.limit = some s.q.length) (d : End) (v : Int) :
    addEnd s d v = (s, .full, [.broadcast 2]) := by
  rw [addEnd_open hc, Tracker.full_at_limit s.tracker h.wf (by rw [h.len]; exact hl)]

theorem addEnd_room_ok (s : St) (hc : s.closed = false) (hr : s.tracker.hasRoom = true) (d : End) (v : Int) :
    (addEnd s d v).2.1 = .ok ∧ abs (addEnd s d v).1 = (match d with | .front => v :: abs s | .back => abs s ++ [v]) := by
  rw [addEnd_open hc, Tracker.add_of_room s.tracker hr]
  exact ⟨rfl, by cases d <;> simp [pushed, abs, addQ]⟩

theorem atCap_nonempty (s : St) (h : Inv s) (hcap : s.tracker.atCap = true) : s.q ≠ [] := by
  intro hq
  have := Tracker.atCap_pos s.tracker h.wf hcap
  rw [h.len, hq] at this
  cases this

theorem forcePush_full (s : St) (h : Inv s) (hc : s.closed = false) (hcap : s.tracker.atCap = true) (d : End) (v : Int) :
    (forcePush s d v).2.1 = .ok ∧
    abs (forcePush s d v).1 = (match d with | .front => v :: (abs s).dropLast | .back => (abs s).tail ++ [v]) ∧
    (abs (forcePush s d v).1).length = (abs s).length ∧ abs s ≠ [] := by
  have hne := atCap_nonempty s h hcap
  -- the eviction succeeds because the deque is open and not empty, the push because it made room
  rcases popEnd_cases s d.opp with ⟨hcl | hq, _⟩ | ⟨_, e, w, rest, hq, hpop⟩
  · rw [hc] at hcl; cases hcl
  · exact absurd hq hne
  · have hadd : addEnd (popped s d.opp e rest) d v = (pushed (popped s d.opp e rest) d v, .ok, addSigs d rest.isEmpty) := by
      rw [addEnd_open (x := popped s d.opp e rest) hc]
      show (match s.tracker.remove.add.2 with | .full => _ | .noCredit => _ | .ok => _) = _
      rw [(Tracker.atCap_remove_add s.tracker h.wf hcap).1]
      rfl
    have hf : forcePush s d v = (pushed (popped s d.opp e rest) d v, .ok, popSigs d.opp rest.isEmpty ++ addSigs d rest.isEmpty) := by
      simp only [forcePush, hcap, ite_true, hpop, hadd]
    rw [hf]
    have hne' : abs s ≠ [] := fun h0 => hne (List.map_eq_nil_iff.1 h0)
    refine ⟨rfl, ?_, ?_, hne'⟩ <;> cases d <;> simp [pushed, popped, abs, hq, addQ, End.opp]

theorem forcePush_notfull (s : St) (hcap : s.tracker.atCap = false) (d : End) (v : Int) :
    forcePush s d v = addEnd s d v := by
  simp [forcePush, hcap]

def Op.isIter : Op → Bool
  | .next _ _ _ => true
  | _ => false

def Op.blocking : Op → Bool
  | .wait _ => true
  | .wpush _ _ => true
  | .next _ b _ => b
  | _ => false

/-- segment `o` of `op`, run in state `s`, is a step of the sequential deque (a park: the sequential
    `op` blocks) -/
def SegSpec (s : St) (op : Op) (cancelled : Bool) (o : SegR) : Prop :=
  match o.fin with
  | .ret r => Spec.run (absS s) cancelled op = some (absS o.st, r)
  | .park _ => Spec.run (absS s) cancelled op = none ∧ o.st = s

/-- `element.wait` (under `waitPop` and under the blocking iterators) and `waitPushAfter` run the
    same loop: while the test holds — return `ErrQueueClosed` on a closed deque, the context's
    error on a cancelled context, else signal the condition (the quirk D28) and wait on it; once
    the test fails, do the work (`k`: the context is cancelled; `pre`: a first segment's `spawn`) -/
def loopSeg (x : St) (k : Bool) (pre : List Sig) (c : Nat) (test : Bool) (work : SegR) : SegR :=
  if test then
    if x.closed then { st := x, sigs := pre, fin := .ret .closed }
    else if k then { st := x, sigs := pre ++ [.signal c], fin := .ret .ctx }
    else { st := x, sigs := pre ++ [.signal c], fin := .park c }
  else work

theorem loopSeg_cases (x : St) (k : Bool) (pre : List Sig) (c : Nat) (test : Bool) (work : SegR) :
    (test = false ∧ loopSeg x k pre c test work = work) ∨
    (test = true ∧ x.closed = true ∧ loopSeg x k pre c test work = { st := x, sigs := pre, fin := .ret .closed }) ∨
    (test = true ∧ x.closed = false ∧ k = true ∧
      loopSeg x k pre c test work = { st := x, sigs := pre ++ [.signal c], fin := .ret .ctx }) ∨
    (test = true ∧ x.closed = false ∧ k = false ∧
      loopSeg x k pre c test work = { st := x, sigs := pre ++ [.signal c], fin := .park c }) := by
  unfold loopSeg
  cases test with
  | false => exact .inl ⟨rfl, rfl⟩
  | true =>
    cases hc : x.closed with
    | true => exact .inr (.inl ⟨rfl, rfl, rfl⟩)
    | false =>
      cases k with
      | true => exact .inr (.inr (.inl ⟨rfl, rfl, rfl, rfl⟩))
      | false => exact .inr (.inr (.inr ⟨rfl, rfl, rfl, rfl⟩))

/-- the condition variable a blocking operation parks on (for an iterator it depends on where its
    cursor stands) -/
def condOf (x : St) : Op → Option Nat
  | .wait d => some d.cond
  | .wpush _ _ => some 2
  | .next d true k => some (iterCond d (x.cursor (cursorKey d true k)))
  | _ => none

/-- the test of the `for` loop an operation waits in (`loopSeg`'s `test`): `true` = nothing to do yet -/
def waits (x : St) : Op → Bool
  | .wait _ => x.q.isEmpty
  | .wpush _ _ => !x.tracker.hasRoom
  | .next d true k => x.nbr d (x.cursor (cursorKey d true k)) == 0
  | _ => false

/-- the segment of `op` run in `x` with context state `k` ends in `cond.Wait` (`seg_ret_or_park`); under
    a live context this is the guard of the monitor invariant (`Guard`, DequeWake) -/
def parks (x : St) (op : Op) (k : Bool) : Bool :=
  match op with
  | .wait _ => x.q.isEmpty && !x.closed && !k
  | .wpush _ _ => !x.tracker.hasRoom && !x.closed && !k
  | .next d true key => (x.nbr d (x.cursor (cursorKey d true key)) == 0) && !x.closed && !k
  | _ => false

theorem parks_eq (x : St) (op : Op) (k : Bool) : parks x op k = (waits x op && !x.closed && !k) := by
  cases op with
  | next d b key => cases b <;> rfl
  | _ => first | rfl | simp [parks, waits]

/-- a segment that ends with a pop; `dflt` is the answer of an empty or closed deque -/
def popSeg (x : St) (d : End) (dflt : Res) : SegR :=
  { st := (popEnd x d).1, sigs := (popEnd x d).2.2, fin := .ret (((popEnd x d).2.1.map .val).getD dflt) }

/-- what an operation does once its test fails (`first`: in the segment that starts the call) -/
def work (x : St) (first : Bool) : Op → SegR
  | .push d v => { st := (addEnd x d v).1, sigs := (addEnd x d v).2.2, fin := .ret (addEnd x d v).2.1 }
  | .fpush d v => { st := (forcePush x d v).1, sigs := (forcePush x d v).2.2, fin := .ret (forcePush x d v).2.1 }
  | .pop d => popSeg x d .none
  | .wait d => popSeg x d .closed
  | .wpush d v => { st := (addEnd x d v).1, fin := .ret (addEnd x d v).2.1,
                    sigs := (addEnd x d v).2.2 ++ if first && x.tracker.len == 0 then [.signal 2] else [] }
  | .len => { st := x, fin := .ret (.num x.tracker.len) }
  | .close => { st := { x with closed := true }, sigs := [.broadcast 0, .broadcast 1, .broadcast 2], fin := .ret .ok }
  | .next d b k => iterYield x (cursorKey d b k) d (x.cursor (cursorKey d b k))

/-- the helper a first segment starts before it enters its loop (`waitPop` looks at `closed` first) -/
def spawns (x : St) (op : Op) : List Sig :=
  match condOf x op with
  | some c => if op matches .wait _ && x.closed then [] else [.spawn c]
  | none => []

def seg (x : St) (op : Op) (first k : Bool) : SegR :=
  loopSeg x k (if first then spawns x op else []) ((condOf x op).getD 0) (waits x op) (work x first op)

theorem startR_eq (x : St) (op : Op) : startR x op = seg x op true false := by
  cases op with
  | pop d => simp only [startR, seg, loopSeg, waits, work, popSeg]; rcases popEnd x d with ⟨s', _ | v, sg⟩ <;> rfl
  | wait d =>
    simp only [startR, seg, waits, work, spawns, condOf, waitPopLoop, popSeg]
    cases hc : x.closed <;> cases hq : x.q.isEmpty <;> simp [loopSeg, hc, popEnd_closed x d] <;>
      rcases popEnd x d with ⟨s', _ | v, sg⟩ <;> rfl
  | wpush d v =>
    simp only [startR, seg, waits, work, spawns, condOf, waitPushLoop]
    cases hr : x.tracker.hasRoom <;> simp [loopSeg]
  | next d b k =>
    cases b with
    | false => simp [startR, seg, waits, work, loopSeg]
    | true =>
      simp only [startR, seg, waits, work, spawns, condOf, iterLoop, Bool.and_true]
      cases hn : x.nbr d (x.cursor (cursorKey d true k)) == 0 <;> simp [loopSeg]
  | _ => rfl

theorem resumeR_eq (x : St) (op : Op) (k : Bool) :
    resumeR x op k = if op.blocking then seg x op false k else { st := x, fin := .ret .bad } := by
  cases op with
  | wait d =>
    simp only [resumeR, seg, waits, work, waitPopLoop, popSeg, Op.blocking, condOf]
    cases hc : x.closed <;> simp [loopSeg, hc, popEnd_closed x d] <;> rcases popEnd x d with ⟨s', _ | v, sg⟩ <;> rfl
  | wpush d v => simp [resumeR, seg, waits, work, waitPushLoop, loopSeg, Op.blocking, condOf]
  | next d b key => cases b <;> rfl
  | _ => rfl

theorem absS_items_isEmpty (s : St) : (absS s).items.isEmpty = s.q.isEmpty := by
  simp [absS, abs]

theorem pop_segSpec (s : St) (d : End) (k : Bool) (op : Op) (dflt : Res)
    (hrun : Spec.run (absS s) k op = some (Spec.popRes ((absS s).take d) dflt)) :
    SegSpec s op k (popSeg s d dflt) := by
  show Spec.run _ _ _ = some (absS (popEnd s d).1, _)
  rw [hrun, (popEnd_spec s d).1, (popEnd_spec s d).2]
  rcases (absS s).take d with ⟨sp, _ | v⟩ <;> rfl

theorem add_segSpec (s : St) (d : End) (v : Int) (k : Bool) (op : Op) (sg : List Sig)
    (hrun : Spec.run (absS s) k op = some ((absS s).push d v)) :
    SegSpec s op k { st := (addEnd s d v).1, sigs := sg, fin := .ret (addEnd s d v).2.1 } := by
  show Spec.run _ _ _ = _
  rw [hrun, (addEnd_spec s d v).1, (addEnd_spec s d v).2]

theorem loopSeg_spec {s : St} {op : Op} {k : Bool} {pre : List Sig} {c : Nat} {test : Bool} {work : SegR}
    (hw : test = false → SegSpec s op k work)
    (hrun : test = true → Spec.run (absS s) k op =
      if s.closed then some (absS s, .closed) else if k then some (absS s, .ctx) else none) :
    SegSpec s op k (loopSeg s k pre c test work) := by
  rcases loopSeg_cases s k pre c test work with ⟨ht, e⟩ | ⟨ht, hc, e⟩ | ⟨ht, hc, hk, e⟩ | ⟨ht, hc, hk, e⟩ <;> rw [e]
  · exact hw ht
  · show Spec.run _ _ _ = _; rw [hrun ht, if_pos hc]
  · show Spec.run _ _ _ = _; rw [hrun ht, hc, hk]; rfl
  · show Spec.run _ _ _ = none ∧ _; rw [hrun ht, hc, hk]; exact ⟨rfl, rfl⟩

theorem run_waits {x : St} {op : Op} (k : Bool) (hop : op.isIter = false) (hw : waits x op = true) :
    Spec.run (absS x) k op = if x.closed then some (absS x, .closed) else if k then some (absS x, .ctx) else none := by
  cases op with
  | wait d => simp only [Spec.run, absS_items_isEmpty, show x.q.isEmpty = true from hw, ite_true]; rfl
  | wpush d v =>
    have hr : x.tracker.hasRoom = false := by simpa [waits] using hw
    have hr : (absS x).tr.hasRoom = false := hr
    simp only [Spec.run, hr, Bool.false_eq_true, ite_false]; rfl
  | next d b key => cases hop
  | _ => cases hw

theorem work_spec {x : St} {op : Op} (h : op = .len → x.tracker.len = x.q.length) (hop : op.isIter = false) (k : Bool)
    {first : Bool} (hw : waits x op = false) : SegSpec x op k (work x first op) := by
  cases op with
  | push d v => exact add_segSpec x d v k _ _ rfl
  | fpush d v =>
    show some _ = some (absS (forcePush x d v).1, (forcePush x d v).2.1)
    rw [(forcePush_spec x d v).1, (forcePush_spec x d v).2]
  | pop d => exact pop_segSpec x d k _ .none rfl
  | wait d =>
    refine pop_segSpec x d k _ .closed ?_
    cases hc : x.closed with
    | true =>
      have hcl : (absS x).closed = true := hc
      simp [Spec.run, Spec.take, Spec.popRes, hcl]
    | false =>
      have hcl : (absS x).closed = false := hc
      simp [Spec.run, absS_items_isEmpty, show x.q.isEmpty = false from hw, hcl]
  | wpush d v =>
    have hr : x.tracker.hasRoom = true := by simpa [waits] using hw
    exact add_segSpec x d v k _ _ (if_pos hr)
  | len => simp [work, SegSpec, Spec.run, absS, abs, h rfl]
  | close => simp [work, SegSpec, Spec.run, absS, abs]
  | next d b key => cases hop

/-- `deque_refines` (C06); the iterator calls are not operations of C06 -/
theorem seg_spec {x : St} {op : Op} (h : op = .len → x.tracker.len = x.q.length) (hop : op.isIter = false) (first k : Bool) :
    SegSpec x op k (seg x op first k) :=
  loopSeg_spec (fun hw => work_spec h hop k hw) (run_waits k hop)

theorem startR_spec (s : St) (h : Inv s) (op : Op) (hop : op.isIter = false) : SegSpec s op false (startR s op) :=
  startR_eq s op ▸ seg_spec (fun _ => h.len) hop true false

theorem resumeR_spec (s : St) (op : Op) (cancelled : Bool) (hop : op.isIter = false) (hb : op.blocking = true) :
    SegSpec s op cancelled (resumeR s op cancelled) := by
  rw [resumeR_eq, if_pos hb]; exact seg_spec (fun e => by subst e; cases hb) hop false cancelled

/-- every segment leaves the state alone or applies one primitive to it (`cur`: one move of the calling
    iterator's cursor along the link it follows) and emits at least the primitive's signals -/
inductive Eff (x : St) (op : Op) (o : SegR) : Prop
  | same : o.st = x → Eff x op o
  | add (d : End) (v : Int) : op.isIter = false → o.st = (addEnd x d v).1 →
      (∀ sg ∈ (addEnd x d v).2.2, sg ∈ o.sigs) → Eff x op o
  | pop (d : End) : op.isIter = false → o.st = (popEnd x d).1 → (∀ sg ∈ (popEnd x d).2.2, sg ∈ o.sigs) → Eff x op o
  | fpush (d : End) (v : Int) : op.isIter = false → o.st = (forcePush x d v).1 →
      (∀ sg ∈ (forcePush x d v).2.2, sg ∈ o.sigs) → Eff x op o
  | close : op.isIter = false → o.st = { x with closed := true } →
      o.sigs = [.broadcast 0, .broadcast 1, .broadcast 2] → Eff x op o
  | cur (d : End) (b : Bool) (k : Nat) : op = .next d b k →
      o.st = x.setCursor (cursorKey d b k) (x.nbr d (x.cursor (cursorKey d b k))) → Eff x op o

theorem loopSeg_eff {x : St} {op : Op} {k : Bool} {pre : List Sig} {c : Nat} {test : Bool} {work : SegR}
    (hw : Eff x op work) : Eff x op (loopSeg x k pre c test work) := by
  rcases loopSeg_cases x k pre c test work with ⟨_, h⟩ | ⟨_, _, h⟩ | ⟨_, _, _, h⟩ | ⟨_, _, _, h⟩ <;> rw [h]
  · exact hw
  · exact .same rfl
  · exact .same rfl
  · exact .same rfl

theorem work_eff (x : St) (first : Bool) (op : Op) : Eff x op (work x first op) := by
  cases op with
  | push d v => exact .add d v rfl rfl (fun _ h => h)
  | fpush d v => exact .fpush d v rfl rfl (fun _ h => h)
  | pop d | wait d => exact .pop d rfl rfl (fun _ h => h)
  | wpush d v => exact .add d v rfl rfl (fun _ h => List.mem_append_left _ h)
  | len => exact .same rfl
  | close => exact .close rfl rfl rfl
  | next d b k =>
    simp only [work, iterYield]
    split
    · exact .same rfl
    · exact .cur d b k rfl rfl

theorem seg_eff (x : St) (op : Op) (first k : Bool) : Eff x op (seg x op first k) := loopSeg_eff (work_eff x first op)

theorem startR_eff (x : St) (op : Op) : Eff x op (startR x op) := startR_eq x op ▸ seg_eff x op true false

theorem resumeR_eff (x : St) (op : Op) (k : Bool) : Eff x op (resumeR x op k) := by
  rw [resumeR_eq]; split
  · exact seg_eff x op false k
  · exact .same rfl

/-- `hadd` / `hpop` are asked of every state: a Force push on a full deque applies both in turn -/
theorem Eff.inv {P : St → Prop} {x : St} {op : Op} {o : SegR} (e : Eff x op o) (hx : P x)
    (hadd : ∀ y d v, P y → P (addEnd y d v).1) (hpop : ∀ y d, P y → P (popEnd y d).1)
    (hclose : P { x with closed := true })
    (hcur : ∀ d b k, op = .next d b k → P (x.setCursor (cursorKey d b k) (x.nbr d (x.cursor (cursorKey d b k))))) :
    P o.st := by
  cases e with
  | same h => rw [h]; exact hx
  | add d v _ h _ => rw [h]; exact hadd x d v hx
  | pop d _ h _ => rw [h]; exact hpop x d hx
  | fpush d v _ h _ =>
    rw [h]; unfold forcePush
    split
    · exact hadd _ d v (hpop x d.opp hx)
    · exact hadd x d v hx
  | close _ h _ => rw [h]; exact hclose
  | cur d b k hop h => rw [h]; exact hcur d b k hop

theorem Eff.absS_iter {x : St} {op : Op} {o : SegR} (e : Eff x op o) (hop : op.isIter = true) : absS o.st = absS x := by
  cases e with
  | same h => rw [h]
  | cur d b k _ h => rw [h]; rfl
  | add _ _ h | pop _ h | fpush _ _ h | close h => rw [h] at hop; cases hop

theorem Eff.keeps_inv {x : St} {op : Op} {o : SegR} (e : Eff x op o) (h : Inv x) : Inv o.st :=
  e.inv h addEnd_inv popEnd_inv ⟨h.len, h.wf⟩ (fun _ _ _ _ => ⟨h.len, h.wf⟩)

theorem startR_inv (s : St) (h : Inv s) (op : Op) : Inv (startR s op).st :=
  (startR_eff s op).keeps_inv h

theorem resumeR_inv (s : St) (h : Inv s) (op : Op) (cancelled : Bool) : Inv (resumeR s op cancelled).st :=
  (resumeR_eff s op cancelled).keeps_inv h

theorem iter_absS (s : St) (d : End) (b : Bool) (k : Nat) (cancelled : Bool) :
    absS (startR s (.next d b k)).st = absS s ∧ absS (resumeR s (.next d b k) cancelled).st = absS s :=
  ⟨(startR_eff s _).absS_iter rfl, (resumeR_eff s _ cancelled).absS_iter rfl⟩

theorem Eff.closed {x : St} {op : Op} {o : SegR} (e : Eff x op o) (hc : x.closed = true) : o.st.closed = true :=
  e.inv (P := fun y => y.closed = true) hc (fun y d v hy => by rw [addEnd_closed y d v hy]; exact hy)
    (fun y d hy => by rw [popEnd_closed y d hy]; exact hy) rfl (fun _ _ _ _ => hc)

theorem forcePush_closed (s : St) (d : End) (v : Int) (hc : s.closed = true) : forcePush s d v = (s, .closed, []) := by
  unfold forcePush
  split
  · simp [popEnd_closed s d.opp hc, addEnd_closed s d v hc]
  · exact addEnd_closed s d v hc

theorem loopSeg_closed {x : St} {k : Bool} {pre : List Sig} {c : Nat} {test : Bool} {work : SegR} {r : Res}
    (hc : x.closed = true) (hw : work.fin = .ret r ∧ work.st = x) (hr : test = true → r = .closed) :
    (loopSeg x k pre c test work).fin = .ret r ∧ (loopSeg x k pre c test work).st = x := by
  unfold loopSeg
  cases test with
  | false => exact hw
  | true => rw [if_pos rfl, if_pos hc, hr rfl]; exact ⟨rfl, rfl⟩

theorem seg_closed {x : St} (hc : x.closed = true) (op : Op) (first k : Bool) :
    match op with
    | .push _ _ | .fpush _ _ | .wpush _ _ | .wait _ => (seg x op first k).fin = .ret .closed ∧ (seg x op first k).st = x
    | .pop _ => (seg x op first k).fin = .ret .none ∧ (seg x op first k).st = x
    | _ => True := by
  cases op with
  | push d v | wpush d v => exact loopSeg_closed hc (by simp only [work, addEnd_closed x d v hc, and_self]) (fun _ => rfl)
  | fpush d v => exact loopSeg_closed hc (by simp only [work, forcePush_closed x d v hc, and_self]) (fun _ => rfl)
  | wait d => exact loopSeg_closed hc (by simp [work, popSeg, popEnd_closed x d hc]) (fun _ => rfl)
  | pop d => exact loopSeg_closed hc (by simp [work, popSeg, popEnd_closed x d hc]) nofun
  | _ => trivial

theorem closed_start (s : St) (hc : s.closed = true) (op : Op) :
    (startR s op).st.closed = true ∧
    (match op with
     | .push _ _ | .fpush _ _ | .wpush _ _ | .wait _ => (startR s op).fin = .ret .closed ∧ (startR s op).st = s
     | .pop _ => (startR s op).fin = .ret .none ∧ (startR s op).st = s
     | _ => True) := by
  refine ⟨(startR_eff s op).closed hc, ?_⟩
  rw [startR_eq]; exact seg_closed hc op true false

theorem closed_resume (s : St) (hc : s.closed = true) (op : Op) (k : Bool) :
    (resumeR s op k).st.closed = true ∧
    (match op with
     | .wpush _ _ | .wait _ => (resumeR s op k).fin = .ret .closed ∧ (resumeR s op k).st = s
     | _ => True) := by
  refine ⟨(resumeR_eff s op k).closed hc, ?_⟩
  rw [resumeR_eq]
  cases op with
  | wait d => exact seg_closed hc (.wait d) false k
  | wpush d v => exact seg_closed hc (.wpush d v) false k
  | _ => trivial

/-! `ctx_error_no_effect` (C06): only the loop returns a context error, only under a cancelled context,
    and then it has left the state alone -/

theorem loopSeg_ctx {x : St} {k : Bool} {pre : List Sig} {c : Nat} {test : Bool} {work : SegR}
    (hw : work.fin ≠ .ret .ctx) (h : (loopSeg x k pre c test work).fin = .ret .ctx) :
    (loopSeg x k pre c test work).st = x ∧ k = true := by
  rcases loopSeg_cases x k pre c test work with ⟨_, e⟩ | ⟨_, _, e⟩ | ⟨_, _, hk, e⟩ | ⟨_, _, _, e⟩ <;> rw [e] at h ⊢
  · exact absurd h hw
  · cases h
  · exact ⟨rfl, hk⟩
  · cases h

theorem work_ne_ctx (x : St) (first : Bool) (op : Op) : (work x first op).fin ≠ .ret .ctx := by
  cases op with
  | push d v | wpush d v => exact addEnd_ne_ctx x d v
  | fpush d v =>
    show FinR.ret (forcePush x d v).2.1 ≠ _
    unfold forcePush; split
    · exact addEnd_ne_ctx _ d v
    · exact addEnd_ne_ctx x d v
  | pop d | wait d => show FinR.ret _ ≠ _; cases (popEnd x d).2.1 <;> nofun
  | len | close => nofun
  | next d b k => simp only [work, iterYield]; split <;> nofun

theorem ctx_start (s : St) (op : Op) : (startR s op).fin ≠ .ret .ctx := by
  rw [startR_eq]; exact fun h => nomatch (loopSeg_ctx (work_ne_ctx s true op) h).2

theorem ctx_resume (s : St) (op : Op) (k : Bool) (h : (resumeR s op k).fin = .ret .ctx) :
    (resumeR s op k).st = s ∧ k = true := by
  rw [resumeR_eq] at h ⊢
  split at h
  · rw [if_pos ‹_›]; exact loopSeg_ctx (work_ne_ctx s false op) h
  · cases h

theorem QOpts.validate_some {o o' : QOpts} (h : o.validate = some o') :
    o'.hard = o.hard ∧ 0 < o.hard ∧ o.soft ≤ o.hard ∧ 1 ≤ o'.soft ∧ o'.soft ≤ o'.hard ∧
      o'.soft = (if o.soft ≤ 0 then o.hard else o.soft) := by
  unfold QOpts.validate at h
  by_cases h1 : (decide (o.hard ≤ 0) || decide (o.hard < o.soft)) = true
  · simp [h1] at h
  · simp only [h1, Bool.false_eq_true, ite_false] at h
    by_cases h2 : o.burst < 0
    · simp [h2] at h
    · simp only [h2, ite_false, Option.some.injEq] at h
      subst h
      simp only [Bool.or_eq_true, decide_eq_true_eq, not_or, Int.not_le, Int.not_lt] at h1
      refine ⟨rfl, h1.1, h1.2, ?_, ?_, rfl⟩ <;> (simp only; split <;> omega)

/-- `DequeOptions.Validate` as a decision table -/
theorem validate_eq_some {o o' : Opts} : o.validate = some o' ↔
    (o.qopts = none ∧ o.unlimited = true ∧ o.capacity = 0 ∧ o = o') ∨
    (o.qopts = none ∧ o.unlimited = false ∧ { o with capacity := if o.capacity ≤ 0 then 1 else o.capacity } = o') ∨
    (∃ qo qo', o.qopts = some qo ∧ qo.validate = some qo' ∧ o.capacity ≤ 0 ∧ o.unlimited = false ∧
      { o with qopts := some qo' } = o') := by
  unfold Opts.validate
  cases hq : o.qopts with
  | none =>
    cases hu : o.unlimited with
    | true =>
      by_cases hc : o.capacity = 0 <;> simp [hc]
    | false => simp
  | some qo =>
    cases hv : qo.validate with
    | none => simp [hv]
    | some qo' =>
      by_cases hc : o.capacity > 0
      · simp [hv, hc]
        exact fun h => absurd hc (Int.not_lt.2 h)
      · cases hu : o.unlimited with
        | true => simp [hv, hc]
        | false => simp [hv, hc]; omega

theorem validate_accepts (o : Opts) :
    (o.validate).isSome = true ↔
      (o.qopts = none ∧ ((o.unlimited = true ∧ o.capacity = 0) ∨ o.unlimited = false)) ∨
      (∃ qo, o.qopts = some qo ∧ (qo.validate).isSome = true ∧ o.capacity ≤ 0 ∧ o.unlimited = false) := by
  rw [Option.isSome_iff_exists]
  constructor
  · rintro ⟨o', h⟩
    rcases validate_eq_some.1 h with ⟨hq, hu, hc, _⟩ | ⟨hq, hu, _⟩ | ⟨qo, qo', hq, hv, hc, hu, _⟩
    · exact .inl ⟨hq, .inl ⟨hu, hc⟩⟩
    · exact .inl ⟨hq, .inr hu⟩
    · exact .inr ⟨qo, hq, by rw [hv]; rfl, hc, hu⟩
  · rintro (⟨hq, ⟨hu, hc⟩ | hu⟩ | ⟨qo, hq, hv, hc, hu⟩)
    · exact ⟨_, validate_eq_some.2 (.inl ⟨hq, hu, hc, rfl⟩)⟩
    · exact ⟨_, validate_eq_some.2 (.inr (.inl ⟨hq, hu, rfl⟩))⟩
    · obtain ⟨qo', hv⟩ := Option.isSome_iff_exists.1 hv
      exact ⟨_, validate_eq_some.2 (.inr (.inr ⟨qo, qo', hq, hv, hc, hu, rfl⟩))⟩

/-- each configuration `Validate` accepts selects one of the three trackers, so `NewDeque` never
    leaves the tracker nil -/
theorem newDeque_cases (o : Opts) :
    newDeque o = none ∨ ∃ tr : Tracker, tr.WF ∧ tr.len = 0 ∧ newDeque o = some (some { tracker := tr }) := by
  unfold newDeque
  cases hv : o.validate with
  | none => exact .inl rfl
  | some o' =>
    right
    rcases validate_eq_some.1 hv with ⟨hq, hu, hc, rfl⟩ | ⟨hq, hu, rfl⟩ | ⟨qo, qo', hq, hqv, _, _, rfl⟩
    · refine ⟨.noLimit 0, trivial, rfl, ?_⟩
      simp only [hq, hc, hu, Int.lt_irrefl, ite_false, ite_true]
    · have hpos : (if o.capacity ≤ 0 then (1 : Int) else o.capacity) > 0 := by split <;> omega
      refine ⟨.hard (if o.capacity ≤ 0 then (1 : Int) else o.capacity).toNat 0, ?_, rfl, ?_⟩
      · simp only [Tracker.WF]; omega
      · simp only [hq, hpos, ite_true]
    · obtain ⟨_, _, _, h1, h2, _⟩ := QOpts.validate_some hqv
      refine ⟨.soft qo'.soft.toNat qo'.hard.toNat 0 qo'.burst, ?_, rfl, rfl⟩
      simp only [Tracker.WF]; omega

theorem newDeque_ok (o : Opts) : newDeque o ≠ some none ∧
    ∀ st, newDeque o = some (some st) → Inv st ∧ st.q = [] ∧ st.closed = false ∧ st.stale = [] ∧ st.cursors = [] ∧ st.nextId = 1 ∧ st.vals = [] := by
  rcases newDeque_cases o with h | ⟨tr, hw, hl, h⟩ <;> rw [h]
  · exact ⟨nofun, nofun⟩
  · exact ⟨nofun, fun st hst => by cases hst; exact ⟨⟨hl, hw⟩, rfl, rfl, rfl, rfl, rfl, rfl⟩⟩

end FunModel.Deque
