import FunModel.Sll

/-! What each write of the pointer-level model of `dt.Stack` (FunModel/Sll.lean) does to each field, the normal form of
    a sequence of writes (two writes to one cell merge, header writes come last), what `lazyInit` does, the heaps
    `Item.Append`, `Stack.Pop` and `Item.Remove` produce in closed form, and when the guards of `Item.Append`,
    `Item.Remove` and `Item.Set` refuse. Nothing here needs the invariant. -/
namespace FunModel.Sll
open Heap

namespace Heap
@[simp] theorem setItem_item_same (h : Heap) (a : Nat) (n : Item) : (h.setItem a n).item a = n := by simp [setItem]
@[simp] theorem setItem_item_ne (h : Heap) (a b : Nat) (n : Item) (hne : b ≠ a) : (h.setItem a n).item b = h.item b := by
  simp [setItem, hne]
theorem setItem_item (h : Heap) (a b : Nat) (n : Item) : (h.setItem a n).item b = if b = a then n else h.item b := rfl
@[simp] theorem setItem_hdr (h : Heap) (a : Nat) (n : Item) : (h.setItem a n).hdr = h.hdr := rfl
@[simp] theorem setItem_ni (h : Heap) (a : Nat) (n : Item) : (h.setItem a n).ni = h.ni := rfl
@[simp] theorem setItem_ns (h : Heap) (a : Nat) (n : Item) : (h.setItem a n).ns = h.ns := rfl

@[simp] theorem setHdr_hdr_same (h : Heap) (s : Nat) (d : SHdr) : (h.setHdr s d).hdr s = d := by simp [setHdr]
@[simp] theorem setHdr_hdr_ne (h : Heap) (s t : Nat) (d : SHdr) (hne : t ≠ s) : (h.setHdr s d).hdr t = h.hdr t := by
  simp [setHdr, hne]
theorem setHdr_hdr (h : Heap) (s t : Nat) (d : SHdr) : (h.setHdr s d).hdr t = if t = s then d else h.hdr t := rfl
@[simp] theorem setHdr_item (h : Heap) (s : Nat) (d : SHdr) : (h.setHdr s d).item = h.item := rfl
@[simp] theorem setHdr_ni (h : Heap) (s : Nat) (d : SHdr) : (h.setHdr s d).ni = h.ni := rfl
@[simp] theorem setHdr_ns (h : Heap) (s : Nat) (d : SHdr) : (h.setHdr s d).ns = h.ns := rfl

@[simp] theorem alloc_snd (h : Heap) (n : Item) : (h.alloc n).2 = h.ni := rfl
@[simp] theorem alloc_item_same (h : Heap) (n : Item) : (h.alloc n).1.item h.ni = n := by simp [alloc, setItem]
@[simp] theorem alloc_item_ne (h : Heap) (n : Item) (b : Nat) (hne : b ≠ h.ni) : (h.alloc n).1.item b = h.item b := by
  simp [alloc, setItem, hne]
theorem alloc_item (h : Heap) (n : Item) (b : Nat) : (h.alloc n).1.item b = if b = h.ni then n else h.item b := rfl
@[simp] theorem alloc_hdr (h : Heap) (n : Item) : (h.alloc n).1.hdr = h.hdr := rfl
@[simp] theorem alloc_ni (h : Heap) (n : Item) : (h.alloc n).1.ni = h.ni + 1 := rfl
@[simp] theorem alloc_ns (h : Heap) (n : Item) : (h.alloc n).1.ns = h.ns := rfl

@[simp] theorem setItem_setItem (h : Heap) (a : Nat) (m n : Item) : (h.setItem a m).setItem a n = h.setItem a n := by
  simp only [setItem, Heap.mk.injEq, and_true]
  funext i; by_cases e : i = a <;> simp [e]
@[simp] theorem setHdr_setHdr (h : Heap) (s : Nat) (d e : SHdr) : (h.setHdr s d).setHdr s e = h.setHdr s e := by
  simp only [setHdr, Heap.mk.injEq, true_and, and_true]
  funext i; by_cases e : i = s <;> simp [e]
@[simp] theorem setHdr_setItem (h : Heap) (s a : Nat) (d : SHdr) (n : Item) :
    (h.setHdr s d).setItem a n = (h.setItem a n).setHdr s d := rfl
@[simp] theorem setHdr_alloc (h : Heap) (s : Nat) (d : SHdr) (n : Item) :
    ((h.setHdr s d).alloc n).1 = (h.alloc n).1.setHdr s d := rfl
@[simp] theorem alloc_setItem (h : Heap) (m n : Item) : (h.alloc m).1.setItem h.ni n = (h.alloc n).1 := by
  have e : (h.alloc m).1.setItem h.ni n = { (h.setItem h.ni m).setItem h.ni n with ni := h.ni + 1 } := rfl
  rw [e, setItem_setItem]; rfl

@[simp] theorem allocStack_snd (h : Heap) : h.allocStack.2 = h.ns := rfl
@[simp] theorem allocStack_item (h : Heap) : h.allocStack.1.item = h.item := rfl
@[simp] theorem allocStack_hdr_same (h : Heap) : h.allocStack.1.hdr h.ns = {} := by simp [allocStack, setHdr]
@[simp] theorem allocStack_hdr_ne (h : Heap) (t : Nat) (hne : t ≠ h.ns) : h.allocStack.1.hdr t = h.hdr t := by
  simp [allocStack, setHdr, hne]
@[simp] theorem allocStack_ni (h : Heap) : h.allocStack.1.ni = h.ni := rfl
@[simp] theorem allocStack_ns (h : Heap) : h.allocStack.1.ns = h.ns + 1 := rfl
end Heap

variable {h : Heap}

theorem lazyInit_of_head_some {s a : Nat} (hh : (h.hdr s).head = some a) : h.lazyInit s = h := by
  simp [lazyInit, hh]

theorem lazyInit_of_head_none {s : Nat} (hh : (h.hdr s).head = none) :
    h.lazyInit s = (h.alloc { ok := false, stack := some s }).1.setHdr s { head := some h.ni, length := 0 } := by
  simp [lazyInit, hh]

theorem lazyInit_head (h : Heap) (s : Nat) : ∃ a, ((h.lazyInit s).hdr s).head = some a := by
  cases hh : (h.hdr s).head with
  | none => exact ⟨h.ni, by simp [lazyInit, hh]⟩
  | some a => exact ⟨a, by simp [lazyInit, hh]⟩

@[simp] theorem lazyInit_ns (h : Heap) (s : Nat) : (h.lazyInit s).ns = h.ns := by
  unfold Heap.lazyInit; split <;> rfl

theorem lazyInit_ni (h : Heap) (s : Nat) :
    (h.lazyInit s).ni = if (h.hdr s).head = none then h.ni + 1 else h.ni := by
  cases hh : (h.hdr s).head with
  | none => simp [lazyInit_of_head_none hh]
  | some a => simp [lazyInit_of_head_some hh]

theorem pop_mono {h h' : Heap} {s x : Nat} (hp : h.pop s = some (h', x)) : h.ni ≤ h'.ni ∧ h'.ns = h.ns := by
  unfold Heap.pop at hp
  split at hp
  · obtain ⟨a, ha⟩ := lazyInit_head h s
    simp only [ha, Option.some.injEq, Prod.mk.injEq] at hp
    rw [← hp.1]
    exact ⟨by rw [lazyInit_ni]; split <;> omega, lazyInit_ns h s⟩
  · split at hp <;> cases hp <;> exact ⟨by simp, by simp⟩

/-- the writes of `Item.Append` (dt/stack.go) once the guard has accepted `n` and `lazyInit` has run -/
def Heap.linked (h : Heap) (s n : Nat) : Heap :=
  (h.setItem n { h.item n with next := (h.hdr s).head, stack := some s }).setHdr s
    { head := some n, length := (h.hdr s).length + 1 }

/-- the writes of `Stack.Pop` on a non-empty stack whose head is `x` -/
def Heap.popped (h : Heap) (s x : Nat) : Heap :=
  (h.setItem x { h.item x with stack := none }).setHdr s
    { head := (h.item x).next, length := (h.hdr s).length - 1 }

/-- the writes of the loop body of `Item.Remove` when `prev` is `pl` and `pl.next == it` -/
def Heap.unlinked (h : Heap) (s pl it : Nat) : Heap :=
  ((h.setItem pl { h.item pl with next := (h.item it).next }).setItem it
      { h.item it with stack := none }).setHdr s
    { h.hdr s with length := (h.hdr s).length - 1 }

/-- the guards of `Item.Append`: unless `n` is a detached ok item and `it` is on a stack, nothing is written -/
theorem itemAppend_reject (h : Heap) (it : Nat) (n : Option Nat)
    (hrej : ¬ ∃ n' s, n = some n' ∧ (h.item it).stack = some s ∧ (h.item n').stack = none ∧
      (h.item n').ok = true) : h.itemAppend it n = some (h, it) := by
  unfold itemAppend
  cases n with
  | none => rfl
  | some n' =>
    cases hst : (h.item it).stack with
    | none => rfl
    | some s =>
      cases hn : (h.item n').stack with
      | some t => simp [hn]
      | none =>
        cases hok : (h.item n').ok with
        | false => simp [hn, hok]
        | true => exact absurd ⟨n', s, rfl, hst, hn, hok⟩ hrej

/-- the guards of `Item.Remove` -/
theorem itemRemove_reject (h : Heap) (it : Nat)
    (hrej : (h.item it).stack = none ∨ (h.item it).ok = false) : h.itemRemove it = some (h, false) := by
  unfold itemRemove
  cases hst : (h.item it).stack with
  | none => rfl
  | some s =>
    rcases hrej with e | e
    · rw [hst] at e; cases e
    · simp [e]

/-- `Item.Set` by its guard `stack != nil && next == nil` -/
theorem itemSet_eq (h : Heap) (it : Nat) (v : Int) :
    (((h.item it).stack.isSome = true ∧ (h.item it).next = none) → h.itemSet it v = (h, false)) ∧
    (¬ ((h.item it).stack.isSome = true ∧ (h.item it).next = none) →
      h.itemSet it v = (h.setItem it { h.item it with ok := true, value := v }, true)) := by
  refine ⟨fun hr => by simp [itemSet, hr.1, hr.2], fun hr => ?_⟩
  unfold itemSet
  rw [if_neg]
  intro hc
  simp only [Bool.and_eq_true, Option.isNone_iff_eq_none] at hc
  exact hr hc

end FunModel.Sll
