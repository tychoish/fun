import FunModel.Conc

/-! What one action of the small-step machine `FunModel.Conc` does, for any `Subject`. `Sys.WF`: the parked
    list agrees with the threads' states. A segment is read in two layers, its signals (`SigRel`) and then its
    end (`SegRel`: the running thread gets `finTh`, any other one is at most woken, `ThWake`). `step` inverted
    action by action (`step_seg` for `start` / `resume`, `IsSeg` naming the segment; `step_cancel_rel`,
    `step_fire_rel` and their weakening `step_env`), `WaitingIn.step` (which operations a thread can be blocked
    in), the runs `Reach` with their induction principles; `runChoices` / `drain` stay inside any set closed
    under steps. -/

namespace FunModel.Conc
variable {σ Op : Type}

theorem Act.seg_or_env (a : Act) :
    (∃ t, a = .start t ∨ a = .resume t) ∨ (∃ t, a = .cancel t ∨ a = .fire t) := by
  cases a <;> simp

/-- the filter that `enabled` writes out four times (`mem_enabled` folds them by `show`) -/
def thsWhere (s : Sys σ Op) (p : Th Op → Bool) : List Nat :=
  (idxs s.ths.length).filter (fun i => match s.ths[i]? with | some th => p th | none => false)

theorem mem_thsWhere {s : Sys σ Op} {p : Th Op → Bool} {t : Nat} :
    t ∈ thsWhere s p ↔ ∃ th, s.ths[t]? = some th ∧ p th = true := by
  rw [thsWhere, List.mem_filter, idxs, List.mem_range]
  cases h : s.ths[t]? with
  | none => simp
  | some th => simp [(List.getElem?_eq_some_iff.1 h).1]

theorem matches_parked {st : TState} : (st matches .parked _) = true ↔ ∃ c, st = .parked c := by
  cases st <;> simp

theorem mem_enabled {s : Sys σ Op} {b : Bool} {a : Act} : a ∈ enabled s b ↔
    match a with
    | .start t => t ∈ thsWhere s fun th => th.st == .idle && th.pc < th.ops.length
    | .resume t => t ∈ thsWhere s fun th => th.st == .woken
    | .cancel t => b = true ∧ t ∈ thsWhere s fun th => (th.st == .woken || th.st matches .parked _) && !th.cancelled
    | .fire t => t ∈ thsWhere s Th.hasGate := by
  show a ∈ (thsWhere s _).map .start ++ (thsWhere s _).map .resume ++
    (if b then (thsWhere s _).map .cancel else []) ++ (thsWhere s _).map .fire ↔ _
  generalize thsWhere s _ = l1, thsWhere s _ = l2, thsWhere s _ = l3, thsWhere s _ = l4
  cases a <;> simp

theorem mem_enabled_start {s : Sys σ Op} {b : Bool} {t : Nat} :
    Act.start t ∈ enabled s b ↔ ∃ th, s.ths[t]? = some th ∧ th.st = .idle ∧ th.pc < th.ops.length := by
  simp [mem_enabled, mem_thsWhere]

theorem mem_enabled_resume {s : Sys σ Op} {b : Bool} {t : Nat} :
    Act.resume t ∈ enabled s b ↔ ∃ th, s.ths[t]? = some th ∧ th.st = .woken := by
  simp [mem_enabled, mem_thsWhere]

theorem mem_enabled_cancel {s : Sys σ Op} {b : Bool} {t : Nat} :
    Act.cancel t ∈ enabled s b ↔
      b = true ∧ ∃ th, s.ths[t]? = some th ∧ (th.st = .woken ∨ ∃ c, th.st = .parked c) ∧ th.cancelled = false := by
  simp [mem_enabled, mem_thsWhere, matches_parked]

theorem mem_enabled_fire {s : Sys σ Op} {b : Bool} {t : Nat} :
    Act.fire t ∈ enabled s b ↔ ∃ th, s.ths[t]? = some th ∧ th.hasGate = true := by
  simp [mem_enabled, mem_thsWhere]

theorem enabled_false_sub {s : Sys σ Op} {a : Act} (h : a ∈ enabled s false) : a ∈ enabled s true := by
  rw [mem_enabled] at h ⊢
  cases a with
  | cancel t => cases h.1
  | _ => exact h

@[simp] theorem modTh_subj (s : Sys σ Op) (i : Nat) (f : Th Op → Th Op) : (modTh s i f).subj = s.subj := rfl
@[simp] theorem modTh_parked (s : Sys σ Op) (i : Nat) (f : Th Op → Th Op) : (modTh s i f).parked = s.parked := rfl
@[simp] theorem modTh_length (s : Sys σ Op) (i : Nat) (f : Th Op → Th Op) :
    (modTh s i f).ths.length = s.ths.length := by simp [modTh]

theorem modTh_get (s : Sys σ Op) (i u : Nat) (f : Th Op → Th Op) :
    (modTh s i f).ths[u]? = if u = i then (s.ths[u]?).map f else s.ths[u]? := by
  simp only [modTh, List.getElem?_modify]
  by_cases h : u = i
  · subst h; cases s.ths[u]? <;> simp
  · have h' : ¬ i = u := fun e => h e.symm
    cases s.ths[u]? <;> simp [h, h']

theorem modTh_get_self (s : Sys σ Op) (i : Nat) (f : Th Op → Th Op) :
    (modTh s i f).ths[i]? = (s.ths[i]?).map f := by simp [modTh_get]

theorem modTh_get_ne (s : Sys σ Op) {i u : Nat} (f : Th Op → Th Op) (h : u ≠ i) :
    (modTh s i f).ths[u]? = s.ths[u]? := by simp [modTh_get, h]

def Th.wake (th : Th Op) : Th Op := { th with st := .woken }

@[simp] theorem Th.wake_st (th : Th Op) : th.wake.st = .woken := rfl
@[simp] theorem Th.wake_ops (th : Th Op) : th.wake.ops = th.ops := rfl
@[simp] theorem Th.wake_pc (th : Th Op) : th.wake.pc = th.pc := rfl
@[simp] theorem Th.wake_cancelled (th : Th Op) : th.wake.cancelled = th.cancelled := rfl
@[simp] theorem Th.wake_helpers (th : Th Op) : th.wake.helpers = th.helpers := rfl
@[simp] theorem Th.wake_wake (th : Th Op) : th.wake.wake = th.wake := rfl

@[simp] theorem wake_subj (s : Sys σ Op) (w : Nat) : (wake s w).subj = s.subj := rfl
theorem wake_parked (s : Sys σ Op) (w : Nat) : (wake s w).parked = s.parked.filter (fun p => p.1 != w) := rfl
theorem wake_get (s : Sys σ Op) (w u : Nat) :
    (wake s w).ths[u]? = if u = w then (s.ths[u]?).map Th.wake else s.ths[u]? := by
  unfold wake; rw [modTh_get]; rfl

/-- who is parked is recorded twice, in `Sys.parked` (the order `signal` needs) and in the threads'
    states: the two agree, and no thread is queued twice -/
structure Sys.WF (s : Sys σ Op) : Prop where
  parked_iff : ∀ t c, (t, c) ∈ s.parked ↔ ∃ th, s.ths[t]? = some th ∧ th.st = .parked c
  once : s.parked.Pairwise (fun p q => p.1 ≠ q.1)

theorem Sys.WF.of_none_parked {s : Sys σ Op} (hp : s.parked = [])
    (hst : ∀ (t : Nat) (th : Th Op), s.ths[t]? = some th → ∀ c, th.st ≠ .parked c) : s.WF := by
  refine ⟨fun t c => ⟨fun h => ?_, fun ⟨th, hth, h⟩ => absurd h (hst t th hth c)⟩, by rw [hp]; exact .nil⟩
  rw [hp] at h; cases h

theorem Sys.WF.modTh {s : Sys σ Op} (h : s.WF) (i : Nat) (f : Th Op → Th Op)
    (hf : ∀ th, s.ths[i]? = some th → ∀ c, (f th).st = .parked c ↔ th.st = .parked c) : (modTh s i f).WF := by
  refine ⟨?_, h.once⟩
  intro t c
  rw [modTh_parked, h.parked_iff, modTh_get]
  by_cases hti : t = i
  · subst hti
    simp only [if_true]
    constructor
    · rintro ⟨th, hth, hst⟩
      exact ⟨f th, by simp [hth], (hf th hth c).2 hst⟩
    · rintro ⟨th', hth', hst⟩
      obtain ⟨th, hth, rfl⟩ := Option.map_eq_some_iff.1 hth'
      exact ⟨th, hth, (hf th hth c).1 hst⟩
  · simp [hti]

theorem Sys.WF.subj {s : Sys σ Op} (h : s.WF) (x : σ) : ({ s with subj := x } : Sys σ Op).WF :=
  ⟨h.parked_iff, h.once⟩

theorem Sys.WF.wake {s : Sys σ Op} (h : s.WF) (w : Nat) : (wake s w).WF := by
  refine ⟨?_, by rw [wake_parked]; exact h.once.filter _⟩
  intro t c
  rw [wake_parked, List.mem_filter, h.parked_iff, wake_get]
  by_cases htw : t = w
  · subst htw
    simp only [if_true, bne_self_eq_false, Bool.false_eq_true, and_false, false_iff]
    rintro ⟨th', hth', hst⟩
    obtain ⟨th, _, rfl⟩ := Option.map_eq_some_iff.1 hth'
    cases hst
  · simp [htw]

theorem Sys.WF.not_mem {s : Sys σ Op} (h : s.WF) {t : Nat} {th : Th Op} (hth : s.ths[t]? = some th)
    (hnp : ∀ c, th.st ≠ .parked c) : ∀ p ∈ s.parked, p.1 ≠ t := by
  intro p hp he
  obtain ⟨u, c⟩ := p
  simp at he; subst he
  obtain ⟨th', hth', hst⟩ := (h.parked_iff u c).1 hp
  rw [hth] at hth'; cases hth'
  exact hnp c hst

theorem foldl_wake_subj (ws : List Nat) (s : Sys σ Op) : (ws.foldl wake s).subj = s.subj := by
  induction ws generalizing s with
  | nil => rfl
  | cons w r ih => rw [List.foldl_cons, ih, wake_subj]

theorem foldl_wake_wf (ws : List Nat) {s : Sys σ Op} (h : s.WF) : (ws.foldl wake s).WF := by
  induction ws generalizing s with
  | nil => exact h
  | cons w r ih => rw [List.foldl_cons]; exact ih (h.wake w)

theorem foldl_wake_get (ws : List Nat) (s : Sys σ Op) (u : Nat) :
    (ws.foldl wake s).ths[u]? = if u ∈ ws then (s.ths[u]?).map Th.wake else s.ths[u]? := by
  induction ws generalizing s with
  | nil => simp
  | cons w r ih =>
    rw [List.foldl_cons, ih, wake_get]
    by_cases huw : u = w
    · subst huw
      by_cases hur : u ∈ r
      · cases s.ths[u]? <;> simp [hur]
      · simp [hur]
    · by_cases hur : u ∈ r <;> simp [huw, hur]

/-- what `Broadcast` does to one thread -/
def Th.bwake (c : Nat) (th : Th Op) : Th Op := if th.st = .parked c then th.wake else th

theorem Th.bwake_of_parked {c : Nat} {th : Th Op} (h : th.st = .parked c) : th.bwake c = th.wake := by
  simp [Th.bwake, h]
theorem Th.bwake_of_not {c : Nat} {th : Th Op} (h : th.st ≠ .parked c) : th.bwake c = th := by
  simp [Th.bwake, h]
@[simp] theorem Th.bwake_ops (c : Nat) (th : Th Op) : (th.bwake c).ops = th.ops := by
  unfold Th.bwake; split <;> rfl
@[simp] theorem Th.bwake_pc (c : Nat) (th : Th Op) : (th.bwake c).pc = th.pc := by
  unfold Th.bwake; split <;> rfl
@[simp] theorem Th.bwake_cancelled (c : Nat) (th : Th Op) : (th.bwake c).cancelled = th.cancelled := by
  unfold Th.bwake; split <;> rfl
@[simp] theorem Th.bwake_helpers (c : Nat) (th : Th Op) : (th.bwake c).helpers = th.helpers := by
  unfold Th.bwake; split <;> rfl
theorem Th.bwake_with_helpers (c : Nat) (th : Th Op) (hs : List Helper) :
    Th.bwake c { th with helpers := hs } = { th.bwake c with helpers := hs } := by
  unfold Th.bwake; split <;> rfl
theorem Th.bwake_st (c : Nat) (th : Th Op) : (th.bwake c).st = if th.st = .parked c then .woken else th.st := by
  unfold Th.bwake; split <;> rfl
theorem Th.bwake_st_ne (c : Nat) (th : Th Op) : (th.bwake c).st ≠ .parked c := by
  rw [Th.bwake_st]; split
  · intro h; cases h
  · assumption

theorem mem_broadcast_woken {s : Sys σ Op} (h : s.WF) (c u : Nat) :
    u ∈ (broadcast s c).2 ↔ ∃ th, s.ths[u]? = some th ∧ th.st = .parked c := by
  rw [← h.parked_iff]
  simp only [broadcast, List.mem_map, List.mem_filter]
  constructor
  · rintro ⟨⟨u', c'⟩, ⟨hm, hc⟩, hu⟩
    simp at hc hu; subst hc; subst hu; exact hm
  · intro hm; exact ⟨(u, c), ⟨hm, by simp⟩, rfl⟩

theorem broadcast_get {s : Sys σ Op} (h : s.WF) (c u : Nat) :
    (broadcast s c).1.ths[u]? = (s.ths[u]?).map (Th.bwake c) := by
  have hm := mem_broadcast_woken h c u
  show (List.foldl wake s (broadcast s c).2).ths[u]? = _
  rw [foldl_wake_get]
  by_cases hu : u ∈ (broadcast s c).2
  · obtain ⟨th, hth, hst⟩ := hm.1 hu
    simp [hu, hth, Th.bwake_of_parked hst]
  · rw [if_neg hu]
    cases hth : s.ths[u]? with
    | none => rfl
    | some th =>
      have : th.st ≠ .parked c := fun hst => hu (hm.2 ⟨th, hth, hst⟩)
      simp [Th.bwake_of_not this]

@[simp] theorem broadcast_subj (s : Sys σ Op) (c : Nat) : (broadcast s c).1.subj = s.subj :=
  foldl_wake_subj _ _

theorem Sys.WF.broadcast {s : Sys σ Op} (h : s.WF) (c : Nat) : (broadcast s c).1.WF :=
  foldl_wake_wf _ h

theorem broadcast_none_parked {s : Sys σ Op} (h : s.WF) (c u : Nat) (th : Th Op)
    (hth : (broadcast s c).1.ths[u]? = some th) : th.st ≠ .parked c := by
  rw [broadcast_get h] at hth
  obtain ⟨th0, _, rfl⟩ := Option.map_eq_some_iff.1 hth
  exact Th.bwake_st_ne c th0

@[simp] theorem signal_subj (s : Sys σ Op) (c : Nat) : (signal s c).1.subj = s.subj := by
  unfold signal; split <;> rfl

theorem Sys.WF.signal {s : Sys σ Op} (h : s.WF) (c : Nat) : (signal s c).1.WF := by
  unfold Conc.signal; split
  · exact h.wake _
  · exact h

theorem signal_spec {s : Sys σ Op} (h : s.WF) (c : Nat) :
    ((∀ (u : Nat) (th : Th Op), s.ths[u]? = some th → th.st ≠ .parked c) ∧ signal s c = (s, [])) ∨
    (∃ (w : Nat) (th : Th Op), s.ths[w]? = some th ∧ th.st = .parked c ∧
      ∀ u, (signal s c).1.ths[u]? = if u = w then some th.wake else s.ths[u]?) := by
  unfold signal
  cases hf : s.parked.find? (fun p => p.2 == c) with
  | none =>
    left
    refine ⟨?_, rfl⟩
    intro u th hth hst
    have := (h.parked_iff u c).2 ⟨th, hth, hst⟩
    have hn := List.find?_eq_none.1 hf _ this
    simp at hn
  | some p =>
    right
    obtain ⟨w, c'⟩ := p
    have hc : c' = c := by simpa using List.find?_some hf
    subst hc
    obtain ⟨th, hth, hst⟩ := (h.parked_iff w c').1 (List.mem_of_find?_eq_some hf)
    refine ⟨w, th, hth, hst, ?_⟩
    intro u
    show (wake s w).ths[u]? = _
    rw [wake_get]
    by_cases huw : u = w
    · subst huw; simp [hth]
    · simp [huw]

/-- the effect of a segment's `spawn` / `release` signals on the running thread's helpers -/
def sigHelpers : List Sig → List Helper → List Helper
  | [], hs => hs
  | .spawn c :: r, hs => sigHelpers r (hs ++ [{ cond := c }])
  | .release :: r, hs => sigHelpers r (gateAll hs)
  | .signal _ :: r, hs => sigHelpers r hs
  | .broadcast _ :: r, hs => sigHelpers r hs

/-- what a segment may do to a thread other than the one that runs it -/
def ThWake (th th' : Th Op) : Prop := th' = th ∨ ((∃ c, th.st = .parked c) ∧ th' = th.wake)

theorem ThWake.refl (th : Th Op) : ThWake th th := Or.inl rfl

theorem ThWake.eq_of_not_parked {th th' : Th Op} (h : ThWake th th') (hnp : ∀ c, th.st ≠ .parked c) : th' = th := by
  rcases h with h | ⟨⟨c, hc⟩, _⟩
  · exact h
  · exact absurd hc (hnp c)

theorem ThWake.trans {a b c : Th Op} (h1 : ThWake a b) (h2 : ThWake b c) : ThWake a c := by
  rcases h1 with rfl | ⟨hp, rfl⟩
  · exact h2
  · have := h2.eq_of_not_parked (by intro c; simp)
    subst this; exact Or.inr ⟨hp, rfl⟩

theorem ThWake.ops {th th' : Th Op} (h : ThWake th th') : th'.ops = th.ops := by
  rcases h with rfl | ⟨_, rfl⟩ <;> rfl
theorem ThWake.pc {th th' : Th Op} (h : ThWake th th') : th'.pc = th.pc := by
  rcases h with rfl | ⟨_, rfl⟩ <;> rfl
theorem ThWake.cancelled {th th' : Th Op} (h : ThWake th th') : th'.cancelled = th.cancelled := by
  rcases h with rfl | ⟨_, rfl⟩ <;> rfl
theorem ThWake.helpers {th th' : Th Op} (h : ThWake th th') : th'.helpers = th.helpers := by
  rcases h with rfl | ⟨_, rfl⟩ <;> rfl
theorem ThWake.st {th th' : Th Op} (h : ThWake th th') :
    th'.st = th.st ∨ (th'.st = .woken ∧ ∃ c, th.st = .parked c) := by
  rcases h with rfl | ⟨hp, rfl⟩
  · exact Or.inl rfl
  · exact Or.inr ⟨rfl, hp⟩

theorem waiting_iff_of_wake {x x' : TState} (h : x' = x ∨ (x' = .woken ∧ ∃ c, x = .parked c)) :
    (x' = .woken ∨ ∃ c, x' = .parked c) ↔ (x = .woken ∨ ∃ c, x = .parked c) :=
  h.elim (fun e => e ▸ Iff.rfl) fun h => ⟨fun _ => .inr h.2, fun _ => .inl h.1⟩

theorem ThWake.parked {th th' : Th Op} (h : ThWake th th') {c : Nat} (hp : th'.st = .parked c) : th' = th := by
  rcases h with h | ⟨_, rfl⟩
  · exact h
  · simp at hp

theorem bwake_thWake (c : Nat) (th : Th Op) : ThWake th (th.bwake c) := by
  unfold Th.bwake; split
  · exact Or.inr ⟨⟨c, by assumption⟩, rfl⟩
  · exact Or.inl rfl

/-- the signals `sigs` of a segment run by the (not parked) thread `t` lead from `s` to `s'`.
    `bcast` and `signal` speak of who was parked when the segment began; `signal` does not say which
    waiter is woken (the machine takes the longest-parked; only `repark_other` of
    FunProofs/ConcDeque.lean needs that). -/
structure SigRel (s s' : Sys σ Op) (t : Nat) (sigs : List Sig) : Prop where
  wf : s'.WF
  subj : s'.subj = s.subj
  self : ∀ (th : Th Op), s.ths[t]? = some th →
    s'.ths[t]? = some { th with helpers := sigHelpers sigs th.helpers }
  other : ∀ (u : Nat) (th : Th Op), u ≠ t → s.ths[u]? = some th → ∃ th', s'.ths[u]? = some th' ∧ ThWake th th'
  none : ∀ (u : Nat), s.ths[u]? = none → s'.ths[u]? = none
  bcast : ∀ c, Sig.broadcast c ∈ sigs → ∀ (u : Nat) (th : Th Op), u ≠ t → s.ths[u]? = some th →
    th.st = .parked c → s'.ths[u]? = some th.wake
  signal : ∀ c, Sig.signal c ∈ sigs → (∃ (u : Nat) (th : Th Op), u ≠ t ∧ s.ths[u]? = some th ∧ th.st = .parked c) →
    ∃ (u : Nat) (th : Th Op), u ≠ t ∧ s.ths[u]? = some th ∧ th.st = .parked c ∧ s'.ths[u]? = some th.wake

def NotParked (s : Sys σ Op) (t : Nat) : Prop := ∀ (th : Th Op), s.ths[t]? = some th → ∀ c, th.st ≠ .parked c

theorem SigRel.nil {s : Sys σ Op} (h : s.WF) (t : Nat) : SigRel s s t [] where
  wf := h
  subj := rfl
  self := fun th hth => by simpa [sigHelpers] using hth
  other := fun u th _ hth => ⟨th, hth, .refl th⟩
  none := fun _ h => h
  bcast := fun c hc => by cases hc
  signal := fun c hc => by cases hc

theorem applySig_rel {s : Sys σ Op} (h : s.WF) (t : Nat) (hnp : NotParked s t) (acc : List Nat) (sg : Sig) :
    SigRel s (applySig t (s, acc) sg).1 t [sg] := by
  cases sg with
  | spawn _ | release =>
    show SigRel s (modTh s t _) t _
    refine ⟨h.modTh t _ (fun _ _ _ => Iff.rfl), rfl, ?_, ?_, ?_, ?_, ?_⟩
    · intro th hth; rw [modTh_get_self, hth]; rfl
    · intro u th hu hth; exact ⟨th, by rw [modTh_get_ne _ _ hu, hth], .refl th⟩
    · intro u hu; rw [modTh_get, hu]; simp
    · intro c' hc'; simp at hc'
    · intro c' hc'; simp at hc'
  | broadcast c =>
    show SigRel s (broadcast s c).1 t _
    refine ⟨h.broadcast c, broadcast_subj s c, ?_, ?_, ?_, ?_, ?_⟩
    · intro th hth
      rw [broadcast_get h, hth]
      simp [Th.bwake_of_not (hnp th hth c), sigHelpers]
    · intro u th _ hth
      exact ⟨th.bwake c, by rw [broadcast_get h, hth]; rfl, bwake_thWake c th⟩
    · intro u hu; rw [broadcast_get h, hu]; rfl
    · intro c' hc' u th _ hth hst
      simp at hc'; subst hc'
      rw [broadcast_get h, hth]; simp [Th.bwake_of_parked hst]
    · intro c' hc'; simp at hc'
  | signal c =>
    show SigRel s (signal s c).1 t _
    rcases signal_spec h c with ⟨hnone, heq⟩ | ⟨w, thw, hthw, hstw, hget⟩
    · rw [heq]
      refine ⟨h, rfl, (SigRel.nil h t).self, (SigRel.nil h t).other, fun _ => id, ?_, ?_⟩
      · intro c' hc'; simp at hc'
      · intro c' hc' ⟨u, th, _, hth, hst⟩
        simp at hc'; subst hc'
        exact absurd hst (hnone u th hth)
    · have hwt : w ≠ t := by
        intro e; subst e; exact hnp thw hthw c hstw
      refine ⟨h.signal c, signal_subj s c, ?_, ?_, ?_, ?_, ?_⟩
      · intro th hth
        rw [hget]
        simpa [hwt.symm, sigHelpers] using hth
      · intro u th _ hth
        rw [hget]
        by_cases huw : u = w
        · subst huw; rw [hth] at hthw; cases hthw
          exact ⟨thw.wake, by simp, Or.inr ⟨⟨c, hstw⟩, rfl⟩⟩
        · exact ⟨th, by simpa [huw] using hth, .refl th⟩
      · intro u hu
        rw [hget]
        by_cases huw : u = w
        · subst huw; rw [hu] at hthw; cases hthw
        · simpa [huw] using hu
      · intro c' hc'; simp at hc'
      · intro c' hc' _
        simp at hc'; subst hc'
        exact ⟨w, thw, hwt, hthw, hstw, by rw [hget]; simp⟩

theorem SigRel.notParked {s s' : Sys σ Op} {t : Nat} {sigs : List Sig} (r : SigRel s s' t sigs)
    (hnp : NotParked s t) : NotParked s' t := by
  intro th' hth' c
  cases hth : s.ths[t]? with
  | none => rw [r.none t hth] at hth'; cases hth'
  | some th =>
    rw [r.self th hth] at hth'; cases hth'
    exact hnp th hth c

theorem SigRel.stay {s s' : Sys σ Op} {t : Nat} {sigs : List Sig} (r : SigRel s s' t sigs) {u : Nat} {th : Th Op}
    (hu : u ≠ t) (hth : s.ths[u]? = some th) (hnp : ∀ c, th.st ≠ .parked c) : s'.ths[u]? = some th := by
  obtain ⟨th', hth', w⟩ := r.other u th hu hth
  rw [hth', w.eq_of_not_parked hnp]

/-- composing the first signal with the rest: who was woken by the first stays woken -/
theorem SigRel.cons {s s2 s' : Sys σ Op} {t : Nat} {sg : Sig} {rest : List Sig}
    (r1 : SigRel s s2 t [sg]) (r2 : SigRel s2 s' t rest) : SigRel s s' t (sg :: rest) where
  wf := r2.wf
  subj := r2.subj.trans r1.subj
  self := by
    intro th hth
    rw [r2.self _ (r1.self th hth)]
    cases sg <;> rfl
  other := by
    intro u th hu hth
    obtain ⟨th2, hth2, w1⟩ := r1.other u th hu hth
    obtain ⟨th', hth', w2⟩ := r2.other u th2 hu hth2
    exact ⟨th', hth', w1.trans w2⟩
  none := fun u hu => r2.none u (r1.none u hu)
  bcast := by
    intro c hc u th hu hth hst
    rcases List.mem_cons.1 hc with rfl | hc
    · exact r2.stay hu (r1.bcast c (by simp) u th hu hth hst) nofun
    · obtain ⟨th2, hth2, w1⟩ := r1.other u th hu hth
      rcases w1 with rfl | ⟨_, rfl⟩
      · exact r2.bcast c hc u th2 hu hth2 hst
      · exact r2.stay hu hth2 nofun
  signal := by
    intro c hc ⟨u, th, hu, hth, hst⟩
    rcases List.mem_cons.1 hc with rfl | hc
    · obtain ⟨w, thw, hw, hthw, hstw, hw2⟩ := r1.signal c (by simp) ⟨u, th, hu, hth, hst⟩
      exact ⟨w, thw, hw, hthw, hstw, r2.stay hw hw2 nofun⟩
    · obtain ⟨th2, hth2, w1⟩ := r1.other u th hu hth
      rcases w1 with rfl | ⟨_, rfl⟩
      · obtain ⟨w, thw2, hw, hthw2, hstw2, hw'⟩ := r2.signal c hc ⟨u, th2, hu, hth2, hst⟩
        -- `w` was parked on `c` in `s2`, hence already in `s` and unchanged by the first signal
        cases hthw : s.ths[w]? with
        | none => rw [r1.none w hthw] at hthw2; cases hthw2
        | some thw =>
          obtain ⟨thw2', hthw2', ww⟩ := r1.other w thw hw hthw
          rw [hthw2] at hthw2'; cases hthw2'
          have := ww.parked hstw2
          subst this
          exact ⟨w, thw2, hw, hthw, hstw2, hw'⟩
      · exact ⟨u, th, hu, hth, hst, r2.stay hu hth2 nofun⟩

theorem sigs_rel (t : Nat) (sigs : List Sig) {s : Sys σ Op} (h : s.WF) (hnp : NotParked s t) (acc : List Nat) :
    SigRel s (sigs.foldl (applySig t) (s, acc)).1 t sigs := by
  induction sigs generalizing s acc with
  | nil => exact .nil h t
  | cons sg rest ih =>
    rw [List.foldl_cons]
    have r1 := applySig_rel h t hnp acc sg
    have := ih r1.wf (r1.notParked hnp) (applySig t (s, acc) sg).2
    exact r1.cons this

/-- what the end of a segment does to the running thread -/
def finTh (fin : SegEnd) (th : Th Op) : Th Op :=
  match fin with
  | .ret _ => { th with pc := th.pc + 1, st := if th.pc + 1 < th.ops.length then .idle else .done,
                        helpers := gateAll th.helpers }
  | .park c => { th with st := .parked c }

@[simp] theorem finTh_ops (fin : SegEnd) (th : Th Op) : (finTh fin th).ops = th.ops := by cases fin <;> rfl
@[simp] theorem finTh_cancelled (fin : SegEnd) (th : Th Op) : (finTh fin th).cancelled = th.cancelled := by
  cases fin <;> rfl
@[simp] theorem finTh_park (c : Nat) (th : Th Op) : finTh (.park c) th = { th with st := .parked c } := rfl
theorem finTh_ret (r : String) (th : Th Op) :
    finTh (.ret r) th = { th with pc := th.pc + 1, st := if th.pc + 1 < th.ops.length then .idle else .done,
                                  helpers := gateAll th.helpers } := rfl
theorem finTh_ret_st (r : String) (th : Th Op) : ∀ c, (finTh (.ret r) th).st ≠ .parked c := by
  intro c; rw [finTh_ret]; simp only; split <;> simp
theorem finTh_st_ne_woken (fin : SegEnd) (th : Th Op) : (finTh fin th).st ≠ .woken := by
  cases fin with
  | ret r => rw [finTh_ret]; simp only; split <;> simp
  | park c => simp
theorem finTh_parked_iff {fin : SegEnd} {th : Th Op} {c : Nat} : (finTh fin th).st = .parked c ↔ fin = .park c := by
  cases fin with
  | ret r => constructor
             · intro h; exact absurd h (finTh_ret_st r th c)
             · intro h; cases h
  | park c' => simp

theorem finTh_waiting_iff {fin : SegEnd} {th : Th Op} :
    ((finTh fin th).st = .woken ∨ ∃ c, (finTh fin th).st = .parked c) ↔ ∃ c, fin = .park c :=
  ⟨fun h => h.elim (fun h => absurd h (finTh_st_ne_woken fin th)) fun ⟨c, h⟩ => ⟨c, finTh_parked_iff.1 h⟩,
   fun ⟨c, h⟩ => .inr ⟨c, finTh_parked_iff.2 h⟩⟩

/-- the outcome `o` of a segment run by thread `t` (whose record at the start of the segment is
    `th0`, not parked) leads from `s` to `s'` -/
structure SegRel (s s' : Sys σ Op) (t : Nat) (o : SegOut σ) (th0 : Th Op) : Prop where
  wf : s'.WF
  subj : s'.subj = o.st
  self : s'.ths[t]? = some (finTh o.fin { th0 with helpers := sigHelpers o.sigs th0.helpers })
  other : ∀ (u : Nat) (th : Th Op), u ≠ t → s.ths[u]? = some th → ∃ th', s'.ths[u]? = some th' ∧ ThWake th th'
  none : ∀ (u : Nat), s.ths[u]? = none → s'.ths[u]? = none
  bcast : ∀ c, Sig.broadcast c ∈ o.sigs → ∀ (u : Nat) (th : Th Op), u ≠ t → s.ths[u]? = some th →
    th.st = .parked c → s'.ths[u]? = some th.wake
  signal : ∀ c, Sig.signal c ∈ o.sigs →
    (∃ (u : Nat) (th : Th Op), u ≠ t ∧ s.ths[u]? = some th ∧ th.st = .parked c) →
    ∃ (u : Nat) (th : Th Op), u ≠ t ∧ s.ths[u]? = some th ∧ th.st = .parked c ∧ s'.ths[u]? = some th.wake

theorem SegRel.other_inv {s s' : Sys σ Op} {t : Nat} {o : SegOut σ} {th0 : Th Op} (r : SegRel s s' t o th0)
    {u : Nat} {th' : Th Op} (hu : u ≠ t) (h : s'.ths[u]? = some th') :
    ∃ th, s.ths[u]? = some th ∧ ThWake th th' := by
  cases hth : s.ths[u]? with
  | none => rw [r.none u hth] at h; cases h
  | some th =>
    obtain ⟨th'', h'', w⟩ := r.other u th hu hth
    rw [h] at h''; cases h''
    exact ⟨th, rfl, w⟩

theorem SegRel.parked_inv {s s' : Sys σ Op} {t : Nat} {o : SegOut σ} {th0 : Th Op} (r : SegRel s s' t o th0)
    {u : Nat} {th' : Th Op} {c : Nat} (hu : u ≠ t) (h : s'.ths[u]? = some th') (hp : th'.st = .parked c) :
    s.ths[u]? = some th' := by
  obtain ⟨th, hth, w⟩ := r.other_inv hu h
  rw [hth, w.parked hp]

theorem SegRel.bcast_none {s s' : Sys σ Op} {t : Nat} {o : SegOut σ} {th0 : Th Op} (r : SegRel s s' t o th0)
    {c : Nat} (hc : Sig.broadcast c ∈ o.sigs) {u : Nat} {th' : Th Op} (hu : u ≠ t) (h : s'.ths[u]? = some th') :
    th'.st ≠ .parked c := by
  intro hp
  have h0 := r.parked_inv hu h hp
  have := r.bcast c hc u th' hu h0 hp
  rw [h] at this
  have e : th' = th'.wake := Option.some.inj this
  rw [e] at hp; simp at hp

theorem SegRel.self_eq {s s' : Sys σ Op} {t : Nat} {o : SegOut σ} {th0 th' : Th Op} (r : SegRel s s' t o th0)
    (h : s'.ths[t]? = some th') : th' = finTh o.fin { th0 with helpers := sigHelpers o.sigs th0.helpers } := by
  rw [r.self] at h; exact (Option.some.inj h).symm

theorem SegRel.returned_iff {s s' : Sys σ Op} {t : Nat} {o : SegOut σ} {th0 th' : Th Op} (r : SegRel s s' t o th0)
    (h : s'.ths[t]? = some th') : (∃ rv, o.fin = .ret rv) ↔ th'.pc = th0.pc + 1 := by
  rw [r.self_eq h]
  cases o.fin with
  | ret rv => simp [finTh_ret]
  | park c => simp

theorem SegRel.parked_iff {s s' : Sys σ Op} {t : Nat} {o : SegOut σ} {th0 th' : Th Op} (r : SegRel s s' t o th0)
    (h : s'.ths[t]? = some th') (c : Nat) : o.fin = .park c ↔ th'.st = .parked c := by
  rw [r.self_eq h]; exact finTh_parked_iff.symm

theorem SegRel.self_parked {s s' : Sys σ Op} {t : Nat} {o : SegOut σ} {th0 th' : Th Op} (r : SegRel s s' t o th0)
    (h : s'.ths[t]? = some th') {c : Nat} (hp : th'.st = .parked c) :
    o.fin = .park c ∧ th'.ops = th0.ops ∧ th'.pc = th0.pc ∧ th'.cancelled = th0.cancelled := by
  have hfin := (r.parked_iff h c).2 hp
  refine ⟨hfin, ?_⟩
  rw [r.self_eq h, hfin]
  exact ⟨rfl, rfl, rfl⟩

theorem SigRel.seg {s s2 s' : Sys σ Op} {t : Nat} {o : SegOut σ} {th0 : Th Op}
    (r : SigRel { s with subj := o.st } s2 t o.sigs) (hth : s.ths[t]? = some th0) (wf : s'.WF)
    (subj : s'.subj = o.st)
    (self : s'.ths[t]? = some (finTh o.fin { th0 with helpers := sigHelpers o.sigs th0.helpers }))
    (hoth : ∀ u, u ≠ t → s'.ths[u]? = s2.ths[u]?) : SegRel s s' t o th0 where
  wf := wf
  subj := subj
  self := self
  other := fun u th hu hthu => by rw [hoth u hu]; exact r.other u th hu hthu
  none := fun u hu => by
    by_cases hut : u = t
    · rw [hut, hth] at hu; cases hu
    · rw [hoth u hut]; exact r.none u hu
  bcast := fun c hc u th hu hthu hst => by rw [hoth u hu]; exact r.bcast c hc u th hu hthu hst
  signal := fun c hc hex => by
    obtain ⟨u, th, hu, hthu, hst, hw⟩ := r.signal c hc hex
    exact ⟨u, th, hu, hthu, hst, by rw [hoth u hu]; exact hw⟩

theorem applySeg_rel {s : Sys σ Op} (h : s.WF) {t : Nat} {th0 : Th Op} (hth : s.ths[t]? = some th0)
    (hnp : ∀ c, th0.st ≠ .parked c) (o : SegOut σ) : SegRel s (applySeg s t o).1 t o th0 := by
  have hnp1 : NotParked ({ s with subj := o.st } : Sys σ Op) t := fun th hth' => by
    rw [show _ = some th0 from hth] at hth'; cases hth'; exact hnp
  have r := sigs_rel t o.sigs (h.subj o.st) hnp1 []
  have hself := r.self th0 hth
  unfold applySeg
  generalize o.sigs.foldl (applySig t) ({ s with subj := o.st }, []) = acc at r hself ⊢
  obtain ⟨s2, woke⟩ := acc
  cases hfin : o.fin with
  | ret rv =>
    -- `t` is parked neither before nor after: the parked list stays as the signals left it
    dsimp only
    refine r.seg hth ?_ (by rw [modTh_subj, r.subj]) (by rw [modTh_get_self, hself, hfin]; rfl)
      (fun u hu => modTh_get_ne _ _ hu)
    apply r.wf.modTh
    intro th hth2 c
    rw [hself] at hth2; cases hth2
    exact ⟨fun hp => absurd hp (finTh_ret_st rv _ c), fun hp => absurd hp (hnp c)⟩
  | park c =>
    -- `(t, c)` is appended to the parked list; `t` was in no queue before (`WF.not_mem`), so `once` is kept
    dsimp only
    refine r.seg hth ⟨?_, ?_⟩ (by rw [modTh_subj]; exact r.subj) ?_ (fun u hu => modTh_get_ne _ _ hu)
    · intro u c'
      rw [modTh_parked, modTh_get]
      show (u, c') ∈ s2.parked ++ [(t, c)] ↔ ∃ th, (if u = t then Option.map _ s2.ths[u]? else s2.ths[u]?) = some th ∧ _
      rw [List.mem_append, r.wf.parked_iff]
      by_cases hut : u = t
      · subst hut
        simp only [if_true, hself, Option.map_some, List.mem_singleton, Prod.mk.injEq, true_and]
        constructor
        · rintro (⟨th, hth', hst⟩ | rfl)
          · cases hth'; exact absurd hst (hnp c')
          · exact ⟨_, rfl, rfl⟩
        · rintro ⟨th, hth', hst⟩
          cases hth'; simp at hst; exact Or.inr hst.symm
      · simp [hut]
    · rw [modTh_parked]
      show (s2.parked ++ [(t, c)]).Pairwise _
      rw [List.pairwise_append]
      refine ⟨r.wf.once, by simp, ?_⟩
      intro p hp q hq
      simp at hq; subst hq
      exact r.wf.not_mem hself hnp p hp
    · rw [modTh_get_self]
      show Option.map _ s2.ths[t]? = _
      rw [hself, hfin]; rfl

theorem SegRel.of_modTh {s s' : Sys σ Op} {t : Nat} {o : SegOut σ} {th0 : Th Op} {f : Th Op → Th Op}
    (r : SegRel (modTh s t f) s' t o th0) : SegRel s s' t o th0 where
  wf := r.wf
  subj := r.subj
  self := r.self
  other := fun u th hu hth => r.other u th hu (by rw [modTh_get_ne _ _ hu]; exact hth)
  none := fun u hu => r.none u (by rw [modTh_get, hu]; simp)
  bcast := fun c hc u th hu hth hst => r.bcast c hc u th hu (by rw [modTh_get_ne _ _ hu]; exact hth) hst
  signal := by
    intro c hc ⟨u, th, hu, hth, hst⟩
    obtain ⟨w, thw, hw, hthw, hstw, hw'⟩ := r.signal c hc ⟨u, th, hu, by rw [modTh_get_ne _ _ hu]; exact hth, hst⟩
    exact ⟨w, thw, hw, by rw [modTh_get_ne _ _ hw] at hthw; exact hthw, hstw, hw'⟩

/-- the two kinds of segment, uniformly: `th0` is the running thread's record at the start of the
    segment (for a `start` its context is fresh), `op` its current operation, `o` the outcome -/
inductive IsSeg (sub : Subject σ Op) (s : Sys σ Op) (t : Nat) : Act → Th Op → Op → SegOut σ → Prop
  | start {th : Th Op} {op : Op} : s.ths[t]? = some th → th.st = .idle → th.ops[th.pc]? = some op →
      IsSeg sub s t (.start t) { th with cancelled := false } op (sub.start s.subj t op)
  | resume {th : Th Op} {op : Op} : s.ths[t]? = some th → th.st = .woken → th.ops[th.pc]? = some op →
      IsSeg sub s t (.resume t) th op (sub.resume s.subj t op th.cancelled)

theorem IsSeg.basic {sub : Subject σ Op} {s : Sys σ Op} {t : Nat} {a : Act} {th0 : Th Op} {op : Op} {o : SegOut σ}
    (h : IsSeg sub s t a th0 op o) :
    ∃ th, s.ths[t]? = some th ∧ th0.ops = th.ops ∧ th0.pc = th.pc ∧ th0.st = th.st ∧ th0.helpers = th.helpers ∧
      th0.ops[th0.pc]? = some op ∧ (th0.st = .idle ∨ th0.st = .woken) ∧
      (a = .start t ∨ (a = .resume t ∧ th0 = th)) := by
  cases h with
  | start hth hst hop => exact ⟨_, hth, rfl, rfl, rfl, rfl, hop, Or.inl hst, Or.inl rfl⟩
  | resume hth hst hop => exact ⟨_, hth, rfl, rfl, rfl, rfl, hop, Or.inr hst, Or.inr ⟨rfl, rfl⟩⟩

theorem IsSeg.of_woken {sub : Subject σ Op} {s : Sys σ Op} {t : Nat} {a : Act} {th0 : Th Op} {op : Op} {o : SegOut σ}
    (h : IsSeg sub s t a th0 op o) (hw : th0.st = .woken) :
    a = .resume t ∧ s.ths[t]? = some th0 ∧ o = sub.resume s.subj t op th0.cancelled := by
  cases h with
  | start _ hst _ => simp only at hw; rw [hst] at hw; cases hw
  | resume hth _ _ => exact ⟨rfl, hth, rfl⟩

theorem IsSeg.of_idle {sub : Subject σ Op} {s : Sys σ Op} {t : Nat} {a : Act} {th0 : Th Op} {op : Op} {o : SegOut σ}
    (h : IsSeg sub s t a th0 op o) (hi : th0.st = .idle) :
    a = .start t ∧ th0.cancelled = false ∧ o = sub.start s.subj t op := by
  cases h with
  | start _ _ _ => exact ⟨rfl, rfl, rfl⟩
  | resume _ hst _ => rw [hst] at hi; cases hi

theorem IsSeg.unique {sub : Subject σ Op} {s : Sys σ Op} {t t' : Nat} {a : Act} {th0 th0' : Th Op} {op op' : Op}
    {o o' : SegOut σ} (h1 : IsSeg sub s t a th0 op o) (h2 : IsSeg sub s t' a th0' op' o') :
    t' = t ∧ th0' = th0 ∧ op' = op ∧ o' = o := by
  cases h1 with
  | start hth _ hop =>
    cases h2 with
    | start hth' _ hop' =>
      rw [hth] at hth'; cases hth'
      rw [hop] at hop'; cases hop'
      exact ⟨rfl, rfl, rfl, rfl⟩
  | resume hth _ hop =>
    cases h2 with
    | resume hth' _ hop' =>
      rw [hth] at hth'; cases hth'
      rw [hop] at hop'; cases hop'
      exact ⟨rfl, rfl, rfl, rfl⟩

/-- the inversion of `step` for `start` / `resume`; `IsSeg.rel`, `step_resume_rel`, `seg_of_step` and
    `seg_outcome` are this lemma for callers that already hold part of its conclusion -/
theorem step_seg {sub : Subject σ Op} {s s' : Sys σ Op} {a : Act} {t : Nat} {obs : String} (hwf : s.WF)
    (hen : a ∈ enabled s true) (h : step sub s a = some (s', obs)) (ha : a = .start t ∨ a = .resume t) :
    ∃ th0 op o, IsSeg sub s t a th0 op o ∧ SegRel s s' t o th0 := by
  rcases ha with rfl | rfl
  · obtain ⟨th, hth, hst, hpc⟩ := mem_enabled_start.1 hen
    simp only [step, hth, Option.bind_eq_bind, Option.bind_some] at h
    cases hop : th.ops[th.pc]? with
    | none => simp [hop] at h
    | some op =>
      simp only [hop, Option.bind_some, pure, Option.some.injEq, Prod.mk.injEq] at h
      refine ⟨_, op, _, .start hth hst hop, ?_⟩
      rw [← h.1]
      apply SegRel.of_modTh (f := fun th => { th with cancelled := false })
      apply applySeg_rel
      · exact hwf.modTh t _ (fun _ _ _ => Iff.rfl)
      · rw [modTh_get_self, hth]; rfl
      · intro c; simp [hst]
  · obtain ⟨th, hth, hst⟩ := mem_enabled_resume.1 hen
    simp only [step, hth, Option.bind_eq_bind, Option.bind_some] at h
    cases hop : th.ops[th.pc]? with
    | none => simp [hop] at h
    | some op =>
      simp only [hop, Option.bind_some, pure, Option.some.injEq, Prod.mk.injEq] at h
      refine ⟨_, op, _, .resume hth hst hop, ?_⟩
      rw [← h.1]
      exact applySeg_rel hwf hth (by intro c; simp [hst]) _

theorem IsSeg.rel {sub : Subject σ Op} {s s' : Sys σ Op} {a : Act} {t : Nat} {obs : String} {th0 : Th Op} {op : Op}
    {o : SegOut σ} (hseg : IsSeg sub s t a th0 op o) (hwf : s.WF) (hen : a ∈ enabled s true)
    (h : step sub s a = some (s', obs)) : SegRel s s' t o th0 := by
  have ha : a = .start t ∨ a = .resume t := by cases hseg <;> simp
  obtain ⟨th0', op', o', hseg', r⟩ := step_seg hwf hen h ha
  obtain ⟨_, rfl, rfl, rfl⟩ := hseg.unique hseg'
  exact r

theorem step_resume_rel {sub : Subject σ Op} {s s' : Sys σ Op} {t : Nat} {obs : String} (hwf : s.WF)
    (hen : Act.resume t ∈ enabled s true) (h : step sub s (.resume t) = some (s', obs)) :
    ∃ th op, s.ths[t]? = some th ∧ th.st = .woken ∧ th.ops[th.pc]? = some op ∧
      SegRel s s' t (sub.resume s.subj t op th.cancelled) th := by
  obtain ⟨th, op, _, hseg, r⟩ := step_seg hwf hen h (Or.inr rfl)
  cases hseg with
  | resume hth hst hop => exact ⟨th, op, hth, hst, hop, r⟩

theorem seg_of_step {sub : Subject σ Op} {s s' : Sys σ Op} {a : Act} {obs : String} {t : Nat} {th : Th Op} {op : Op}
    (hwf : s.WF) (hen : a ∈ enabled s true) (hs : step sub s a = some (s', obs))
    (ha : a = .start t ∨ a = .resume t) (hth : s.ths[t]? = some th) (hop : th.ops[th.pc]? = some op) :
    ∃ th0 o, IsSeg sub s t a th0 op o ∧ SegRel s s' t o th0 ∧ th0.pc = th.pc ∧
      (a = .resume t → th0 = th) ∧ (a = .start t → th0.cancelled = false) := by
  obtain ⟨th0, op', o, hseg, r⟩ := step_seg hwf hen hs ha
  cases hseg with
  | start hth' hst hop' =>
    rw [hth] at hth'; cases hth'
    rw [hop] at hop'; cases hop'
    exact ⟨_, _, .start hth hst hop, r, rfl, nofun, fun _ => rfl⟩
  | resume hth' hst hop' =>
    rw [hth] at hth'; cases hth'
    rw [hop] at hop'; cases hop'
    exact ⟨_, _, .resume hth hst hop, r, rfl, fun _ => rfl, nofun⟩

theorem seg_outcome {sub : Subject σ Op} {s s' : Sys σ Op} {a : Act} {obs : String} {t : Nat} {th th' : Th Op} {op : Op}
    (hwf : s.WF) (hen : a ∈ enabled s true) (hs : step sub s a = some (s', obs))
    (ha : a = .start t ∨ a = .resume t) (hth : s.ths[t]? = some th) (hop : th.ops[th.pc]? = some op)
    (hth' : s'.ths[t]? = some th') :
    ∃ th0 o, IsSeg sub s t a th0 op o ∧ th0.cancelled = (if a = .start t then false else th.cancelled) ∧
      s'.subj = o.st ∧ ((∃ rv, o.fin = .ret rv) → th'.pc = th.pc + 1 ∧ ∀ c, th'.st ≠ .parked c) ∧
      ∀ c, o.fin = .park c → th'.st = .parked c ∧ th'.pc = th.pc := by
  obtain ⟨th0, o, hseg, r, hpc, hres, hsta⟩ := seg_of_step hwf hen hs ha hth hop
  refine ⟨th0, o, hseg, ?_, r.subj, fun hret => ⟨hpc ▸ (r.returned_iff hth').1 hret, fun c hp => ?_⟩,
    fun c hp => ⟨(r.parked_iff hth' c).1 hp, ?_⟩⟩
  · rcases ha with rfl | rfl
    · rw [hsta rfl, if_pos rfl]
    · rw [hres rfl, if_neg nofun]
  · obtain ⟨rv, hf⟩ := hret
    have := (r.parked_iff hth' c).2 hp
    rw [hf] at this; cases this
  · rw [r.self_eq hth', hp]; exact hpc

theorem step_cancel_rel {sub : Subject σ Op} {s s' : Sys σ Op} {t : Nat} {obs : String} (hwf : s.WF)
    (hen : Act.cancel t ∈ enabled s true) (h : step sub s (.cancel t) = some (s', obs)) :
    ∃ th, s.ths[t]? = some th ∧ (th.st = .woken ∨ ∃ c, th.st = .parked c) ∧ th.cancelled = false ∧
      s'.WF ∧ s'.subj = s.subj ∧
      s'.ths[t]? = some { th with cancelled := true, helpers := gateAll th.helpers } ∧
      ∀ u, u ≠ t → s'.ths[u]? = s.ths[u]? := by
  obtain ⟨_, th, hth, hst, hc⟩ := mem_enabled_cancel.1 hen
  simp only [step, hth, Option.bind_eq_bind, Option.bind_some, pure, Option.some.injEq, Prod.mk.injEq] at h
  refine ⟨th, hth, hst, hc, ?_⟩
  rw [← h.1]
  refine ⟨hwf.modTh t _ (fun _ _ _ => Iff.rfl), rfl, by rw [modTh_get_self, hth]; rfl, ?_⟩
  intro u hu; exact modTh_get_ne _ _ hu

theorem step_fire_rel {sub : Subject σ Op} {s s' : Sys σ Op} {t : Nat} {obs : String} (hwf : s.WF)
    (h : step sub s (.fire t) = some (s', obs)) :
    ∃ th h0, s.ths[t]? = some th ∧ th.helpers.find? (fun h => h.atGate && !h.fired) = some h0 ∧
      s'.WF ∧ s'.subj = s.subj ∧
      s'.ths[t]? = some (Th.bwake h0.cond { th with helpers := step.markFired th.helpers }) ∧
      ∀ u, u ≠ t → s'.ths[u]? = (s.ths[u]?).map (Th.bwake h0.cond) := by
  cases hth : s.ths[t]? with
  | none => simp [step, hth] at h
  | some th =>
    simp only [step, hth, Option.bind_eq_bind, Option.bind_some] at h
    cases hf : th.helpers.find? (fun h => h.atGate && !h.fired) with
    | none => simp [hf] at h
    | some h0 =>
      simp only [hf, Option.bind_some, pure, Option.some.injEq, Prod.mk.injEq] at h
      have hwf1 : (modTh s t (fun th => { th with helpers := step.markFired th.helpers })).WF :=
        hwf.modTh t _ (fun _ _ _ => Iff.rfl)
      refine ⟨th, h0, rfl, hf, ?_⟩
      rw [← h.1]
      refine ⟨hwf1.broadcast _, by rw [broadcast_subj]; rfl, ?_, ?_⟩
      · rw [broadcast_get hwf1, modTh_get_self, hth]; rfl
      · intro u hu; rw [broadcast_get hwf1, modTh_get_ne _ _ hu]

/-- what `cancel` / `fire` (the action `a`) may do to thread `u` -/
def EnvTh (a : Act) (u : Nat) (x x' : Th Op) : Prop :=
  x'.ops = x.ops ∧ x'.pc = x.pc ∧ (x'.st = x.st ∨ (x'.st = .woken ∧ ∃ c, x.st = .parked c)) ∧
    (x'.cancelled = x.cancelled ∨ (a = .cancel u ∧ x'.cancelled = true))

theorem step_env {sub : Subject σ Op} {s s' : Sys σ Op} {a : Act} {obs : String} {t : Nat} (hwf : s.WF)
    (hen : a ∈ enabled s true) (hs : step sub s a = some (s', obs)) (ha : a = .cancel t ∨ a = .fire t) :
    s'.subj = s.subj ∧ ∀ u : Nat, (s.ths[u]? = none → s'.ths[u]? = none) ∧
      ∀ x, s.ths[u]? = some x → ∃ x', s'.ths[u]? = some x' ∧ EnvTh a u x x' := by
  rcases ha with rfl | rfl
  · obtain ⟨th, hth, _, _, _, hsubj, hself, hoth⟩ := step_cancel_rel hwf hen hs
    refine ⟨hsubj, fun u => ?_⟩
    by_cases hut : u = t
    · subst hut
      rw [hth, hself]
      exact ⟨nofun, fun x hx => ⟨_, rfl, by cases hx; exact ⟨rfl, rfl, Or.inl rfl, Or.inr ⟨rfl, rfl⟩⟩⟩⟩
    · rw [hoth u hut]
      exact ⟨id, fun x hx => ⟨x, hx, rfl, rfl, Or.inl rfl, Or.inl rfl⟩⟩
  · obtain ⟨th, h0, hth, _, _, hsubj, hself, hoth⟩ := step_fire_rel hwf hs
    have key : ∀ (u : Nat) (x : Th Op), EnvTh (.fire t) u x (x.bwake h0.cond) := fun u x =>
      ⟨Th.bwake_ops _ x, Th.bwake_pc _ x, (bwake_thWake _ x).st, Or.inl (Th.bwake_cancelled _ x)⟩
    refine ⟨hsubj, fun u => ?_⟩
    by_cases hut : u = t
    · subst hut
      rw [hth, hself]
      exact ⟨nofun, fun x hx => ⟨_, rfl, by cases hx; exact key u _⟩⟩
    · rw [hoth u hut]
      exact ⟨fun hn => by rw [hn]; rfl, fun x hx => ⟨_, by rw [hx]; rfl, key u x⟩⟩

/-- `step_env` for callers that do not look at the context flag -/
theorem cancel_fire_thread {sub : Subject σ Op} {s s' : Sys σ Op} {a : Act} {obs : String} {t : Nat}
    (hwf : s.WF) (hen : a ∈ enabled s true) (hs : step sub s a = some (s', obs)) (ha : a = .cancel t ∨ a = .fire t) :
    s'.subj = s.subj ∧ ∀ (u : Nat),
      (∀ th, s.ths[u]? = some th → ∃ th', s'.ths[u]? = some th' ∧ th'.ops = th.ops ∧ th'.pc = th.pc ∧
        (th'.st = th.st ∨ (th'.st = .woken ∧ ∃ c, th.st = .parked c))) ∧
      (s.ths[u]? = none → s'.ths[u]? = none) := by
  obtain ⟨hsubj, h⟩ := step_env hwf hen hs ha
  exact ⟨hsubj, fun u => ⟨fun th hth => (h u).2 th hth |>.imp fun _ h => ⟨h.1, h.2.1, h.2.2.1, h.2.2.2.1⟩, (h u).1⟩⟩

theorem cancel_fire_back {sub : Subject σ Op} {s s' : Sys σ Op} {a : Act} {obs : String} {t : Nat}
    (hwf : s.WF) (hen : a ∈ enabled s true) (hs : step sub s a = some (s', obs)) (ha : a = .cancel t ∨ a = .fire t)
    {u : Nat} {th' : Th Op} (hth' : s'.ths[u]? = some th') :
    ∃ th, s.ths[u]? = some th ∧ th'.ops = th.ops ∧ th'.pc = th.pc ∧
      (th'.st = th.st ∨ (th'.st = .woken ∧ ∃ c, th.st = .parked c)) := by
  obtain ⟨_, h⟩ := cancel_fire_thread hwf hen hs ha
  cases hth : s.ths[u]? with
  | none => rw [(h u).2 hth] at hth'; cases hth'
  | some th =>
    obtain ⟨th'', hth'', r⟩ := (h u).1 th hth
    rw [hth'] at hth''; cases hth''
    exact ⟨th, rfl, r⟩

theorem parked_of_cancel_fire {sub : Subject σ Op} {s s' : Sys σ Op} {a : Act} {obs : String} {t : Nat}
    (hwf : s.WF) (hen : a ∈ enabled s true) (hs : step sub s a = some (s', obs)) (ha : a = .cancel t ∨ a = .fire t)
    {u : Nat} {th' : Th Op} {c : Nat} (hth' : s'.ths[u]? = some th') (hp : th'.st = .parked c) :
    ∃ th, s.ths[u]? = some th ∧ th.st = .parked c ∧ th.ops = th'.ops ∧ th.pc = th'.pc := by
  obtain ⟨th, hth, hops, hpc, hst | ⟨hst, _⟩⟩ := cancel_fire_back hwf hen hs ha hth'
  · exact ⟨th, hth, hst ▸ hp, hops.symm, hpc.symm⟩
  · rw [hst] at hp; cases hp

/-- only operations satisfying `P` block: every woken or parked thread is inside one -/
def WaitingIn (P : Op → Prop) (s : Sys σ Op) : Prop :=
  ∀ (u : Nat) (th : Th Op), s.ths[u]? = some th → (th.st = .woken ∨ ∃ c, th.st = .parked c) →
    ∃ op, th.ops[th.pc]? = some op ∧ P op

theorem WaitingIn.step {P : Op → Prop} {sub : Subject σ Op} {s s' : Sys σ Op} {a : Act} {obs : String}
    (hw : WaitingIn P s) (hwf : s.WF) (hen : a ∈ enabled s true) (hs : step sub s a = some (s', obs))
    (hpark : ∀ t th0 op o, IsSeg sub s t a th0 op o → ∀ c, o.fin = .park c → P op) : WaitingIn P s' := by
  intro u th' hth' hst
  -- a thread that the step at most woke is still inside the same operation
  have keep : ∀ {th : Th Op}, s.ths[u]? = some th → th'.ops = th.ops → th'.pc = th.pc →
      (th'.st = th.st ∨ (th'.st = .woken ∧ ∃ c, th.st = .parked c)) → ∃ op, th'.ops[th'.pc]? = some op ∧ P op :=
    fun hth hops hpc hrel => hops ▸ hpc ▸ hw u _ hth ((waiting_iff_of_wake hrel).1 hst)
  rcases a.seg_or_env with ⟨t, ha⟩ | ⟨t, ha⟩
  · obtain ⟨th0, op, o, hseg, r⟩ := step_seg hwf hen hs ha
    by_cases hut : u = t
    · subst hut
      obtain rfl := r.self_eq hth'
      obtain ⟨_, _, _, _, _, _, hop, _, _⟩ := hseg.basic
      obtain ⟨c, hfin⟩ := finTh_waiting_iff.1 hst
      rw [hfin]
      exact ⟨op, hop, hpark u th0 op o hseg c hfin⟩
    · obtain ⟨th, hth, w⟩ := r.other_inv hut hth'
      exact keep hth w.ops w.pc w.st
  · obtain ⟨th, hth, hops, hpc, hrel⟩ := cancel_fire_back hwf hen hs ha hth'
    exact keep hth hops hpc hrel

theorem step_wf {sub : Subject σ Op} {s s' : Sys σ Op} {a : Act} {obs : String} (hwf : s.WF)
    (hen : a ∈ enabled s true) (h : step sub s a = some (s', obs)) : s'.WF := by
  rcases a.seg_or_env with ⟨t, ha⟩ | ⟨t, rfl | rfl⟩
  · obtain ⟨_, _, _, _, r⟩ := step_seg hwf hen h ha; exact r.wf
  · obtain ⟨_, _, _, _, w, _⟩ := step_cancel_rel hwf hen h; exact w
  · obtain ⟨_, _, _, _, w, _⟩ := step_fire_rel hwf h; exact w

/-- seen through a function `g` of the thread records that a wake-up does not change, a segment is a `set` at the
    running thread -/
theorem SegRel.map_eq {β : Type} {s s' : Sys σ Op} {t : Nat} {o : SegOut σ} {th0 : Th Op} (r : SegRel s s' t o th0)
    (g : Th Op → β) (hg : ∀ {x x' : Th Op}, ThWake x x' → g x' = g x) :
    s'.ths.map g = (s.ths.map g).set t (g (finTh o.fin { th0 with helpers := sigHelpers o.sigs th0.helpers })) := by
  apply List.ext_getElem?
  intro u
  rw [List.getElem?_set, List.getElem?_map, List.getElem?_map, List.length_map]
  by_cases hut : t = u
  · subst hut
    have : t < s.ths.length := by
      refine Nat.lt_of_not_le fun hle => ?_
      have := r.none t (List.getElem?_eq_none hle)
      rw [r.self] at this; cases this
    rw [if_pos rfl, if_pos this, r.self]; rfl
  · rw [if_neg hut]
    cases h1 : s.ths[u]? with
    | none => rw [r.none u h1]
    | some th1 =>
      obtain ⟨th', h', w⟩ := r.other u th1 (Ne.symm hut) h1
      rw [h']; exact congrArg some (hg w)

/-- … and `cancel` / `fire` change nothing, if `g` reads `ops` and `pc` only -/
theorem cancel_fire_map_eq {β : Type} {sub : Subject σ Op} {s s' : Sys σ Op} {a : Act} {obs : String} {t : Nat}
    (g : Th Op → β) (hg : ∀ {x x' : Th Op}, x'.ops = x.ops → x'.pc = x.pc → g x' = g x)
    (hwf : s.WF) (hen : a ∈ enabled s true) (hs : step sub s a = some (s', obs)) (ha : a = .cancel t ∨ a = .fire t) :
    s'.ths.map g = s.ths.map g := by
  apply List.ext_getElem?
  intro u
  rw [List.getElem?_map, List.getElem?_map]
  obtain ⟨hsome, hnone⟩ := (cancel_fire_thread hwf hen hs ha).2 u
  cases h1 : s.ths[u]? with
  | none => rw [hnone h1]
  | some th1 =>
    obtain ⟨th', h', hops, hpc, _⟩ := hsome th1 h1
    rw [h']; exact congrArg some (hg hops hpc)

theorem step_ops {sub : Subject σ Op} {s s' : Sys σ Op} {a : Act} {obs : String} (hwf : s.WF)
    (hen : a ∈ enabled s true) (hs : step sub s a = some (s', obs)) : s'.ths.map Th.ops = s.ths.map Th.ops := by
  rcases a.seg_or_env with ⟨t, ha⟩ | ⟨t, ha⟩
  · obtain ⟨th0, op, o, hseg, r⟩ := step_seg hwf hen hs ha
    obtain ⟨th, hth, hops, _⟩ := hseg.basic
    obtain ⟨ht, e⟩ := List.getElem?_eq_some_iff.1 hth
    rw [r.map_eq Th.ops ThWake.ops, finTh_ops, hops, ← e, ← List.getElem_map Th.ops (h := by simpa using ht),
      List.set_getElem_self]
  · exact cancel_fire_map_eq Th.ops (fun h _ => h) hwf hen hs ha

theorem step_length {sub : Subject σ Op} {s s' : Sys σ Op} {a : Act} {obs : String} (hwf : s.WF)
    (hen : a ∈ enabled s true) (h : step sub s a = some (s', obs)) : s'.ths.length = s.ths.length := by
  simpa using congrArg List.length (step_ops hwf hen h)

/-- the thread records `runCase` starts from -/
theorem initThs_get {programs : List (List Op)} {t : Nat} {th : Th Op}
    (h : (programs.map fun p => ({ ops := p, st := if p.isEmpty then .done else .idle } : Th Op))[t]? = some th) :
    ∃ p, programs[t]? = some p ∧ th = { ops := p, st := if p.isEmpty then .done else .idle } := by
  rw [List.getElem?_map] at h
  cases hp : programs[t]? with
  | none => rw [hp] at h; cases h
  | some p => rw [hp] at h; exact ⟨p, rfl, (Option.some.inj h).symm⟩

theorem initThs_st {programs : List (List Op)} {t : Nat} {th : Th Op}
    (h : (programs.map fun p => ({ ops := p, st := if p.isEmpty then .done else .idle } : Th Op))[t]? = some th) :
    th.st = .idle ∨ th.st = .done := by
  obtain ⟨p, _, rfl⟩ := initThs_get h
  cases p <;> simp

/-- states reachable by taking enabled actions (cancellations included) -/
inductive Reach (sub : Subject σ Op) (s0 : Sys σ Op) : Sys σ Op → Prop
  | init : Reach sub s0 s0
  | step {s s' : Sys σ Op} {a : Act} {obs : String} :
      Reach sub s0 s → a ∈ enabled s true → FunModel.Conc.step sub s a = some (s', obs) → Reach sub s0 s'

theorem Reach.inv {sub : Subject σ Op} {s0 s : Sys σ Op} (P : Sys σ Op → Prop) (h0 : P s0)
    (hstep : ∀ s a s' obs, Reach sub s0 s → P s → a ∈ enabled s true → FunModel.Conc.step sub s a = some (s', obs) → P s')
    (hr : Reach sub s0 s) : P s := by
  induction hr with
  | init => exact h0
  | step hr ha hs ih => exact hstep _ _ _ _ hr ih ha hs

theorem Reach.trans {sub : Subject σ Op} {s0 s1 s2 : Sys σ Op} (h1 : Reach sub s0 s1) (h2 : Reach sub s1 s2) :
    Reach sub s0 s2 := by
  induction h2 with
  | init => exact h1
  | step _ ha hs ih => exact .step ih ha hs

theorem Reach.wf {sub : Subject σ Op} {s0 s : Sys σ Op} (hr : Reach sub s0 s) (h0 : s0.WF) : s.WF :=
  hr.inv Sys.WF h0 (fun _ _ _ _ _ hwf hen hs => step_wf hwf hen hs)

theorem Reach.inv_wf {sub : Subject σ Op} {s0 s : Sys σ Op} (P : Sys σ Op → Prop) (hwf0 : s0.WF) (h0 : P s0)
    (hstep : ∀ s a s' obs, Reach sub s0 s → s.WF → P s → a ∈ enabled s true →
      FunModel.Conc.step sub s a = some (s', obs) → P s')
    (hr : Reach sub s0 s) : P s :=
  (hr.inv (fun s => s.WF ∧ P s) ⟨hwf0, h0⟩
    (fun s a s' obs hr ⟨hwf, hp⟩ hen hs => ⟨step_wf hwf hen hs, hstep s a s' obs hr hwf hp hen hs⟩)).2

theorem Reach.waitingIn {P : Op → Prop} {sub : Subject σ Op} {s0 s : Sys σ Op} (hr : Reach sub s0 s) (hwf0 : s0.WF)
    (h0 : WaitingIn P s0)
    (hpark : ∀ s a t th0 op o, IsSeg sub s t a th0 op o → ∀ c, o.fin = .park c → P op) : WaitingIn P s :=
  hr.inv_wf (WaitingIn P) hwf0 h0 fun s a _ _ _ hwf h hen hs => h.step hwf hen hs (hpark s a)

theorem Reach.subj_inv {sub : Subject σ Op} {s0 s : Sys σ Op} (P : σ → Prop) (hwf0 : s0.WF) (h0 : P s0.subj)
    (hstart : ∀ x t op, P x → P (sub.start x t op).st)
    (hresume : ∀ x t op c, P x → P (sub.resume x t op c).st)
    (hr : Reach sub s0 s) : P s.subj := by
  refine Reach.inv_wf (fun s => P s.subj) hwf0 h0 ?_ hr
  intro s a s' obs _ hwf hp hen hs
  rcases a.seg_or_env with ⟨t, ha⟩ | ⟨t, ha⟩
  · obtain ⟨th0, op, o, hseg, r⟩ := step_seg hwf hen hs ha
    rw [r.subj]
    cases hseg with
    | start _ _ _ => exact hstart _ _ _ hp
    | resume _ _ _ => exact hresume _ _ _ _ hp
  · rw [(step_env hwf hen hs ha).1]; exact hp

theorem Reach.ops_eq {sub : Subject σ Op} {s0 s : Sys σ Op} (hwf0 : s0.WF) (hr : Reach sub s0 s) :
    ∀ u : Nat, (s.ths[u]?).map Th.ops = (s0.ths[u]?).map Th.ops := by
  refine Reach.inv_wf (fun s => ∀ u : Nat, (s.ths[u]?).map Th.ops = (s0.ths[u]?).map Th.ops) hwf0 (fun _ => rfl) ?_ hr
  intro s a s' obs _ hwf hp hen hs u
  rw [← hp u, ← List.getElem?_map, ← List.getElem?_map, step_ops hwf hen hs]

theorem runChoices_closed {sub : Subject σ Op} {R : Sys σ Op → Prop}
    (hR : ∀ {s a s' obs}, R s → a ∈ enabled s true → step sub s a = some (s', obs) → R s')
    (choices : List Nat) {s : Sys σ Op} (hr : R s) (log : List String) : R (runChoices sub s choices log).1 := by
  induction choices generalizing s log with
  | nil => exact hr
  | cons c rest ih =>
    unfold runChoices
    simp only
    split
    · exact hr
    · split
      · exact hr
      · rename_i a ha
        split
        · exact hr
        · rename_i s' obs hs
          exact ih (hR hr (List.mem_of_getElem? ha) hs) _

theorem drain_closed {sub : Subject σ Op} {R : Sys σ Op → Prop}
    (hR : ∀ {s a s' obs}, R s → a ∈ enabled s true → step sub s a = some (s', obs) → R s')
    (fuel : Nat) {s : Sys σ Op} (hr : R s) (log : List String) : R (drain sub s fuel log).1 := by
  induction fuel generalizing s log with
  | zero => exact hr
  | succ n ih =>
    unfold drain
    simp only
    split
    · exact hr
    · rename_i a rest hen
      split
      · exact hr
      · rename_i s' obs hs
        exact ih (hR hr (enabled_false_sub (by rw [hen]; exact List.mem_cons_self)) hs) _

end FunModel.Conc
