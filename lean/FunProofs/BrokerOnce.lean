import FunProofs.BrokerUniq
import FunProofs.BrokerLive

/-! C08: conservation for a subscriber in the map of a lossless broker — every message taken by the event loop
    since it was added has reached it, is on its way to it, or is still ahead of it (`Owed`); at a quiescent state
    with every subscriber receiving it has reached it, once (`once_at_quiet`). The counting is `flow_step`'s
    (`Owed.of_flow`); the rest is about who is in the map and when a range started. -/
namespace FunProofs.Broker
open FunModel.Broker

/-- `m` has been taken and not yet offered to `k`: what `0 < ahead s k m` says, place by place (`cases_of_owed`) -/
def Ahead (s : St) (k : Sub) (m : Msg) : Prop :=
  m ∈ s.loop.msgs ∨ m ∈ s.buf ∨ (∃ w : Nat, s.ws[w]? = some (Worker.got m)) ∨
    ∃ (w : Nat) (start visited : List Sub), s.ws[w]? = some (Worker.iter m start visited) ∧ k ∉ visited

def owed (s : St) (k : Sub) (m : Msg) : Nat := dcount s k m + ahead s k m

theorem cases_of_owed {s : St} {k : Sub} {m : Msg} (h : 0 < owed s k m) :
    m ∈ s.recvd k ∨ m ∈ s.chan k ∨ (k, m) ∈ s.sends ∨ Ahead s k m := by
  simp only [owed, dcount, ahead, Nat.add_pos_iff_pos_or_pos, List.count_pos_iff, or_assoc] at h
  refine h.imp_right (·.imp_right (·.imp_right (·.imp_right (·.imp_right fun h => ?_))))
  obtain ⟨x, hx, hm⟩ := List.mem_flatMap.mp h
  obtain ⟨w, hw⟩ := List.mem_iff_getElem?.mp hx
  cases x with
  | idle | exited => cases hm
  | got m' => cases List.mem_singleton.mp hm; exact .inl ⟨w, hw⟩
  | iter m' start visited =>
    simp only [aheadMsgs] at hm
    split at hm
    · cases hm
    · cases List.mem_singleton.mp hm; exact .inr ⟨w, start, visited, hw, ‹_›⟩

/-- the workers `ws` that range with a message owed to a subscriber began to range when it was in the map -/
def Starts (s : St) (ws : List Worker) : Prop :=
  ∀ (m : Msg) (start visited : List Sub), Worker.iter m start visited ∈ ws →
    ∀ k ∈ s.subs, m ∈ s.since k → k ∈ start

structure Owed (s : St) : Prop where
  /-- so that a key entering the map starts with no history -/
  none : ∀ k, k ∉ s.subs → s.since k = []
  loc : s.live = true → ∀ k ∈ s.subs, ∀ m ∈ s.since k, 0 < owed s k m
  /-- what keeps `wDone` from ending a range that has not yielded `k`: `rangeDone` asks for the keys in `start` -/
  start : s.live = true → Starts s s.ws

theorem owed_init (c : Cfg) : Owed (init c) :=
  ⟨fun _ _ => rfl, fun _ => nofun,
    fun _ _ _ _ h => nomatch (List.mem_replicate.mp h).2⟩

theorem Owed.of_dead {s : St} (hn : ∀ k, k ∉ s.subs → s.since k = []) (hd : s.live = false) : Owed s :=
  ⟨hn, (fun h => nomatch hd.symm.trans h), (fun h => nomatch hd.symm.trans h)⟩

/-- for a step that leaves the map and the windows alone: none of `Flow`'s three excuses for losing a message holds -/
theorem Owed.of_flow {c : Cfg} (hloss : c.backend.lossless = true) {s s' : St} {a : Act} (ho : Owed s)
    (flows : ∀ k m, Flow c s s' a k m) (hrest : (s'.live, s'.subs, s'.since) = (s.live, s.subs, s.since))
    (hst : s.live = true → Starts s s'.ws) : Owed s' := by
  simp only [Prod.mk.injEq] at hrest
  obtain ⟨h1, h2, h3⟩ := hrest
  refine ⟨?_, ?_, ?_⟩
  · rw [h2, h3]; exact ho.none
  · rw [h1, h2, h3]
    intro hl k hk m hm
    obtain ⟨t, q, o, g, l, -, ha, -, hd, hg, hlost⟩ := flows k m
    have hl0 : l = 0 := hlost.resolve_right fun h => nomatch h.symm.trans hl
    have hg0 : g = 0 := by
      rcases hg with h | h | h | ⟨w, start, visited, hw, hr, hkv⟩
      · exact h
      · exact nomatch h.symm.trans hl
      · exact nomatch h.symm.trans hloss
      · -- the range may only end once every key present at its start (`k` is one) was yielded
        simp only [rangeDone, List.all_eq_true, Bool.or_eq_true, Bool.not_eq_true', List.contains_eq_mem,
          decide_eq_true_eq, decide_eq_false_iff_not] at hr
        exact absurd ((hr k (ho.start hl m start visited (List.mem_of_getElem? hw) k hk hm)).resolve_left (absurd hk)) hkv
    -- an offer moves a copy from `ahead` to `dcount`: `owed` grows by `t`
    have := ho.loc hl k hk m hm
    simp only [owed] at this ⊢; omega
  · simp only [Starts, h1, h2, h3]; exact hst

theorem owed_step {c : Cfg} (hloss : c.backend.lossless = true) {s s' : St} {a : Act} (hu : Uniq s)
    (ho : Owed s) (h : Step c s a s') : Owed s' := by
  have start_set : ∀ {w : Nat} {y : Worker}, Starts s [y] → s.live = true → Starts s (s.ws.set w y) :=
    fun hy hl m st v h =>
      (List.mem_or_eq_of_mem_set h).elim (ho.start hl m st v) fun e => hy m st v (e ▸ List.mem_cons_self)
  have idles : ∀ {y : Worker}, (∀ m st v, y ≠ .iter m st v) → Starts s [y] :=
    fun hy m st v h => absurd (List.mem_singleton.mp h).symm (hy m st v)
  have flows := ho.of_flow hloss (flow_step h)
  cases h
  case stop => exact .of_dead ho.none rfl
  case loopSendAbort hd | loopExit hd | wAbandonGot hd _ | wAbandonIter hd _ | wExit hd _ | sendAbort hd =>
    exact .of_dead ho.none hd
  case loopSubQ k0 _ _ _ | loopSub k0 _ _ _ =>
    -- a key new to the map has no history
    have old : ∀ k ∈ insertSub k0 s.subs, ∀ m ∈ s.since k, k ∈ s.subs := by
      intro k hk m hm
      rcases mem_insertSub.mp hk with h | rfl
      · exact h
      · exact Decidable.byContradiction fun hn => by rw [ho.none _ hn] at hm; cases hm
    exact ⟨fun k hk => ho.none k fun h => hk (mem_insertSub.mpr (Or.inl h)),
      fun hl k hk m hm => ho.loc hl k (old k hk m hm) m hm,
      fun hl m st v hw k hk hm => ho.start hl m st v hw k (old k hk m hm) hm⟩
  case loopUnsubQ k0 _ _ _ | loopUnsub k0 _ _ _ =>
    refine ⟨fun k hk => ?_, fun hl k hk m hm => ?_, fun hl m st v hw k hk hm => ?_⟩
    · show upd s.since k0 [] k = []
      rw [upd_apply]
      split
      · rfl
      · rename_i hne
        exact ho.none k fun h => hk ((List.mem_erase_of_ne hne).mpr h)
    all_goals
      change m ∈ upd s.since k0 [] k at hm
      rw [upd_apply] at hm
      split at hm
      · cases hm
    · exact ho.loc hl k (List.mem_of_mem_erase hk) m hm
    · exact ho.start hl m st v hw k (List.mem_of_mem_erase hk) hm
  case loopTake i m x hl hc =>
    refine ⟨fun k hk => ?_, fun hl' k hk m' hm' => ?_, fun hl' m1 st v hw k hk hm => ?_⟩
    · simp only [hk, if_false]; exact ho.none k hk
    · simp only [hk, if_true, List.mem_append, List.mem_singleton] at hm'
      rcases hm' with hm' | rfl
      · have := ho.loc hl' k hk m' hm'
        simp only [owed, ahead, dcount, hl, Loop.msgs, List.count_nil] at this ⊢; omega
      · simp only [owed, ahead, Loop.msgs, List.count_cons_self]; omega
    · simp only [hk, if_true, List.mem_append, List.mem_singleton] at hm
      rcases hm with hm | rfl
      · exact ho.start hl' m1 st v hw k hk hm
      · -- the message just taken was in a pending call, so no worker holds it
        obtain ⟨w, hw⟩ := List.mem_iff_getElem?.mp hw
        have h1 := List.count_flatMap_ge Call.msgs m1 hc
        have h2 := List.count_flatMap_ge Worker.msgs m1 hw
        have h3 := hu.once m1
        simp only [occ, callMsgs, workerMsgs, Call.msgs, Worker.msgs, List.count_cons_self, List.count_nil] at h1 h2 h3
        omega
  case wRecvBuf | wRecvDirect | wDone => exact flows rfl (start_set (idles nofun))
  case wStart w m hw =>
    exact flows rfl (start_set fun _ _ _ h k hk _ => by cases List.mem_singleton.mp h; exact hk)
  case wNext w k0 m start visited hw hk0 hv hp =>
    exact flows rfl fun hl' => start_set (fun _ _ _ h => by
      cases List.mem_singleton.mp h; exact ho.start hl' _ _ visited (List.mem_of_getElem? hw)) hl'
  all_goals exact flows rfl ho.start

theorem owed_reachable {c : Cfg} (hloss : c.backend.lossless = true) {s : St} (h : Reachable c s) : Owed s :=
  reachable_induction Owed (owed_init c) (fun _ _ _ hr ho hs => owed_step hloss (uniq_reachable hr) ho hs) h

theorem once_at_quiet {c : Cfg} (hloss : c.backend.lossless = true) {s : St}
    (hr : Reachable c s) (hl : s.live = true) (hopen : allOpen s = true) (hq : quiescent c s = true)
    {k : Sub} (hk : k ∈ s.subs) {m : Msg} (hm : m ∈ s.since k) : (s.recvd k).count m = 1 := by
  have hi := idle_of_quiescent (Cfg.valid_of_lossless hloss) (wf_reachable hr) hl hopen hq
  have hws : s.ws.flatMap (aheadMsgs k) = [] :=
    List.flatMap_eq_nil_iff.mpr fun w hw => by rw [hi.workers w hw]; rfl
  have h1 := (owed_reachable hloss hr).loc hl k hk m hm
  have h2 := (uniq_reachable hr).donce k m
  simp only [owed, ahead, dcount, hi.chans k, hi.sends, hi.loop, hi.buf, hws, Loop.msgs, List.count_nil] at h1 h2
  omega

end FunProofs.Broker
