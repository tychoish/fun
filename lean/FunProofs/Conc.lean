import FunProofs.ConcStep

/-! Runs of the small-step machine `FunModel.Conc` (any `Subject`; `Reach` is defined in
    FunProofs/ConcStep.lean): the initial system, quiescence, `ReachT` (which also records the segments), the
    helper-goroutine discipline `HelperInv`, the wake-up witness `Wit`, and the monitor invariant `Mon`, which
    a subject gets along every run from obligations on its segments (`Reach.mon`). C06, C07, C14, C20Live,
    C20Deque are stated over these runs. FunProofs/ConcSubj.lean has runs with a log of its own (`Reach'`, for
    C05, C20), related to `Reach` by `Reach'.reach`; its head says what to qualify where both are open. -/

namespace FunModel.Conc
variable {σ Op : Type}

/-- the initial system exactly as `runCase` builds it -/
def initSys (init : σ) (programs : List (List Op)) : Sys σ Op :=
  { subj := init, ths := programs.map (fun p => { ops := p, st := if p.isEmpty then .done else .idle }) }

theorem initSys_wf (init : σ) (programs : List (List Op)) : (initSys init programs).WF :=
  .of_none_parked rfl fun _ _ h c hc => by rcases initThs_st h with e | e <;> rw [e] at hc <;> cases hc

theorem Reach.wf_init {sub : Subject σ Op} {init : σ} {programs : List (List Op)} {s : Sys σ Op}
    (hr : Reach sub (initSys init programs) s) : s.WF := hr.wf (initSys_wf init programs)

theorem initSys_waitingIn (P : Op → Prop) (init : σ) (programs : List (List Op)) :
    WaitingIn P (initSys init programs) := by
  intro u th hth hst
  rcases initThs_st hth with e | e <;> rw [e] at hst <;> simp at hst

/-- internal actions: a woken goroutine re-acquiring the lock, a helper goroutine firing -/
def Act.internal : Act → Bool
  | .resume _ => true
  | .fire _ => true
  | _ => false

/-- no internal action is enabled: every operation in progress is parked -/
def Quiescent (s : Sys σ Op) : Prop := ∀ a ∈ enabled s false, a.internal = false

instance (s : Sys σ Op) : Decidable (Quiescent s) := by unfold Quiescent; infer_instance

theorem Quiescent.no_woken {s : Sys σ Op} (q : Quiescent s) {t : Nat} {th : Th Op}
    (h : s.ths[t]? = some th) : th.st ≠ .woken := by
  intro hw
  have := q (.resume t) (mem_enabled_resume.2 ⟨th, h, hw⟩)
  simp [Act.internal] at this

theorem Quiescent.no_gate {s : Sys σ Op} (q : Quiescent s) {t : Nat} {th : Th Op}
    (h : s.ths[t]? = some th) : th.hasGate = false := by
  cases hg : th.hasGate with
  | false => rfl
  | true =>
    have := q (.fire t) (mem_enabled_fire.2 ⟨th, h, hg⟩)
    simp [Act.internal] at this

theorem quiescent_iff {s : Sys σ Op} :
    Quiescent s ↔ ∀ (t : Nat) (th : Th Op), s.ths[t]? = some th → th.st ≠ .woken ∧ th.hasGate = false := by
  constructor
  · intro q t th h; exact ⟨q.no_woken h, q.no_gate h⟩
  · intro h a ha
    cases a with
    | start t => rfl
    | cancel t => rfl
    | resume t => obtain ⟨th, hth, hw⟩ := mem_enabled_resume.1 ha; exact absurd hw (h t th hth).1
    | fire t => obtain ⟨th, hth, hg⟩ := mem_enabled_fire.1 ha; rw [(h t th hth).2] at hg; cases hg

/-- the string `runCase` returns is the log and the final line of the state `runCase_final_reach` is about -/
theorem runCase_eq (sub : Subject σ Op) (init : σ) (programs : List (List Op)) (choices : List Nat) :
    runCase sub init programs choices =
      (let r1 := runChoices sub (initSys init programs) choices []
       let r2 := drain sub r1.1 200 r1.2
       " ; ".intercalate (r2.2 ++ [s!"final blocked=[{blockedStr sub r2.1}] {sub.final r2.1.subj}"])) := by
  unfold runCase initSys
  rfl

theorem runCase_final_reach (sub : Subject σ Op) (init : σ) (programs : List (List Op)) (choices : List Nat) :
    Reach sub (initSys init programs)
      (drain sub (runChoices sub (initSys init programs) choices []).1 200
        (runChoices sub (initSys init programs) choices []).2).1 :=
  drain_closed .step _ (runChoices_closed .step _ .init _) _

/-- run an explicit list of actions, checking enabledness (for concrete examples) -/
def runActs (sub : Subject σ Op) (s : Sys σ Op) : List Act → Option (Sys σ Op)
  | [] => some s
  | a :: r =>
    if a ∈ enabled s true then
      match step sub s a with
      | some (s', _) => runActs sub s' r
      | none => none
    else none

theorem reach_of_runActs {sub : Subject σ Op} {s0 : Sys σ Op} (acts : List Act) {s s' : Sys σ Op}
    (h : runActs sub s acts = some s') (hr : Reach sub s0 s) : Reach sub s0 s' := by
  induction acts generalizing s with
  | nil => simp [runActs] at h; subst h; exact hr
  | cons a r ih =>
    unfold runActs at h
    split at h
    · rename_i hen
      split at h
      · rename_i s1 obs hs; exact ih h (.step hr hen hs)
      · cases h
    · cases h

/-- one executed segment: who ran, inside which operation, how it ended (what the harness prints) -/
structure Ev (Op : Type) where
  t : Nat
  op : Op
  fin : SegEnd

/-- reachability that also records the executed segments, oldest first -/
inductive ReachT (sub : Subject σ Op) (s0 : Sys σ Op) : List (Ev Op) → Sys σ Op → Prop
  | init : ReachT sub s0 [] s0
  | seg {evs : List (Ev Op)} {s s' : Sys σ Op} {a : Act} {obs : String} {t : Nat} {th0 : Th Op} {op : Op}
      {o : SegOut σ} : ReachT sub s0 evs s → a ∈ enabled s true → FunModel.Conc.step sub s a = some (s', obs) →
      IsSeg sub s t a th0 op o → ReachT sub s0 (evs ++ [⟨t, op, o.fin⟩]) s'
  | other {evs : List (Ev Op)} {s s' : Sys σ Op} {a : Act} {obs : String} {t : Nat} :
      ReachT sub s0 evs s → a ∈ enabled s true → FunModel.Conc.step sub s a = some (s', obs) →
      (a = .cancel t ∨ a = .fire t) → ReachT sub s0 evs s'

theorem ReachT.reach {sub : Subject σ Op} {s0 s : Sys σ Op} {evs : List (Ev Op)} (h : ReachT sub s0 evs s) :
    Reach sub s0 s := by
  induction h with
  | init => exact .init
  | seg _ hen hs _ ih => exact .step ih hen hs
  | other _ hen hs _ ih => exact .step ih hen hs

theorem Reach.reachT {sub : Subject σ Op} {s0 s : Sys σ Op} (hr : Reach sub s0 s) (h0 : s0.WF) :
    ∃ evs, ReachT sub s0 evs s := by
  induction hr with
  | init => exact ⟨[], .init⟩
  | @step s1 s2 a obs hr1 hen hs ih =>
    obtain ⟨evs, ht⟩ := ih
    have hwf := hr1.wf h0
    rcases a.seg_or_env with ⟨t, ha⟩ | ⟨t, ha⟩
    · obtain ⟨th0, op, o, hseg, _⟩ := step_seg hwf hen hs ha
      exact ⟨_, .seg ht hen hs hseg⟩
    · exact ⟨evs, .other ht hen hs ha⟩

/-- a helper for condition `c` whose context is still live (not at its gate, not fired) -/
def Fresh (c : Nat) (hs : List Helper) : Prop := ∃ h ∈ hs, h.cond = c ∧ h.atGate = false ∧ h.fired = false
/-- a helper for condition `c` that has not broadcast yet -/
def Live (c : Nat) (hs : List Helper) : Prop := ∃ h ∈ hs, h.cond = c ∧ h.fired = false
/-- a helper for condition `c` whose context is done and whose broadcast is still to come -/
def Pending (c : Nat) (hs : List Helper) : Prop := ∃ h ∈ hs, h.cond = c ∧ h.atGate = true ∧ h.fired = false

theorem Fresh.live {c : Nat} {hs : List Helper} : Fresh c hs → Live c hs
  | ⟨h, hm, hc, _, hf⟩ => ⟨h, hm, hc, hf⟩
theorem Pending.live {c : Nat} {hs : List Helper} : Pending c hs → Live c hs
  | ⟨h, hm, hc, _, hf⟩ => ⟨h, hm, hc, hf⟩

theorem hasGate_iff (th : Th Op) : th.hasGate = true ↔ ∃ c, Pending c th.helpers := by
  simp only [Th.hasGate, List.any_eq_true, Pending]
  constructor
  · rintro ⟨h, hm, hp⟩
    simp at hp
    exact ⟨h.cond, h, hm, rfl, hp.1, hp.2⟩
  · rintro ⟨c, h, hm, _, hg, hf⟩
    exact ⟨h, hm, by simp [hg, hf]⟩

theorem Pending.hasGate {c : Nat} {th : Th Op} (h : Pending c th.helpers) : th.hasGate = true :=
  (hasGate_iff th).2 ⟨c, h⟩

theorem mem_gateAll {hs : List Helper} {x : Helper} :
    x ∈ gateAll hs ↔ ∃ h ∈ hs, x = if h.fired then h else { h with atGate := true } := by
  simp only [gateAll, List.mem_map]
  constructor
  · rintro ⟨h, hm, he⟩; exact ⟨h, hm, he.symm⟩
  · rintro ⟨h, hm, he⟩; exact ⟨h, hm, he.symm⟩

theorem live_gateAll {c : Nat} {hs : List Helper} : Live c (gateAll hs) ↔ Live c hs := by
  constructor
  · rintro ⟨x, hm, hc, hf⟩
    obtain ⟨h, hh, rfl⟩ := mem_gateAll.1 hm
    by_cases hfd : h.fired = true
    · simp [hfd] at hf
    · simp [hfd] at hc hf; exact ⟨h, hh, hc, by simpa using hfd⟩
  · rintro ⟨h, hm, hc, hf⟩
    exact ⟨_, mem_gateAll.2 ⟨h, hm, rfl⟩, by simp [hf, hc], by simp [hf]⟩

theorem pending_gateAll {c : Nat} {hs : List Helper} : Pending c (gateAll hs) ↔ Live c hs := by
  constructor
  · intro h; exact live_gateAll.1 h.live
  · rintro ⟨h, hm, hc, hf⟩
    exact ⟨_, mem_gateAll.2 ⟨h, hm, rfl⟩, by simp [hf, hc], by simp [hf], by simp [hf]⟩

theorem Fresh.append {c : Nat} {hs : List Helper} (l : List Helper) : Fresh c hs → Fresh c (hs ++ l)
  | ⟨h, hm, r⟩ => ⟨h, List.mem_append_left _ hm, r⟩
theorem Live.append {c : Nat} {hs : List Helper} (l : List Helper) : Live c hs → Live c (hs ++ l)
  | ⟨h, hm, r⟩ => ⟨h, List.mem_append_left _ hm, r⟩
theorem Pending.append {c : Nat} {hs : List Helper} (l : List Helper) : Pending c hs → Pending c (hs ++ l)
  | ⟨h, hm, r⟩ => ⟨h, List.mem_append_left _ hm, r⟩
theorem fresh_spawn (c : Nat) (hs : List Helper) : Fresh c (hs ++ [{ cond := c }]) :=
  ⟨{ cond := c }, by simp, rfl, rfl, rfl⟩

theorem mem_markFired {hs : List Helper} {x : Helper} (hx : x ∈ hs) :
    x ∈ step.markFired hs ∨ hs.find? (fun h => h.atGate && !h.fired) = some x := by
  induction hs with
  | nil => cases hx
  | cons h r ih =>
    unfold step.markFired
    by_cases hp : (h.atGate && !h.fired) = true
    · rw [if_pos hp, List.find?_cons, hp]
      rcases List.mem_cons.1 hx with rfl | hxr
      · right; rfl
      · left; exact List.mem_cons_of_mem _ hxr
    · rw [if_neg hp, List.find?_cons]; simp only [hp]
      rcases List.mem_cons.1 hx with rfl | hxr
      · left; exact List.mem_cons_self
      · rcases ih hxr with h1 | h1
        · left; exact List.mem_cons_of_mem _ h1
        · right; exact h1

theorem Fresh.markFired {c : Nat} {hs : List Helper} : Fresh c hs → Fresh c (step.markFired hs)
  | ⟨h, hm, hc, hg, hf⟩ => by
    rcases mem_markFired hm with h1 | h1
    · exact ⟨h, h1, hc, hg, hf⟩
    · have := List.find?_some h1; simp [hg] at this

theorem Pending.markFired {c : Nat} {hs : List Helper} {h0 : Helper}
    (hf0 : hs.find? (fun h => h.atGate && !h.fired) = some h0) (hne : h0.cond ≠ c) :
    Pending c hs → Pending c (step.markFired hs)
  | ⟨h, hm, hc, hg, hf⟩ => by
    rcases mem_markFired hm with h1 | h1
    · exact ⟨h, h1, hc, hg, hf⟩
    · rw [hf0] at h1; cases h1; exact absurd hc hne

theorem Live.markFired {c : Nat} {hs : List Helper} {h0 : Helper}
    (hf0 : hs.find? (fun h => h.atGate && !h.fired) = some h0) (hne : h0.cond ≠ c) :
    Live c hs → Live c (step.markFired hs)
  | ⟨h, hm, hc, hf⟩ => by
    rcases mem_markFired hm with h1 | h1
    · exact ⟨h, h1, hc, hf⟩
    · rw [hf0] at h1; cases h1; exact absurd hc hne

theorem Live.sigHelpers {c : Nat} (sigs : List Sig) {hs : List Helper} (h : Live c hs) :
    Live c (sigHelpers sigs hs) := by
  induction sigs generalizing hs with
  | nil => exact h
  | cons sg r ih =>
    cases sg with
    | signal _ => exact ih h
    | broadcast _ => exact ih h
    | spawn c' => exact ih (h.append _)
    | release => exact ih (live_gateAll.2 h)

theorem Pending.sigHelpers {c : Nat} (sigs : List Sig) {hs : List Helper} (h : Pending c hs) :
    Pending c (sigHelpers sigs hs) := by
  induction sigs generalizing hs with
  | nil => exact h
  | cons sg r ih =>
    cases sg with
    | signal _ => exact ih h
    | broadcast _ => exact ih h
    | spawn c' => exact ih (h.append _)
    | release => exact ih (pending_gateAll.2 h.live)

theorem Fresh.sigHelpers {c : Nat} {sigs : List Sig} (hnr : Sig.release ∉ sigs) {hs : List Helper}
    (h : Fresh c hs) : Fresh c (sigHelpers sigs hs) := by
  induction sigs generalizing hs with
  | nil => exact h
  | cons sg r ih =>
    have hr : Sig.release ∉ r := fun hm => hnr (List.mem_cons_of_mem _ hm)
    cases sg with
    | signal _ => exact ih hr h
    | broadcast _ => exact ih hr h
    | spawn c' => exact ih hr (h.append _)
    | release => exact absurd List.mem_cons_self hnr

theorem fresh_of_spawn {c : Nat} {sigs : List Sig} (hnr : Sig.release ∉ sigs) (hsp : Sig.spawn c ∈ sigs)
    (hs : List Helper) : Fresh c (sigHelpers sigs hs) := by
  induction sigs generalizing hs with
  | nil => cases hsp
  | cons sg r ih =>
    have hr : Sig.release ∉ r := fun hm => hnr (List.mem_cons_of_mem _ hm)
    rcases List.mem_cons.1 hsp with rfl | hsp'
    · exact Fresh.sigHelpers hr (fresh_spawn c hs)
    · cases sg with
      | signal _ => exact ih hr hsp' _
      | broadcast _ => exact ih hr hsp' _
      | spawn c' => exact ih hr hsp' _
      | release => exact absurd List.mem_cons_self hnr

/-! ## The helper discipline

    `condOf x op = some c`: in subject state `x` operation `op` may park, and then on condition `c`,
    after having started a helper goroutine for `c`. (For the Queue and the WaitGroup `condOf` ignores
    `x`, `stable_const`; for the Deque the condition an iterator's `next` waits on depends on its
    cursor, and the subject must show that the condition of a waiting thread is stable under the other
    threads' segments: `Stable`, `AgreeOn`.)
    The invariant: a parked thread is inside such an operation; while its context is live its helper is
    `Fresh`; once it is cancelled and still parked, its helper is `Pending`: its broadcast is to come. -/

structure ThDisc (condOf : Op → Option Nat) (th : Th Op) : Prop where
  op_of_parked : ∀ c, th.st = .parked c → ∃ op, th.ops[th.pc]? = some op ∧ condOf op = some c
  fresh : (th.st = .woken ∨ ∃ c, th.st = .parked c) → th.cancelled = false →
    ∀ op c, th.ops[th.pc]? = some op → condOf op = some c → Fresh c th.helpers
  pending : ∀ c, th.st = .parked c → th.cancelled = true → Pending c th.helpers

def HelperInv (condOf : σ → Op → Option Nat) (s : Sys σ Op) : Prop :=
  ∀ (u : Nat) (th : Th Op), s.ths[u]? = some th → ThDisc (condOf s.subj) th

def AgreeOn (f g : Op → Option Nat) (th : Th Op) : Prop :=
  (th.st = .woken ∨ ∃ c, th.st = .parked c) → ∀ op, th.ops[th.pc]? = some op → g op = f op

theorem AgreeOn.rfl {f : Op → Option Nat} {th : Th Op} : AgreeOn f f th := fun _ _ _ => Eq.refl _

theorem ThDisc.congr {f g : Op → Option Nat} {th : Th Op} (h : ThDisc f th) (hag : AgreeOn f g th) :
    ThDisc g th := by
  refine ⟨?_, ?_, h.pending⟩
  · intro c hc
    obtain ⟨op, hop, hf⟩ := h.op_of_parked c hc
    exact ⟨op, hop, by rw [hag (Or.inr ⟨c, hc⟩) op hop]; exact hf⟩
  · intro hst hcan op c hop hg
    exact h.fresh hst hcan op c hop (by rw [← hag hst op hop]; exact hg)

theorem ThDisc.of_inactive {condOf : Op → Option Nat} {th : Th Op} (h1 : th.st ≠ .woken)
    (h2 : ∀ c, th.st ≠ .parked c) : ThDisc condOf th :=
  ⟨fun c hc => absurd hc (h2 c), fun h => by rcases h with h | ⟨c, h⟩; exact absurd h h1; exact absurd h (h2 c),
   fun c hc => absurd hc (h2 c)⟩

theorem ThDisc.live {condOf : Op → Option Nat} {th : Th Op} (h : ThDisc condOf th) {c : Nat}
    (hp : th.st = .parked c) : Live c th.helpers := by
  obtain ⟨op, hop, hc⟩ := h.op_of_parked c hp
  cases hcan : th.cancelled with
  | false => exact (h.fresh (Or.inr ⟨c, hp⟩) hcan op c hop hc).live
  | true => exact (h.pending c hp hcan).live

theorem ThDisc.wake {condOf : Op → Option Nat} {th th' : Th Op} (h : ThDisc condOf th) (w : ThWake th th') :
    ThDisc condOf th' := by
  rcases w with rfl | ⟨⟨c, hc⟩, rfl⟩
  · exact h
  · refine ⟨fun c' hc' => by simp at hc', ?_, fun c' hc' => by simp at hc'⟩
    intro _ hcan op c' hop hcond
    exact h.fresh (Or.inr ⟨c, hc⟩) hcan op c' hop hcond

theorem AgreeOn.wake {f g : Op → Option Nat} {th th' : Th Op} (h : AgreeOn f g th) (w : ThWake th th') :
    AgreeOn f g th' := by
  rcases w with rfl | ⟨hp, rfl⟩
  · exact h
  · intro _ op hop; exact h (Or.inr hp) op hop

theorem initSys_helperInv (condOf : σ → Op → Option Nat) (init : σ) (programs : List (List Op)) :
    HelperInv condOf (initSys init programs) := by
  intro u th hth
  rcases initThs_st hth with e | e <;> exact .of_inactive (by rw [e]; simp) (by rw [e]; simp)

/-- what a subject owes for a segment that parks (`f` = `condOf` in the state before the segment,
    `g` = after): the context is live, the operation waits on the condition it parks on, no `release`
    (which would send the helper the thread is about to rely on to its gate), and that helper was
    started in this segment or, on a re-park, the thread was already waiting on this condition -/
def ParkOK (f g : Op → Option Nat) (th0 : Th Op) (op : Op) (o : SegOut σ) : Prop :=
  ∀ c, o.fin = .park c →
    th0.cancelled = false ∧ g op = some c ∧ Sig.release ∉ o.sigs ∧
      (Sig.spawn c ∈ o.sigs ∨ (th0.st = .woken ∧ f op = some c))

def Stable (condOf : σ → Op → Option Nat) (s : Sys σ Op) (t : Nat) (o : SegOut σ) : Prop :=
  ∀ (u : Nat) (thu : Th Op), u ≠ t → s.ths[u]? = some thu → AgreeOn (condOf s.subj) (condOf o.st) thu

theorem stable_const (f : Op → Option Nat) (s : Sys σ Op) (t : Nat) (o : SegOut σ) :
    Stable (fun _ => f) s t o := fun _ _ _ _ => AgreeOn.rfl

theorem HelperInv.step {condOf : σ → Op → Option Nat} {sub : Subject σ Op} {s s' : Sys σ Op} {a : Act}
    {obs : String} (hinv : HelperInv condOf s) (hwf : s.WF) (hen : a ∈ enabled s true)
    (hs : step sub s a = some (s', obs))
    (hpark : ∀ t th0 op o, IsSeg sub s t a th0 op o → ParkOK (condOf s.subj) (condOf o.st) th0 op o)
    (hstable : ∀ t th0 op o, IsSeg sub s t a th0 op o → Stable condOf s t o) : HelperInv condOf s' := by
  rcases a.seg_or_env with ⟨t, ha⟩ | ⟨t, rfl | rfl⟩
  · intro u th' hth'
    obtain ⟨th0, op, o, hseg, r⟩ := step_seg hwf hen hs ha
    rw [r.subj]
    by_cases hut : u = t
    · subst hut
      rw [r.self] at hth'; cases hth'
      obtain ⟨_, _, _, _, _, _, hop, _, _⟩ := hseg.basic
      cases hfin : o.fin with
      | ret rv => exact .of_inactive (finTh_st_ne_woken _ _) (finTh_ret_st rv _)
      | park c =>
        obtain ⟨hcan, hcond, hnr, hsp⟩ := hpark u th0 op o hseg c hfin
        rw [finTh_park]
        refine ⟨?_, ?_, ?_⟩
        · intro c' hc'; simp at hc'; subst hc'; exact ⟨op, hop, hcond⟩
        · intro _ _ op' c' hop' hcond'
          simp only at hop'
          rw [hop] at hop'; cases hop'
          rw [hcond] at hcond'; cases hcond'
          simp only
          rcases hsp with hsp | ⟨hw, hf⟩
          · exact fresh_of_spawn hnr hsp _
          · apply Fresh.sigHelpers hnr
            exact (hinv u th0 (hseg.of_woken hw).2.1).fresh (Or.inl hw) hcan op c hop hf
        · intro c' _ hcan'; simp only at hcan'; rw [hcan] at hcan'; cases hcan'
    · obtain ⟨th, hth, w⟩ := r.other_inv hut hth'
      exact ((hinv u th hth).congr (hstable t th0 op o hseg u th hut hth)).wake w
  · obtain ⟨th, hth, hst, hcan, _, hsubj, hself, hoth⟩ := step_cancel_rel hwf hen hs
    intro u th' hth'
    rw [hsubj]
    by_cases hut : u = t
    · subst hut
      rw [hself] at hth'; cases hth'
      have hd := hinv u th hth
      refine ⟨hd.op_of_parked, fun _ hc => by simp at hc, ?_⟩
      intro c hc _
      obtain ⟨op, hop, hcond⟩ := hd.op_of_parked c hc
      exact pending_gateAll.2 (hd.fresh hst hcan op c hop hcond).live
    · rw [hoth u hut] at hth'; exact hinv u th' hth'
  · obtain ⟨th, h0, hth, hf, _, hsubj, hself, hoth⟩ := step_fire_rel hwf hs
    intro u th' hth'
    rw [hsubj]
    by_cases hut : u = t
    · subst hut
      rw [hself] at hth'; cases hth'
      -- seen as waking first and marking the helper afterwards: the helper that fires is not one for a
      -- condition the thread is still parked on
      have hd := (hinv u th hth).wake (bwake_thWake h0.cond th)
      rw [Th.bwake_with_helpers]
      refine ⟨hd.op_of_parked, fun hst hcan op c hop hcond => ?_, fun c hc hcan => ?_⟩
      · have := hd.fresh hst hcan op c hop hcond
        rw [Th.bwake_helpers] at this
        exact this.markFired
      · have := hd.pending c hc hcan
        rw [Th.bwake_helpers] at this
        exact this.markFired hf fun e => Th.bwake_st_ne _ th (e ▸ hc)
    · rw [hoth u hut] at hth'
      obtain ⟨thu, hthu, rfl⟩ := Option.map_eq_some_iff.1 hth'
      exact (hinv u thu hthu).wake (bwake_thWake _ _)

/-- at quiescence a parked thread's context is live: were it cancelled, its helper would be at
    its gate and `fire` would be enabled -/
theorem HelperInv.not_cancelled {condOf : σ → Op → Option Nat} {s : Sys σ Op} (hinv : HelperInv condOf s)
    (q : Quiescent s) {u : Nat} {th : Th Op} (hth : s.ths[u]? = some th) {c : Nat} (hp : th.st = .parked c) :
    th.cancelled = false := by
  cases hcan : th.cancelled with
  | false => rfl
  | true =>
    have := ((hinv u th hth).pending c hp hcan).hasGate
    rw [q.no_gate hth] at this; cases this

/-! ## Wake-up witnesses

    `Wit condOf s c`: somebody is on the way to serve the waiters on condition `c` — a woken
    thread inside an operation that waits on `c` whose helper has not fired (when it returns, its
    helper is released and will broadcast `c`), or a helper for `c` at its gate. Both are
    *internal* enabled actions, so a quiescent state has no witness. -/

def ParkedOn (s : Sys σ Op) (c : Nat) : Prop := ∃ (u : Nat) (th : Th Op), s.ths[u]? = some th ∧ th.st = .parked c

def ThWit (condOf : Op → Option Nat) (c : Nat) (th : Th Op) : Prop :=
  (th.st = .woken ∧ (∃ op, th.ops[th.pc]? = some op ∧ condOf op = some c) ∧ Live c th.helpers) ∨
  Pending c th.helpers

def Wit (condOf : σ → Op → Option Nat) (s : Sys σ Op) (c : Nat) : Prop :=
  ∃ (u : Nat) (th : Th Op), s.ths[u]? = some th ∧ ThWit (condOf s.subj) c th

theorem ThWit.mono {f : Op → Option Nat} {c : Nat} {th th' : Th Op} (hw : ThWit f c th)
    (hst : th.st = .woken → th'.st = .woken) (hops : th'.ops = th.ops) (hpc : th'.pc = th.pc)
    (hlive : Live c th.helpers → Live c th'.helpers) (hpend : Pending c th.helpers → Pending c th'.helpers) :
    ThWit f c th' := by
  rcases hw with ⟨hwk, hop, hl⟩ | hp
  · exact Or.inl ⟨hst hwk, by rw [hops, hpc]; exact hop, hlive hl⟩
  · exact Or.inr (hpend hp)

theorem Wit.not_quiescent {condOf : σ → Op → Option Nat} {s : Sys σ Op} {c : Nat} (w : Wit condOf s c) :
    ¬ Quiescent s := by
  intro q
  obtain ⟨u, th, hth, hw | hp⟩ := w
  · exact q.no_woken hth hw.1
  · have := hp.hasGate; rw [q.no_gate hth] at this; cases this

theorem SegRel.parkedOn_inv {s s' : Sys σ Op} {t : Nat} {o : SegOut σ} {th0 : Th Op} (r : SegRel s s' t o th0)
    {c : Nat} (h : ParkedOn s' c) :
    (∃ (u : Nat) (th : Th Op), u ≠ t ∧ s.ths[u]? = some th ∧ th.st = .parked c ∧ s'.ths[u]? = some th) ∨
      o.fin = .park c := by
  obtain ⟨u, th', hth', hp⟩ := h
  by_cases hut : u = t
  · subst hut
    rw [r.self] at hth'; cases hth'
    exact Or.inr (finTh_parked_iff.1 hp)
  · have := r.parked_inv hut hth' hp
    exact Or.inl ⟨u, th', hut, this, hp, hth'⟩

/-- a witness survives every step, unless nobody is parked on `c` any more, or the step resumed a thread
    inside an operation waiting on `c` and it parked again -/
theorem Wit.step {condOf : σ → Op → Option Nat} {sub : Subject σ Op} {s s' : Sys σ Op} {a : Act} {obs : String}
    {c : Nat} (w : Wit condOf s c) (hwf : s.WF) (hen : a ∈ enabled s true) (hs : step sub s a = some (s', obs))
    (hstable : ∀ t th0 op o, IsSeg sub s t a th0 op o → Stable condOf s t o) :
    Wit condOf s' c ∨ ¬ ParkedOn s' c ∨
      ∃ (t : Nat) (th' : Th Op) (op : Op) (c' : Nat), a = .resume t ∧ s'.ths[t]? = some th' ∧
        th'.st = .parked c' ∧ th'.ops[th'.pc]? = some op ∧ condOf s.subj op = some c := by
  obtain ⟨u, th, hth, hw⟩ := w
  rcases a.seg_or_env with ⟨t, ha⟩ | ⟨t, rfl | rfl⟩
  · obtain ⟨th0, op, o, hseg, r⟩ := step_seg hwf hen hs ha
    by_cases hut : u = t
    · subst hut
      obtain ⟨th1, hth1, hops, hpc, hst, hhelp, _, _, _⟩ := hseg.basic
      rw [hth] at hth1; cases hth1
      rcases hw with ⟨hwk, ⟨op', hop', hcond⟩, hlive⟩ | hpend
      · have hlive' : Live c (sigHelpers o.sigs th0.helpers) := by rw [hhelp]; exact hlive.sigHelpers _
        cases hfin : o.fin with
        | ret rv =>
          left
          refine ⟨u, _, r.self, Or.inr ?_⟩
          rw [hfin, finTh_ret]; exact pending_gateAll.2 hlive'
        | park c' =>
          right; right
          have ha' : a = .resume u := (hseg.of_woken (by rw [hst]; exact hwk)).1
          refine ⟨u, _, op', c', ha', r.self, by rw [hfin]; rfl, ?_, hcond⟩
          rw [hfin, finTh_park]; simp only; rw [hops, hpc]; exact hop'
      · left
        have hp' : Pending c (sigHelpers o.sigs th0.helpers) := by rw [hhelp]; exact hpend.sigHelpers _
        refine ⟨u, _, r.self, Or.inr ?_⟩
        cases hfin : o.fin with
        | ret rv => rw [finTh_ret]; exact pending_gateAll.2 hp'.live
        | park c' => exact hp'
    · left
      obtain ⟨th', hth', wk⟩ := r.other u th hut hth
      refine ⟨u, th', hth', ?_⟩
      rcases hw with ⟨hwk, ⟨op', hop', hcond⟩, hlive⟩ | hpend
      · have := wk.eq_of_not_parked (by intro c; rw [hwk]; simp)
        subst this
        refine Or.inl ⟨hwk, ⟨op', hop', ?_⟩, hlive⟩
        rw [r.subj, hstable t th0 op o hseg u th' hut hth (Or.inl hwk) op' hop']; exact hcond
      · exact Or.inr (by rw [wk.helpers]; exact hpend)
  · left
    obtain ⟨tht, htht, _, _, _, hsubj, hself, hoth⟩ := step_cancel_rel hwf hen hs
    unfold Wit; rw [hsubj]
    by_cases hut : u = t
    · subst hut
      rw [hth] at htht; cases htht
      exact ⟨u, _, hself, hw.mono id rfl rfl live_gateAll.2 fun h => pending_gateAll.2 h.live⟩
    · exact ⟨u, th, by rw [hoth u hut]; exact hth, hw⟩
  · obtain ⟨tht, h0, htht, hf, _, hsubj, hself, hoth⟩ := step_fire_rel hwf hs
    by_cases hc0 : h0.cond = c
    · -- the fired helper broadcasts `c`: nobody stays parked on `c`
      right; left
      subst hc0
      rintro ⟨v, thv, hthv, hpv⟩
      by_cases hvt : v = t
      · subst hvt
        rw [hself] at hthv; cases hthv
        exact Th.bwake_st_ne _ _ hpv
      · rw [hoth v hvt] at hthv
        obtain ⟨th1, _, rfl⟩ := Option.map_eq_some_iff.1 hthv
        exact Th.bwake_st_ne _ _ hpv
    · left
      unfold Wit; rw [hsubj]
      have hwk : ∀ x : Th Op, x.st = .woken → (x.bwake h0.cond).st = .woken := fun x h => by
        rw [Th.bwake_st, h]; rfl
      by_cases hut : u = t
      · subst hut
        rw [hth] at htht; cases htht
        exact ⟨u, _, hself, hw.mono (hwk { th with helpers := step.markFired th.helpers }) (Th.bwake_ops _ _)
          (Th.bwake_pc _ _) (fun h => by simpa using h.markFired hf hc0) (fun h => by simpa using h.markFired hf hc0)⟩
      · exact ⟨u, th.bwake h0.cond, by rw [hoth u hut, hth]; rfl,
          hw.mono (hwk th) (Th.bwake_ops _ _) (Th.bwake_pc _ _) (by simp) (by simp)⟩

theorem Wit.of_signal {condOf : σ → Op → Option Nat} {s s' : Sys σ Op} {t : Nat} {o : SegOut σ} {th0 : Th Op}
    (hinv : HelperInv condOf s) (r : SegRel s s' t o th0) (hstable : Stable condOf s t o) {c : Nat}
    (hc : Sig.signal c ∈ o.sigs)
    (hp : ∃ (u : Nat) (th : Th Op), u ≠ t ∧ s.ths[u]? = some th ∧ th.st = .parked c) : Wit condOf s' c := by
  obtain ⟨w, thw, hwt, hthw, hstw, hw'⟩ := r.signal c hc hp
  have hd := (hinv w thw hthw).congr (hstable w thw hwt hthw)
  refine ⟨w, _, hw', Or.inl ⟨rfl, ?_, by simpa using hd.live hstw⟩⟩
  rw [r.subj]; simpa using hd.op_of_parked c hstw

theorem parkedOn_of_cancel_fire {sub : Subject σ Op} {s s' : Sys σ Op} {a : Act} {obs : String} {t : Nat}
    (hwf : s.WF) (hen : a ∈ enabled s true) (hs : step sub s a = some (s', obs)) (ha : a = .cancel t ∨ a = .fire t)
    {c : Nat} (h : ParkedOn s' c) : ParkedOn s c := by
  obtain ⟨u, th', hth', hp⟩ := h
  obtain ⟨th, hth, hp', _⟩ := parked_of_cancel_fire hwf hen hs ha hth' hp
  exact ⟨u, th, hth, hp'⟩

/-! ## The monitor invariant

    A blocking operation has a *guard*: the loop test that sends it to `cond.Wait`. The monitor invariant:
    the guard of every parked thread holds of the subject state; outright for conditions that are
    broadcast (`Gs`), unless a wake-up is on its way (`Wit`) for conditions that are signalled, where one
    waiter is woken and the others rely on it (`Gw`). It is kept by every action if each segment, seen
    from the subject alone, parks only under its own guards (`park`), broadcasts the condition of every
    `Gs` it falsifies (`keepS`), signals or broadcasts the condition of every `Gw` it falsifies (`keepW`),
    and, when it parks again after a wake-up, passes the wake-up on or leaves the `Gw` of that condition
    true (`repark`). `cancel` and `fire` do not touch the subject state, and a witness survives them. -/

def Mon (condOf : σ → Op → Option Nat) (Gs Gw : σ → Op → Prop) (s : Sys σ Op) : Prop :=
  ∀ (u : Nat) (th : Th Op) (c : Nat) (op : Op), s.ths[u]? = some th → th.st = .parked c → th.ops[th.pc]? = some op →
    Gs s.subj op ∧ (Gw s.subj op ∨ Wit condOf s c)

/-- thread `u`, not the running `t`, is parked on `c` inside `op`. `cond`: it parked on the condition of its
    operation (`ThDisc.op_of_parked`; `Mon.step` supplies it, so a subject's `SegMon` needs no `HelperInv`) -/
structure ParkedIn (condOf : σ → Op → Option Nat) (s : Sys σ Op) (t u : Nat) (c : Nat) (op : Op) : Prop where
  ne : u ≠ t
  cond : condOf s.subj op = some c
  th : ∃ th, s.ths[u]? = some th ∧ th.st = .parked c ∧ th.ops[th.pc]? = some op

structure SegMon (condOf : σ → Op → Option Nat) (Gs Gw : σ → Op → Prop) (s : Sys σ Op) (t : Nat)
    (th0 : Th Op) (op : Op) (o : SegOut σ) : Prop where
  park : ∀ c, o.fin = .park c → Gs o.st op ∧ Gw o.st op
  keepS : ∀ u c op', ParkedIn condOf s t u c op' → Gs s.subj op' → Gs o.st op' ∨ Sig.broadcast c ∈ o.sigs
  keepW : ∀ u c op', ParkedIn condOf s t u c op' → Gw s.subj op' →
    Gw o.st op' ∨ Sig.broadcast c ∈ o.sigs ∨ Sig.signal c ∈ o.sigs
  repark : ∀ c c', th0.st = .woken → condOf s.subj op = some c → o.fin = .park c' →
    Sig.signal c ∈ o.sigs ∨ ∀ u op', ParkedIn condOf s t u c op' → Gw o.st op'

theorem initSys_mon (condOf : σ → Op → Option Nat) (Gs Gw : σ → Op → Prop) (init : σ)
    (programs : List (List Op)) : Mon condOf Gs Gw (initSys init programs) := by
  intro u th c _ hth hp
  rcases initThs_st hth with e | e <;> rw [e] at hp <;> cases hp

theorem Mon.step {condOf : σ → Op → Option Nat} {Gs Gw : σ → Op → Prop} {sub : Subject σ Op}
    {s s' : Sys σ Op} {a : Act} {obs : String} (m : Mon condOf Gs Gw s) (hinv : HelperInv condOf s) (hwf : s.WF)
    (hen : a ∈ enabled s true) (hs : step sub s a = some (s', obs))
    (hstable : ∀ t th0 op o, IsSeg sub s t a th0 op o → Stable condOf s t o)
    (hmon : ∀ t th0 op o, IsSeg sub s t a th0 op o → SegMon condOf Gs Gw s t th0 op o) : Mon condOf Gs Gw s' := by
  intro u th' c op hth' hp' hop'
  -- a witness for `c` stays one while `u` is parked on `c`, unless its thread ran and parked again
  have wit : Wit condOf s c → Wit condOf s' c ∨
      ∃ (t : Nat) (thp : Th Op) (opt : Op) (c' : Nat), a = .resume t ∧ s'.ths[t]? = some thp ∧ thp.st = .parked c' ∧
        thp.ops[thp.pc]? = some opt ∧ condOf s.subj opt = some c :=
    fun w => (w.step hwf hen hs hstable).imp_right fun h => h.resolve_left fun hn => hn ⟨u, th', hth', hp'⟩
  rcases a.seg_or_env with ⟨t, ha⟩ | ⟨t, ha⟩
  · obtain ⟨th0, opt, o, hseg, r⟩ := step_seg hwf hen hs ha
    have f := hmon t th0 opt o hseg
    obtain ⟨_, _, _, _, _, _, hopt, _, _⟩ := hseg.basic
    have self : ∀ {thp : Th Op} {c' : Nat} {opp : Op}, s'.ths[t]? = some thp → thp.st = .parked c' →
        thp.ops[thp.pc]? = some opp → o.fin = .park c' ∧ opp = opt := by
      intro thp c' opp hthp hstp hopp
      obtain ⟨hfin, hops, hpc, _⟩ := r.self_parked hthp hstp
      rw [hops, hpc, hopt] at hopp
      exact ⟨hfin, (Option.some.inj hopp).symm⟩
    rw [r.subj]
    by_cases hut : u = t
    · subst hut
      obtain ⟨hfin, rfl⟩ := self hth' hp' hop'
      exact (f.park c hfin).imp_right .inl
    · have hth := r.parked_inv hut hth' hp'
      have hin : ParkedIn condOf s t u c op := by
        obtain ⟨_, hop0, hc⟩ := (hinv u th' hth).op_of_parked c hp'
        rw [hop'] at hop0; cases hop0
        exact ⟨hut, hc, th', hth, hp', hop'⟩
      have nob : Sig.broadcast c ∉ o.sigs := fun hb => r.bcast_none hb hut hth' hp'
      have sig : Sig.signal c ∈ o.sigs → Wit condOf s' c := fun h =>
        Wit.of_signal hinv r (hstable t th0 opt o hseg) h ⟨u, th', hut, hth, hp'⟩
      obtain ⟨hS, hW⟩ := m u th' c op hth hp' hop'
      refine ⟨(f.keepS u c op hin hS).resolve_right nob, ?_⟩
      rcases hW with hG | w
      · exact (f.keepW u c op hin hG).imp_right fun h => sig (h.resolve_left nob)
      · rcases wit w with w' | ⟨t', thp, opp, c', ha', hthp, hstp, hopp, hcond⟩
        · exact .inr w'
        · have htt : t' = t := by rcases ha with rfl | rfl <;> cases ha'; rfl
          subst htt
          obtain ⟨hfin, rfl⟩ := self hthp hstp hopp
          have hw : th0.st = .woken := by
            cases hseg with
            | start _ _ _ => cases ha'
            | resume _ hst _ => exact hst
          exact (f.repark c c' hw hcond hfin).symm.imp (· u op hin) sig
  · obtain ⟨th, hth, hp, hops, hpc⟩ := parked_of_cancel_fire hwf hen hs ha hth' hp'
    rw [(step_env hwf hen hs ha).1]
    refine (m u th c op hth hp (by rw [hops, hpc]; exact hop')).imp_right fun hW => hW.imp_right fun w => ?_
    rcases wit w with w' | ⟨t', _, _, _, ha', _⟩
    · exact w'
    · rcases ha with rfl | rfl <;> cases ha'

theorem Mon.parked {condOf : σ → Op → Option Nat} {Gs Gw : σ → Op → Prop} {s : Sys σ Op}
    (m : Mon condOf Gs Gw s) (hinv : HelperInv condOf s) {u : Nat} {th : Th Op} {c : Nat}
    (hth : s.ths[u]? = some th) (hp : th.st = .parked c) :
    ∃ op, th.ops[th.pc]? = some op ∧ condOf s.subj op = some c ∧ Gs s.subj op ∧ (Gw s.subj op ∨ Wit condOf s c) ∧
      Live c th.helpers ∧ (th.cancelled = true → Pending c th.helpers) := by
  have hd := hinv u th hth
  obtain ⟨op, hop, hc⟩ := hd.op_of_parked c hp
  exact ⟨op, hop, hc, (m u th c op hth hp hop).1, (m u th c op hth hp hop).2, hd.live hp, hd.pending c hp⟩

/-- at quiescence every parked thread is blocked for good reason: its guards hold and its context is live -/
theorem Mon.no_stuck {condOf : σ → Op → Option Nat} {Gs Gw : σ → Op → Prop} {s : Sys σ Op}
    (m : Mon condOf Gs Gw s) (hinv : HelperInv condOf s) (q : Quiescent s) {u : Nat} {th : Th Op} {c : Nat}
    (hth : s.ths[u]? = some th) (hp : th.st = .parked c) :
    ∃ op, th.ops[th.pc]? = some op ∧ condOf s.subj op = some c ∧ Gs s.subj op ∧ Gw s.subj op ∧ th.cancelled = false := by
  obtain ⟨op, hop, hc, hS, hW, _⟩ := m.parked hinv hth hp
  exact ⟨op, hop, hc, hS, hW.resolve_right fun w => w.not_quiescent q, hinv.not_cancelled q hth hp⟩

/-- **The monitor theorem.** A subject whose segments meet the obligations `ParkOK`, `Stable` and `SegMon`
    (each about one segment, given what is already known of the state it starts in) keeps the helper
    discipline and the monitor invariant along every run. -/
theorem Reach.mon {condOf : σ → Op → Option Nat} {Gs Gw : σ → Op → Prop} {sub : Subject σ Op} {init : σ}
    {programs : List (List Op)} {s : Sys σ Op} (hr : Reach sub (initSys init programs) s)
    (hseg : ∀ s a t th0 op o, Reach sub (initSys init programs) s → IsSeg sub s t a th0 op o →
      ParkOK (condOf s.subj) (condOf o.st) th0 op o ∧ Stable condOf s t o ∧ SegMon condOf Gs Gw s t th0 op o) :
    HelperInv condOf s ∧ Mon condOf Gs Gw s :=
  hr.inv_wf (fun s => HelperInv condOf s ∧ Mon condOf Gs Gw s) (initSys_wf _ _)
    ⟨initSys_helperInv _ _ _, initSys_mon _ _ _ _ _⟩ fun s a _ _ hr hwf h hen hs =>
      ⟨h.1.step hwf hen hs (fun t th0 op o g => (hseg s a t th0 op o hr g).1)
          fun t th0 op o g => (hseg s a t th0 op o hr g).2.1,
        h.2.step h.1 hwf hen hs (fun t th0 op o g => (hseg s a t th0 op o hr g).2.1)
          fun t th0 op o g => (hseg s a t th0 op o hr g).2.2⟩

end FunModel.Conc
