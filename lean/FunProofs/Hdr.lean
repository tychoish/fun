import FunModel.Hdr
import FunProofs.ListAux

/-! The HDR histogram of `dt/hdrhist` (C19), with the vocabulary of the C19 statements (`ValidArgs`, `recordAll`,
    `recordValues`, `Reachable`, `Hist.WF`). The index arithmetic is done on bit lengths (`bitLen_le_iff`,
    `bitLen_shiftRight`, `bucketIdx_eq`): a value's bucket is its bit length less a constant of the shape. A cell of a
    valid position maps back to that position (`Shape.cell`), from which the facts about equivalence ranges and the
    bijection index ↔ position follow. Recording into an empty histogram tabulates (`tally`, `hits`); the quantile is
    an order statistic (`scanFrom_range'`, `valueAtRank_recordValues`), Min and Max those of rank 1 and `total`. -/

namespace FunModel.Hdr

theorem pow_lt_pow2 {a b : Nat} (h : a < b) : 2 ^ a < 2 ^ b := Nat.pow_lt_pow_right (by decide) h

theorem eq_of_forall_le_iff {a b : Nat} (h : ∀ n, a ≤ n ↔ b ≤ n) : a = b :=
  Nat.le_antisymm ((h b).2 (Nat.le_refl b)) ((h a).1 (Nat.le_refl a))

theorem bitLen_le_iff {x n : Nat} : bitLen x ≤ n ↔ x < 2 ^ n := by
  unfold bitLen
  by_cases h : x = 0
  · rw [if_pos h, h]; exact ⟨fun _ => Nat.two_pow_pos n, fun _ => Nat.zero_le n⟩
  · rw [if_neg h]; exact Nat.log2_lt h

theorem lt_bitLen_iff {x n : Nat} : n < bitLen x ↔ 2 ^ n ≤ x := by
  rw [← Nat.not_le, bitLen_le_iff, Nat.not_lt]

theorem bitLen_mono {x y : Nat} (h : x ≤ y) : bitLen x ≤ bitLen y :=
  bitLen_le_iff.2 (Nat.lt_of_le_of_lt h (bitLen_le_iff.1 (Nat.le_refl _)))

theorem bitLen_shiftRight (x k : Nat) : bitLen (x >>> k) = bitLen x - k :=
  eq_of_forall_le_iff fun n => by
    rw [Nat.sub_le_iff_le_add, bitLen_le_iff, bitLen_le_iff, Nat.shiftRight_eq_div_pow,
      Nat.div_lt_iff_lt_mul (Nat.two_pow_pos k), Nat.pow_add]

theorem bitLen_or (x y : Nat) : bitLen (x ||| y) = max (bitLen x) (bitLen y) :=
  eq_of_forall_le_iff fun n => by
    rw [Nat.max_le, bitLen_le_iff, bitLen_le_iff, bitLen_le_iff]
    exact ⟨fun h => ⟨Nat.lt_of_le_of_lt Nat.left_le_or h, Nat.lt_of_le_of_lt Nat.right_le_or h⟩,
      fun h => Nat.or_lt_two_pow h.1 h.2⟩

/-- one "if x ≥ 2^(k-1) { x >>= k; n += k }" step of the Go code, on the pair (x, n) -/
def bitStep (k : Nat) (p : Nat × Nat) : Nat × Nat :=
  if p.1 ≥ 2 ^ (k - 1) then (p.1 >>> k, p.2 + k) else p

theorem bitLenGo_unfold (x : Nat) :
    bitLenGo x =
      (let p := bitStep 2 (bitStep 4 (bitStep 8 (bitLenLoop 8 x 0)))
       if p.1 ≥ 1 then p.2 + 1 else p.2) := by
  unfold bitLenGo
  -- with the loop's result a variable, `rfl` has only the four steps to compare
  generalize bitLenLoop 8 x 0 = p
  rfl

theorem bitStep_spec (k : Nat) (p : Nat × Nat) :
    (bitStep k p).2 + bitLen (bitStep k p).1 = p.2 + bitLen p.1 ∧
      (bitLen p.1 ≤ 2 * k - 1 → bitLen (bitStep k p).1 ≤ k - 1) := by
  unfold bitStep
  by_cases h : p.1 ≥ 2 ^ (k - 1)
  · have := lt_bitLen_iff.2 h
    rw [if_pos h]; dsimp only
    rw [bitLen_shiftRight]; omega
  · rw [if_neg h]
    exact ⟨rfl, fun _ => bitLen_le_iff.2 (Nat.lt_of_not_le h)⟩

theorem bitLenLoop_spec (fuel x n : Nat) :
    (bitLenLoop fuel x n).2 + bitLen (bitLenLoop fuel x n).1 = n + bitLen x ∧
      (bitLen x ≤ 16 * fuel + 15 → bitLen (bitLenLoop fuel x n).1 ≤ 15) := by
  fun_induction bitLenLoop fuel x n with
  | case1 x n => exact ⟨rfl, id⟩
  | case2 x n f h ih =>
    have := lt_bitLen_iff (n := 15) |>.2 h
    rw [bitLen_shiftRight] at ih
    omega
  | case3 x n f h => exact ⟨rfl, fun _ => bitLen_le_iff.2 (Nat.lt_of_not_le h)⟩

theorem bitLenGo_eq_bitLen (x : Nat) (h : x < 2 ^ 63) : bitLenGo x = bitLen x := by
  rw [bitLenGo_unfold]
  have h := bitLen_le_iff.2 h
  obtain ⟨l1, l2⟩ := bitLenLoop_spec 8 x 0
  generalize bitLenLoop 8 x 0 = p0 at l1 l2
  obtain ⟨a1, a2⟩ := bitStep_spec 8 p0
  generalize bitStep 8 p0 = p1 at a1 a2
  obtain ⟨b1, b2⟩ := bitStep_spec 4 p1
  generalize bitStep 4 p1 = p2 at b1 b2
  obtain ⟨c1, c2⟩ := bitStep_spec 2 p2
  generalize bitStep 2 p2 = p3 at c1 c2
  -- one bit is left: `p3.1` is 0 or 1, and the last test adds `bitLen p3.1`
  have hp3 : p3.1 < 2 ^ 1 := bitLen_le_iff.1 (by omega)
  by_cases h1 : p3.1 ≥ 1
  · have : bitLen p3.1 = 1 := by
      rw [show p3.1 = 1 by omega]
      exact Nat.le_antisymm (bitLen_le_iff.2 (by decide)) (lt_bitLen_iff.2 (by decide))
    rw [if_pos h1]; omega
  · have : bitLen p3.1 = 0 := by rw [show p3.1 = 0 by omega]; rfl
    rw [if_neg h1]; omega

namespace Shape
variable (s : Shape)

theorem subBucketCount_eq : s.subBucketCount = 2 * 2 ^ s.halfMag := by
  unfold subBucketCount; omega

theorem subBucketHalfCount_eq : s.subBucketHalfCount = 2 ^ s.halfMag := by
  unfold subBucketHalfCount subBucketCount; omega

theorem countsLen_eq : s.countsLen = (s.bucketCount + 1) * 2 ^ s.halfMag := by
  unfold countsLen; rw [← subBucketHalfCount_eq]; rfl

/-- the mask has ones in the `halfMag + 1` bits above the lowest `unitMag` -/
theorem bitLen_mask : bitLen s.subBucketMask = s.halfMag + 1 + s.unitMag := by
  unfold subBucketMask subBucketCount
  rw [Nat.shiftLeft_eq]
  have := Nat.two_pow_pos s.halfMag
  apply Nat.le_antisymm
  · rw [bitLen_le_iff, Nat.pow_add 2 (s.halfMag + 1)]
    exact Nat.mul_lt_mul_of_lt_of_le (show 2 ^ (s.halfMag + 1) - 1 < 2 ^ (s.halfMag + 1) by omega)
      (Nat.le_refl _) (Nat.two_pow_pos _)
  · rw [Nat.add_right_comm, ← Nat.lt_iff_add_one_le, lt_bitLen_iff, Nat.pow_add 2 s.halfMag]
    exact Nat.mul_le_mul_right _ (show 2 ^ s.halfMag ≤ 2 ^ (s.halfMag + 1) - 1 by omega)

/-- `getBucketIndex`: or-ing the mask in only keeps the bit length from falling below the mask's -/
theorem bucketIdx_eq (v : Nat) : s.bucketIdx v = bitLen v - (s.halfMag + 1 + s.unitMag) := by
  unfold bucketIdx
  rw [bitLen_or, bitLen_mask]; omega

theorem bucketIdx_mono {v w : Nat} (h : v ≤ w) : s.bucketIdx v ≤ s.bucketIdx w := by
  have := bitLen_mono h
  rw [bucketIdx_eq, bucketIdx_eq]; omega

theorem bitLen_subBucketIdx (v b : Nat) : bitLen (s.subBucketIdx v b) = bitLen v - (b + s.unitMag) :=
  bitLen_shiftRight _ _

theorem subBucketIdx_lt (v : Nat) : s.subBucketIdx v (s.bucketIdx v) < 2 ^ (s.halfMag + 1) :=
  bitLen_le_iff.1 (by rw [bitLen_subBucketIdx, bucketIdx_eq]; omega)

theorem subBucketIdx_ge (v : Nat) (hb : s.bucketIdx v ≠ 0) :
    2 ^ s.halfMag ≤ s.subBucketIdx v (s.bucketIdx v) := by
  rw [← lt_bitLen_iff, bitLen_subBucketIdx]
  rw [bucketIdx_eq] at hb ⊢; omega

theorem countsIndex_eq (b sb : Nat) : s.countsIndex b sb = b * 2 ^ s.halfMag + sb := by
  unfold countsIndex
  rw [subBucketHalfCount_eq, Nat.shiftLeft_eq, Nat.add_mul]
  omega

theorem countsIndexFor_eq (v : Nat) :
    s.countsIndexFor v = s.bucketIdx v * 2 ^ s.halfMag + s.subBucketIdx v (s.bucketIdx v) := by
  unfold countsIndexFor; exact s.countsIndex_eq _ _

/-- a (bucket, sub-bucket) pair the histogram actually uses -/
def ValidPos (b sb : Nat) : Prop := sb < 2 ^ (s.halfMag + 1) ∧ (b = 0 ∨ 2 ^ s.halfMag ≤ sb)

theorem validPos_of (v : Nat) : s.ValidPos (s.bucketIdx v) (s.subBucketIdx v (s.bucketIdx v)) := by
  refine ⟨s.subBucketIdx_lt v, ?_⟩
  by_cases hb : s.bucketIdx v = 0
  · exact Or.inl hb
  · exact Or.inr (s.subBucketIdx_ge v hb)

theorem cell {b sb x : Nat} (hv : s.ValidPos b sb) (hlo : sb * 2 ^ (b + s.unitMag) ≤ x)
    (hhi : x < (sb + 1) * 2 ^ (b + s.unitMag)) :
    s.bucketIdx x = b ∧ s.subBucketIdx x b = sb := by
  have hsb : s.subBucketIdx x b = sb := by
    unfold subBucketIdx
    rw [Nat.shiftRight_eq_div_pow]
    exact Nat.div_eq_of_lt_le hlo hhi
  refine ⟨?_, hsb⟩
  -- the bit length of `x` is that of `sb = x >>> (b + unitMag)`, which `hv` confines
  have h := s.bitLen_subBucketIdx x b
  rw [hsb] at h
  have h1 := bitLen_le_iff.2 hv.1
  have h2 := hv.2
  rw [← lt_bitLen_iff] at h2
  rw [bucketIdx_eq]; omega

theorem sizeOfRange_eq (v : Nat) : s.sizeOfRange v = 2 ^ (s.unitMag + s.bucketIdx v) := by
  unfold sizeOfRange; rw [Nat.shiftLeft_eq, Nat.one_mul]

theorem lowestEquiv_eq (v : Nat) :
    s.lowestEquiv v = s.subBucketIdx v (s.bucketIdx v) * 2 ^ (s.bucketIdx v + s.unitMag) := by
  unfold lowestEquiv valueFromIndex; rw [Nat.shiftLeft_eq]

theorem lowestEquiv_le (v : Nat) : s.lowestEquiv v ≤ v := by
  rw [lowestEquiv_eq]; unfold subBucketIdx
  rw [Nat.shiftRight_eq_div_pow]; exact Nat.div_mul_le_self _ _

theorem lt_nextNonEquiv (v : Nat) : v < s.lowestEquiv v + s.sizeOfRange v := by
  rw [lowestEquiv_eq, sizeOfRange_eq, Nat.add_comm s.unitMag]; unfold subBucketIdx
  rw [Nat.shiftRight_eq_div_pow]; exact Nat.lt_div_mul_add (Nat.two_pow_pos _)

theorem sizeOfRange_pos (v : Nat) : 0 < s.sizeOfRange v := by
  rw [sizeOfRange_eq]; exact Nat.two_pow_pos _

theorem highestEquiv_succ (v : Nat) : s.highestEquiv v + 1 = s.lowestEquiv v + s.sizeOfRange v := by
  unfold highestEquiv nextNonEquiv
  have := s.sizeOfRange_pos v; omega

theorem le_highestEquiv (v : Nat) : v ≤ s.highestEquiv v := by
  have := s.highestEquiv_succ v
  have := s.lt_nextNonEquiv v
  omega

theorem same_cell {v x : Nat} (h1 : s.lowestEquiv v ≤ x) (h2 : x ≤ s.highestEquiv v) :
    s.bucketIdx x = s.bucketIdx v ∧
      s.subBucketIdx x (s.bucketIdx x) = s.subBucketIdx v (s.bucketIdx v) := by
  have hs := s.highestEquiv_succ v
  rw [lowestEquiv_eq] at h1
  rw [lowestEquiv_eq, sizeOfRange_eq, Nat.add_comm s.unitMag] at hs
  have hhi : x < (s.subBucketIdx v (s.bucketIdx v) + 1) * 2 ^ (s.bucketIdx v + s.unitMag) := by
    rw [Nat.add_mul, Nat.one_mul]; omega
  obtain ⟨c1, c2⟩ := s.cell (s.validPos_of v) h1 hhi
  rw [c1]; exact ⟨rfl, c2⟩

theorem same_cell_index {v x : Nat} (h1 : s.lowestEquiv v ≤ x) (h2 : x ≤ s.highestEquiv v) :
    s.countsIndexFor x = s.countsIndexFor v := by
  obtain ⟨c1, c2⟩ := s.same_cell h1 h2
  rw [countsIndexFor_eq, countsIndexFor_eq, c2, c1]

theorem same_cell_lowest {v x : Nat} (h1 : s.lowestEquiv v ≤ x) (h2 : x ≤ s.highestEquiv v) :
    s.lowestEquiv x = s.lowestEquiv v := by
  obtain ⟨c1, c2⟩ := s.same_cell h1 h2
  rw [lowestEquiv_eq, lowestEquiv_eq, c2, c1]

theorem same_cell_highest {v x : Nat} (h1 : s.lowestEquiv v ≤ x) (h2 : x ≤ s.highestEquiv v) :
    s.highestEquiv x = s.highestEquiv v := by
  obtain ⟨c1, _⟩ := s.same_cell h1 h2
  unfold highestEquiv nextNonEquiv
  rw [s.same_cell_lowest h1 h2, sizeOfRange_eq, sizeOfRange_eq, c1]

theorem lowest_le_highest (v : Nat) : s.lowestEquiv v ≤ s.highestEquiv v :=
  Nat.le_trans (s.lowestEquiv_le v) (s.le_highestEquiv v)

theorem countsIndex_lt_of_lt {b sb b' sb' : Nat} (hv : s.ValidPos b sb) (hv' : s.ValidPos b' sb')
    (h : b < b') : s.countsIndex b sb < s.countsIndex b' sb' := by
  rw [countsIndex_eq, countsIndex_eq]
  have h3 : (b + 1) * 2 ^ s.halfMag ≤ b' * 2 ^ s.halfMag := Nat.mul_le_mul_right _ h
  rw [Nat.add_mul] at h3
  have := hv.1
  have := hv'.2
  omega

theorem countsIndexFor_mono {v w : Nat} (h : v ≤ w) : s.countsIndexFor v ≤ s.countsIndexFor w := by
  rcases Nat.lt_or_eq_of_le (s.bucketIdx_mono h) with hlt | heq
  · exact Nat.le_of_lt (s.countsIndex_lt_of_lt (s.validPos_of v) (s.validPos_of w) hlt)
  · rw [countsIndexFor_eq, countsIndexFor_eq, heq]
    apply Nat.add_le_add_left
    unfold subBucketIdx
    rw [Nat.shiftRight_eq_div_pow, Nat.shiftRight_eq_div_pow]
    exact Nat.div_le_div_right h

theorem validPos_posOfIndex (i : Nat) : s.ValidPos (s.posOfIndex i).1 (s.posOfIndex i).2 := by
  unfold posOfIndex ValidPos
  rw [subBucketCount_eq, subBucketHalfCount_eq]
  by_cases h : i < 2 * 2 ^ s.halfMag
  · rw [if_pos h]; exact ⟨by omega, Or.inl rfl⟩
  · rw [if_neg h]
    exact ⟨by simp only []; omega, Or.inr (by simp only []; omega)⟩

theorem countsIndex_posOfIndex (i : Nat) :
    s.countsIndex (s.posOfIndex i).1 (s.posOfIndex i).2 = i := by
  rw [countsIndex_eq]
  unfold posOfIndex
  rw [subBucketCount_eq, subBucketHalfCount_eq]
  by_cases h : i < 2 * 2 ^ s.halfMag
  · rw [if_pos h]; simp
  · rw [if_neg h]
    simp only []
    have := Nat.div_add_mod' (i - 2 * 2 ^ s.halfMag) (2 ^ s.halfMag)
    rw [Nat.add_mul]
    omega

theorem posOfIndex_countsIndex {b sb : Nat} (hv : s.ValidPos b sb) :
    s.posOfIndex (s.countsIndex b sb) = (b, sb) := by
  have hp := s.validPos_posOfIndex (s.countsIndex b sb)
  have he := s.countsIndex_posOfIndex (s.countsIndex b sb)
  generalize s.posOfIndex (s.countsIndex b sb) = p at hp he
  obtain ⟨b', sb'⟩ := p
  dsimp only at hp he
  rcases Nat.lt_trichotomy b' b with h | h | h
  · exact absurd he (Nat.ne_of_lt (s.countsIndex_lt_of_lt hp hv h))
  · rw [countsIndex_eq, countsIndex_eq, h] at he
    rw [h, Nat.add_left_cancel he]
  · exact absurd he.symm (Nat.ne_of_lt (s.countsIndex_lt_of_lt hv hp h))

theorem valueAt_eq (i : Nat) :
    s.valueAt i = (s.posOfIndex i).2 * 2 ^ ((s.posOfIndex i).1 + s.unitMag) := by
  unfold valueAt valueFromIndex; rw [Nat.shiftLeft_eq]

theorem valueAt_cell (i : Nat) :
    s.bucketIdx (s.valueAt i) = (s.posOfIndex i).1 ∧
      s.subBucketIdx (s.valueAt i) (s.posOfIndex i).1 = (s.posOfIndex i).2 := by
  rw [valueAt_eq]
  apply s.cell (s.validPos_posOfIndex i) (Nat.le_refl _)
  rw [Nat.add_mul, Nat.one_mul]
  have := Nat.two_pow_pos ((s.posOfIndex i).1 + s.unitMag); omega

theorem countsIndexFor_valueAt (i : Nat) : s.countsIndexFor (s.valueAt i) = i := by
  obtain ⟨c1, c2⟩ := s.valueAt_cell i
  unfold countsIndexFor
  simp only [c1, c2]
  exact s.countsIndex_posOfIndex i

theorem valueAt_countsIndexFor (v : Nat) : s.valueAt (s.countsIndexFor v) = s.lowestEquiv v := by
  rw [valueAt_eq, lowestEquiv_eq]
  unfold countsIndexFor
  simp only [s.posOfIndex_countsIndex (s.validPos_of v)]

theorem countsIndexFor_lt_of {v : Nat} (hB : 1 ≤ s.bucketCount)
    (hv : v < 2 ^ (s.halfMag + s.unitMag + s.bucketCount)) : s.countsIndexFor v < s.countsLen := by
  rw [countsIndexFor_eq, countsLen_eq]
  have h1 := s.subBucketIdx_lt v
  have hb : s.bucketIdx v + 1 ≤ s.bucketCount := by
    have := bitLen_le_iff.2 hv
    rw [bucketIdx_eq]; omega
  have h3 : (s.bucketIdx v + 1 + 1) * 2 ^ s.halfMag ≤ (s.bucketCount + 1) * 2 ^ s.halfMag :=
    Nat.mul_le_mul_right _ (by omega)
  rw [Nat.add_mul, Nat.add_mul] at h3
  omega

theorem posOfIndex_in_bounds {i : Nat} (hB : 1 ≤ s.bucketCount) (hi : i < s.countsLen) :
    (s.posOfIndex i).1 < s.bucketCount ∧ (s.posOfIndex i).2 < s.subBucketCount := by
  obtain ⟨v1, v2⟩ := s.validPos_posOfIndex i
  refine ⟨?_, v1⟩
  have he := s.countsIndex_posOfIndex i
  rw [countsIndex_eq] at he
  rw [countsLen_eq, ← he] at hi
  rcases v2 with v2 | v2
  · omega
  · have : ((s.posOfIndex i).1 + 1) * 2 ^ s.halfMag < (s.bucketCount + 1) * 2 ^ s.halfMag := by
      rw [Nat.add_mul]; omega
    have := Nat.lt_of_mul_lt_mul_right this
    omega

end Shape

theorem Shape.highestEquiv_valueAt_index (s : Shape) (v : Nat) :
    s.highestEquiv (s.valueAt (s.countsIndexFor v)) = s.highestEquiv v := by
  rw [s.valueAt_countsIndexFor]
  exact s.same_cell_highest (Nat.le_refl _) (s.lowest_le_highest v)

theorem bucketsLoop_spec (fuel sm max n : Nat) (hsm : 0 < sm) (hf : max < sm * 2 ^ fuel) :
    ∃ d, bucketsLoop fuel sm max n = n + d ∧ max < sm * 2 ^ d ∧ ∀ k, k < d → sm * 2 ^ k ≤ max := by
  fun_induction bucketsLoop fuel sm max n with
  | case1 sm n => exact ⟨0, rfl, hf, fun k hk => absurd hk (Nat.not_lt_zero _)⟩
  | case2 sm n f h ih =>
    rw [Nat.shiftLeft_eq, Nat.pow_one] at ih ⊢
    rw [Nat.pow_succ, Nat.mul_comm _ 2, ← Nat.mul_assoc] at hf
    obtain ⟨d, i1, i2, i3⟩ := ih (by omega) hf
    refine ⟨d + 1, by omega, ?_, fun k hk => ?_⟩
    · rw [Nat.pow_succ, Nat.mul_comm _ 2, ← Nat.mul_assoc]; exact i2
    · cases k with
      | zero => rw [Nat.pow_zero, Nat.mul_one]; exact h
      | succ k' =>
        rw [Nat.pow_succ, Nat.mul_comm _ 2, ← Nat.mul_assoc]; exact i3 k' (by omega)
  | case3 sm n f h => exact ⟨0, rfl, by omega, fun k hk => absurd hk (Nat.not_lt_zero _)⟩

/-- the guards the theorems carry: `New`'s own check on `sig`; `max < 2^62`, so that the doubling loop stays below
    2^63; `min < 2^48`, where `unitMagnitude` computed through `float64` is exact. They do not keep
    `subBucketCount << unitMagnitude` itself within int64: for `sig = 5` and `min ≥ 2^45` it is 2^63 or more,
    wraps to a non-positive int64, and the doubling loop of `New` never ends (`New(1<<45, 1<<50, 5)` does not
    return), while `mkShape` (unbounded naturals) yields a shape. The theorems under `ValidArgs` speak about the
    Go code only where `halfMagOf sig + 1 + Nat.log2 min < 63`. -/
def ValidArgs (min max sig : Nat) : Prop :=
  1 ≤ min ∧ min ≤ max ∧ max < 2 ^ 62 ∧ min < 2 ^ 48 ∧ 1 ≤ sig ∧ sig ≤ 5

theorem mkShape_lowest (min max sig : Nat) : (mkShape min max sig).lowest = min := rfl
theorem mkShape_highest (min max sig : Nat) : (mkShape min max sig).highest = max := rfl
theorem mkShape_sigfigs (min max sig : Nat) : (mkShape min max sig).sigfigs = sig := rfl
theorem mkShape_unitMag (min max sig : Nat) : (mkShape min max sig).unitMag = Nat.log2 min := rfl
theorem mkShape_halfMag (min max sig : Nat) : (mkShape min max sig).halfMag = halfMagOf sig := rfl

namespace Shape
variable {s : Shape} {max : Nat}

theorem bucketCount_spec (hs : s.bucketCount = bucketsLoop 64 (s.subBucketCount <<< s.unitMag) max 1)
    (hmax : max < 2 ^ 62) :
    1 ≤ s.bucketCount ∧ max < (s.subBucketCount <<< s.unitMag) * 2 ^ (s.bucketCount - 1) ∧
      ∀ n, 1 ≤ n → max < (s.subBucketCount <<< s.unitMag) * 2 ^ (n - 1) → s.bucketCount ≤ n := by
  have hsm : 0 < s.subBucketCount <<< s.unitMag := by
    rw [Nat.shiftLeft_eq]; unfold subBucketCount
    exact Nat.mul_pos (Nat.two_pow_pos _) (Nat.two_pow_pos _)
  have hf : max < (s.subBucketCount <<< s.unitMag) * 2 ^ 64 := by omega
  obtain ⟨d, b1, b2, b3⟩ := bucketsLoop_spec 64 _ max 1 hsm hf
  rw [hs, b1, Nat.add_sub_cancel_left]
  refine ⟨Nat.le_add_right 1 d, b2, fun n hn hlt => Nat.le_of_not_lt fun hc => ?_⟩
  have := b3 (n - 1) (by omega)
  omega

theorem max_lt (hs : s.bucketCount = bucketsLoop 64 (s.subBucketCount <<< s.unitMag) max 1)
    (hmax : max < 2 ^ 62) : max < 2 ^ (s.halfMag + s.unitMag + s.bucketCount) := by
  obtain ⟨b1, b2, _⟩ := bucketCount_spec hs hmax
  have e : s.halfMag + s.unitMag + s.bucketCount
      = (s.halfMag + 1) + s.unitMag + (s.bucketCount - 1) := by omega
  rw [e, Nat.pow_add, Nat.pow_add]
  rw [Nat.shiftLeft_eq] at b2
  exact b2

theorem index_lt (hs : s.bucketCount = bucketsLoop 64 (s.subBucketCount <<< s.unitMag) max 1)
    (hmax : max < 2 ^ 62) {v : Nat} (hv : v ≤ max) : s.countsIndexFor v < s.countsLen :=
  s.countsIndexFor_lt_of (bucketCount_spec hs hmax).1 (Nat.lt_of_le_of_lt hv (max_lt hs hmax))

end Shape

theorem halfMag_table {sig : Nat} (h1 : 1 ≤ sig) (h5 : sig ≤ 5) : 10 ^ sig ≤ 2 ^ halfMagOf sig := by
  have : sig = 1 ∨ sig = 2 ∨ sig = 3 ∨ sig = 4 ∨ sig = 5 := by omega
  rcases this with rfl | rfl | rfl | rfl | rfl <;> decide

theorem Shape.sizeOfRange_le (s : Shape) (v c : Nat) (hc : c ≤ 2 ^ s.halfMag) (hc0 : 0 < c) :
    s.sizeOfRange v ≤ max (2 ^ s.unitMag) (v / c) := by
  rw [s.sizeOfRange_eq]
  by_cases hb : s.bucketIdx v = 0
  · rw [hb, Nat.add_zero]; exact Nat.le_max_left _ _
  · apply Nat.le_trans _ (Nat.le_max_right _ _)
    apply (Nat.le_div_iff_mul_le hc0).2
    have g : 2 ^ (s.unitMag + s.bucketIdx v + s.halfMag) ≤ v := by
      rw [← lt_bitLen_iff]
      rw [bucketIdx_eq] at hb ⊢; omega
    rw [Nat.pow_add] at g
    exact Nat.le_trans (Nat.mul_le_mul_left _ hc) g

/-- `RecordValues` on each (value, count) pair in order; a failing one leaves the histogram as is -/
def recordAll (h : Hist) : List (Nat × Nat) → Hist
  | [] => h
  | p :: rest => recordAll ((h.record p.1 p.2).getD h) rest

/-- record each value once (`RecordValue`) -/
def recordValues (h : Hist) (vs : List Nat) : Hist := recordAll h (vs.map fun v => (v, 1))

def countSum (ps : List (Nat × Nat)) : Nat := (ps.map (·.2)).sum

/-- how much the pairs `ps` add at counts position `i` -/
def tally (s : Shape) : List (Nat × Nat) → Nat → Nat
  | [], _ => 0
  | p :: rest, i => (if s.countsIndexFor p.1 = i then p.2 else 0) + tally s rest i

theorem addAt_length (cs : List Nat) (i n : Nat) : (addAt cs i n).length = cs.length := by
  unfold addAt; exact List.length_set

theorem addAt_sum (cs : List Nat) (i n : Nat) (h : i < cs.length) :
    (addAt cs i n).sum = cs.sum + n := by
  have := List.sum_map_set id (cs[i] + n) (List.getElem?_eq_getElem h)
  simp only [List.map_id, id] at this
  rw [addAt, List.getD_eq_getElem?_getD, List.getElem?_eq_getElem h, Option.getD_some]; omega

theorem addAt_getD (cs : List Nat) (i n j : Nat) (h : i < cs.length) :
    (addAt cs i n).getD j 0 = cs.getD j 0 + (if i = j then n else 0) := by
  unfold addAt
  simp only [List.getD_eq_getElem?_getD, List.getElem?_set]
  by_cases hij : i = j
  · subst hij; simp [h]
  · simp [hij]

theorem record_eq_some {h : Hist} {v n : Nat} (hlt : h.shape.countsIndexFor v < h.shape.countsLen) :
    h.record v n = some { h with counts := addAt h.counts (h.shape.countsIndexFor v) n,
                                 total := h.total + n } := by
  unfold Hist.record
  rw [if_neg (Nat.not_le_of_lt hlt)]

theorem recordAll_spec (ps : List (Nat × Nat)) (h : Hist)
    (hlen : h.counts.length = h.shape.countsLen)
    (hps : ∀ p ∈ ps, h.shape.countsIndexFor p.1 < h.shape.countsLen) :
    (recordAll h ps).shape = h.shape ∧
      (recordAll h ps).counts.length = h.counts.length ∧
      (recordAll h ps).total = h.total + countSum ps ∧
      (recordAll h ps).counts.sum = h.counts.sum + countSum ps ∧
      ∀ i, (recordAll h ps).counts.getD i 0 = h.counts.getD i 0 + tally h.shape ps i := by
  induction ps generalizing h with
  | nil => simp [recordAll, countSum, tally]
  | cons p rest ih =>
    have hp := hps p (List.mem_cons_self ..)
    unfold recordAll
    rw [record_eq_some hp, Option.getD_some]
    have hi : h.shape.countsIndexFor p.1 < h.counts.length := by rw [hlen]; exact hp
    obtain ⟨i1, i2, i3, i4, i5⟩ := ih
      { h with counts := addAt h.counts (h.shape.countsIndexFor p.1) p.2, total := h.total + p.2 }
      (by simp only [addAt_length]; exact hlen)
      (fun q hq => hps q (List.mem_cons_of_mem _ hq))
    refine ⟨i1, ?_, ?_, ?_, ?_⟩
    · rw [i2]; exact addAt_length _ _ _
    · rw [i3]; simp only [countSum, List.map_cons, List.sum_cons]; omega
    · rw [i4]; simp only [addAt_sum _ _ _ hi, countSum, List.map_cons, List.sum_cons]; omega
    · intro i
      rw [i5 i]; simp only [addAt_getD _ _ _ _ hi, tally]; omega

theorem list_eq_map_getD (l : List Nat) : l = (List.range l.length).map (fun i => l.getD i 0) := by
  apply List.ext_getElem
  · simp
  · intro i h1 h2
    simp [List.getD_eq_getElem?_getD, h1]

/-- a histogram as `New` returns it -/
def Hist.IsEmpty (h : Hist) : Prop := h.counts = List.replicate h.shape.countsLen 0 ∧ h.total = 0

theorem recordAll_empty {h : Hist} (he : h.IsEmpty) (ps : List (Nat × Nat))
    (hps : ∀ p ∈ ps, h.shape.countsIndexFor p.1 < h.shape.countsLen) :
    (recordAll h ps).shape = h.shape ∧
      (recordAll h ps).counts.length = h.shape.countsLen ∧
      (recordAll h ps).total = countSum ps ∧
      (recordAll h ps).counts.sum = countSum ps ∧
      (recordAll h ps).counts = (List.range h.shape.countsLen).map (tally h.shape ps) := by
  obtain ⟨hc, ht⟩ := he
  obtain ⟨i1, i2, i3, i4, i5⟩ := recordAll_spec ps h (by rw [hc, List.length_replicate]) hps
  rw [hc, List.length_replicate] at i2
  rw [ht, Nat.zero_add] at i3
  rw [hc, List.sum_replicate_nat, Nat.mul_zero, Nat.zero_add] at i4
  refine ⟨i1, i2, i3, i4, ?_⟩
  rw [list_eq_map_getD (recordAll h ps).counts, i2]
  apply List.map_congr_left
  intro i _
  rw [i5 i, hc]
  simp only [List.getD_eq_getElem?_getD, List.getElem?_replicate]
  by_cases hi : i < h.shape.countsLen
  · rw [if_pos hi, Option.getD_some, Nat.zero_add]
  · rw [if_neg hi, Option.getD_none, Nat.zero_add]

/-- a histogram that some sequence of in-range `RecordValues` calls produces from `New` -/
def Reachable (min max sig : Nat) (h : Hist) : Prop :=
  ∃ ps : List (Nat × Nat), (∀ p ∈ ps, p.1 ≤ max) ∧ h = recordAll (Hist.new min max sig) ps

/-- all that `Export`/`Import` and `Merge` need of a histogram (C19 `*_of_wf`); `Reachable.wf` -/
def Hist.WF (min max sig : Nat) (h : Hist) : Prop :=
  h.shape = mkShape min max sig ∧ h.counts.length = h.shape.countsLen ∧ h.counts.sum = h.total

theorem new_isEmpty (min max sig : Nat) : (Hist.new min max sig).IsEmpty := ⟨rfl, rfl⟩

theorem Reachable.wf {min max sig : Nat} {h : Hist} (hmax : max < 2 ^ 62)
    (hr : Reachable min max sig h) : h.WF min max sig := by
  obtain ⟨ps, hps, rfl⟩ := hr
  obtain ⟨i1, i2, i3, i4, _⟩ := recordAll_empty (new_isEmpty min max sig) ps
    (fun p hp => Shape.index_lt rfl hmax (hps p hp))
  exact ⟨i1, by rw [i2, i1], by rw [i3, i4]⟩

/-- `F j` = sum of the counts before position `j`: the scan stops at the position `k` with `F k < rank ≤ F (k+1)`. -/
theorem scanFrom_range' (f F : Nat → Nat) (hF : ∀ j, F (j + 1) = F j + f j) (rank k : Nat)
    (hlo : F k < rank) (hhi : rank ≤ F (k + 1)) (n i : Nat) (hik : i ≤ k) (hkn : k < i + n) :
    scanFrom ((List.range' i n).map f) i (F i) rank = some k := by
  have hmono : ∀ d a, F a ≤ F (a + d) := by
    intro d a
    induction d with
    | zero => exact Nat.le_refl _
    | succ d ih => rw [← Nat.add_assoc, hF]; omega
  induction n generalizing i with
  | zero => omega
  | succ n ih =>
    rw [List.range'_succ, List.map_cons]
    unfold scanFrom
    rw [← hF i]
    by_cases h : i = k
    · subst h
      rw [if_pos hhi]
    · have h1 := hmono (k - (i + 1)) (i + 1)
      rw [Nat.add_sub_cancel' (by omega)] at h1
      rw [if_neg (by omega)]
      exact ih (i + 1) (by omega) (by omega)

/-- `Min()` scans as the quantile of rank 1 does -/
theorem firstNonZero_eq_scanFrom (cs : List Nat) (i : Nat) : firstNonZero cs i = scanFrom cs i 0 1 := by
  induction cs generalizing i with
  | nil => rfl
  | cons c rest ih =>
    unfold firstNonZero scanFrom
    by_cases hc : c = 0
    · subst hc; rw [if_neg (fun h => h rfl), if_neg (by decide)]; exact ih (i + 1)
    · rw [if_pos hc, if_pos (by omega)]

/-- `Max()` stops where the running sum reaches the sum of all counts -/
theorem lastNonZero_eq_scanFrom (cs : List Nat) (i acc : Nat) (cur : Option Nat) :
    lastNonZero cs i cur = if cs.sum = 0 then cur else scanFrom cs i acc (acc + cs.sum) := by
  induction cs generalizing i acc cur with
  | nil => rfl
  | cons c rest ih =>
    unfold lastNonZero scanFrom
    rw [ih (i + 1) (acc + c), List.sum_cons]
    by_cases hr : rest.sum = 0
    · rw [if_pos hr, hr, Nat.add_zero, if_pos (Nat.le_refl _)]
      by_cases hc : c = 0
      · rw [if_neg (fun h => h hc), if_pos hc]
      · rw [if_pos hc, if_neg hc]
    · rw [if_neg hr, if_neg (by omega), if_neg (by omega), Nat.add_assoc]

theorem Hist.min_eq_valueAtRank (h : Hist) (ht : h.total ≠ 0) : h.min = h.shape.lowestEquiv (h.valueAtRank 1) := by
  unfold Hist.min Hist.valueAtRank
  rw [firstNonZero_eq_scanFrom, if_neg ht]
  cases scanFrom h.counts 0 0 1 <;> rfl

theorem Hist.max_eq_valueAtRank (h : Hist) (hs : h.counts.sum = h.total) (ht : h.total ≠ 0) :
    h.max = h.shape.highestEquiv (h.valueAtRank h.total) := by
  unfold Hist.max Hist.valueAtRank
  rw [lastNonZero_eq_scanFrom _ 0 0, hs, if_neg ht, if_neg ht, Nat.zero_add]
  cases scanFrom h.counts 0 0 h.total <;> rfl

/-- `tally` for values recorded once each (`tally_unit`) -/
def hits (s : Shape) (vs : List Nat) (i : Nat) : Nat :=
  vs.countP (fun v => decide (s.countsIndexFor v = i))

/-- the running sum the scan has reached when it arrives at position `k` (`below_succ`) -/
def below (s : Shape) (vs : List Nat) (k : Nat) : Nat :=
  vs.countP (fun v => decide (s.countsIndexFor v < k))

theorem below_succ (s : Shape) (vs : List Nat) (k : Nat) :
    below s vs (k + 1) = below s vs k + hits s vs k := by
  unfold below hits
  induction vs with
  | nil => rfl
  | cons v rest ih =>
    simp only [List.countP_cons, ih, decide_eq_true_eq]
    rcases Nat.lt_trichotomy (s.countsIndexFor v) k with h | h | h
    · rw [if_pos h, if_pos (Nat.lt_succ_of_lt h), if_neg (Nat.ne_of_lt h)]; omega
    · rw [h, if_neg (Nat.lt_irrefl k), if_pos (Nat.lt_succ_self k), if_pos rfl]; omega
    · rw [if_neg (Nat.lt_asymm h), if_neg (Nat.not_lt_of_le (Nat.succ_le_of_lt h)),
        if_neg (Nat.ne_of_gt h)]; omega

theorem below_zero (s : Shape) (vs : List Nat) : below s vs 0 = 0 :=
  List.countP_eq_zero.2 fun v _ => by rw [decide_eq_true_eq]; exact Nat.not_lt_zero _

theorem tally_unit (s : Shape) (vs : List Nat) (i : Nat) :
    tally s (vs.map fun v => (v, 1)) i = hits s vs i := by
  unfold hits
  induction vs with
  | nil => rfl
  | cons v rest ih =>
    simp only [List.map_cons, tally, List.countP_cons, ih, decide_eq_true_eq]
    omega

theorem countSum_unit (vs : List Nat) : countSum (vs.map fun v => (v, 1)) = vs.length := by
  induction vs with
  | nil => rfl
  | cons v rest ih =>
    simp only [countSum, List.map_cons, List.sum_cons, List.length_cons] at ih ⊢
    omega

theorem recordValues_empty {h : Hist} (he : h.IsEmpty) (vs : List Nat)
    (hvs : ∀ v ∈ vs, h.shape.countsIndexFor v < h.shape.countsLen) :
    (recordValues h vs).shape = h.shape ∧ (recordValues h vs).total = vs.length ∧
      (recordValues h vs).counts.sum = vs.length ∧
      (recordValues h vs).counts = (List.range' 0 h.shape.countsLen).map (hits h.shape vs) := by
  unfold recordValues
  obtain ⟨i1, _, i3, i4, i5⟩ := recordAll_empty he (vs.map fun v => (v, 1)) (by
    intro p hp
    obtain ⟨v, hv, rfl⟩ := List.mem_map.1 hp
    exact hvs v hv)
  refine ⟨i1, by rw [i3, countSum_unit], by rw [i4, countSum_unit], ?_⟩
  rw [i5, List.range_eq_range']
  exact List.map_congr_left fun i _ => tally_unit _ vs i

theorem valueAtRank_recordValues {h : Hist} (he : h.IsEmpty) (vs : List Nat)
    (hvs : ∀ v ∈ vs, h.shape.countsIndexFor v < h.shape.countsLen) (x r : Nat) (hx : x ∈ vs)
    (hlo : vs.countP (fun v => decide (v < x)) < r)
    (hhi : r ≤ vs.countP (fun v => decide (v ≤ x))) :
    (recordValues h vs).valueAtRank r = h.shape.highestEquiv x := by
  obtain ⟨i1, i2, _, i3⟩ := recordValues_empty he vs hvs
  -- by monotonicity of the index, `hlo` and `hhi` bound the cumulative counts around the index of `x`
  have hlo' : below h.shape vs (h.shape.countsIndexFor x) < r := by
    apply Nat.lt_of_le_of_lt _ hlo
    apply List.countP_mono_left
    intro v _ hv
    simp only [decide_eq_true_eq] at hv ⊢
    apply Nat.lt_of_not_le
    intro hc
    have := h.shape.countsIndexFor_mono hc
    omega
  have hhi' : r ≤ below h.shape vs (h.shape.countsIndexFor x + 1) := by
    apply Nat.le_trans hhi
    apply List.countP_mono_left
    intro v _ hv
    simp only [decide_eq_true_eq] at hv ⊢
    have := h.shape.countsIndexFor_mono hv
    omega
  have hscan := scanFrom_range' _ (below h.shape vs) (below_succ h.shape vs) r _ hlo' hhi'
    h.shape.countsLen 0 (Nat.zero_le _) (by rw [Nat.zero_add]; exact hvs x hx)
  rw [below_zero] at hscan
  unfold Hist.valueAtRank
  rw [i1, i2, i3, hscan, if_neg (Nat.ne_of_gt (List.length_pos_of_mem hx))]
  exact h.shape.highestEquiv_valueAt_index x

theorem min_recordValues {h : Hist} (he : h.IsEmpty) (vs : List Nat)
    (hvs : ∀ v ∈ vs, h.shape.countsIndexFor v < h.shape.countsLen) (m : Nat) (hm : m ∈ vs)
    (hle : ∀ v ∈ vs, m ≤ v) : (recordValues h vs).min = h.shape.lowestEquiv m := by
  obtain ⟨i1, i2, _⟩ := recordValues_empty he vs hvs
  -- `m` is the order statistic of rank 1
  rw [Hist.min_eq_valueAtRank _ (by rw [i2]; exact Nat.ne_of_gt (List.length_pos_of_mem hm)), i1,
    valueAtRank_recordValues he vs hvs m 1 hm
      (by rw [List.countP_eq_zero.2 fun v hv => by simpa using hle v hv]; exact Nat.one_pos)
      (List.countP_pos_iff.2 ⟨m, hm, by simp⟩)]
  exact h.shape.same_cell_lowest (h.shape.lowest_le_highest m) (Nat.le_refl _)

theorem max_recordValues {h : Hist} (he : h.IsEmpty) (vs : List Nat)
    (hvs : ∀ v ∈ vs, h.shape.countsIndexFor v < h.shape.countsLen) (M : Nat) (hM : M ∈ vs)
    (hge : ∀ v ∈ vs, v ≤ M) : (recordValues h vs).max = h.shape.highestEquiv M := by
  obtain ⟨i1, i2, i3, _⟩ := recordValues_empty he vs hvs
  -- `M` is the order statistic of the last rank
  rw [Hist.max_eq_valueAtRank _ (i3.trans i2.symm) (by rw [i2]; exact Nat.ne_of_gt (List.length_pos_of_mem hM)), i1, i2,
    valueAtRank_recordValues he vs hvs M vs.length hM
      (Nat.lt_of_le_of_ne List.countP_le_length fun e => by simpa using List.countP_eq_length.1 e M hM)
      (Nat.le_of_eq (List.countP_eq_length.2 fun v hv => by simpa using hge v hv).symm)]
  exact h.shape.same_cell_highest (h.shape.lowest_le_highest M) (Nat.le_refl _)

theorem addAt_append (pre : List Nat) (a : Nat) (t : List Nat) (n : Nat) :
    addAt (pre ++ a :: t) pre.length n = pre ++ (a + n) :: t := by
  unfold addAt
  induction pre with
  | nil => simp
  | cons p ps ih =>
    simp only [List.cons_append, List.length_cons, List.set_cons_succ, List.getD_cons_succ]
    rw [ih]

/-- `pre`: the counts already merged; a histogram that holds them takes on those of `rest` -/
theorem mergeFrom_spec (s : Shape) (rest pre : List Nat) (d : Nat)
    (hL : s.countsLen = pre.length + rest.length) :
    mergeFrom ⟨s, pre ++ List.replicate rest.length 0, pre.sum⟩ s rest pre.length d
      = (⟨s, pre ++ rest, (pre ++ rest).sum⟩, d) := by
  induction rest generalizing pre with
  | nil => simp [mergeFrom]
  | cons c rest ih =>
    have hL' : s.countsLen = (pre ++ [c]).length + rest.length := by
      rw [hL, List.length_append]; simp only [List.length_cons, List.length_nil]; omega
    have hnext := ih (pre ++ [c]) hL'
    have e : (pre ++ [c]).sum = pre.sum + c := by simp
    rw [e, List.length_append, List.append_assoc, List.append_assoc] at hnext
    simp only [List.length_cons, List.length_nil, Nat.zero_add, List.singleton_append] at hnext
    unfold mergeFrom
    simp only [List.length_cons, List.replicate_succ]
    by_cases hc0 : c = 0
    · rw [if_pos hc0]
      rw [hc0, Nat.add_zero] at hnext
      rw [hc0]; exact hnext
    · rw [if_neg hc0]
      have hidx : s.countsIndexFor (s.valueAt pre.length) = pre.length := s.countsIndexFor_valueAt _
      rw [record_eq_some (by show s.countsIndexFor _ < s.countsLen; rw [hidx, hL]; simp)]
      simp only [hidx, addAt_append, Nat.zero_add]
      exact hnext

/-! Finding D17: the loop of `New` with the strict test `smallest < max` (hdr.go and `bucketsLoop` test `≤`). Then
    `max` itself is not recordable when `max = (subBucketCount << unitMag) * 2^k` (e.g. `New(1, 2048, 3)`);
    everything strictly below `max` still is. -/

def bucketsLoopLt (fuel : Nat) (smallest max n : Nat) : Nat :=
  match fuel with
  | 0 => n
  | fuel + 1 => if smallest < max then bucketsLoopLt fuel (smallest <<< 1) max (n + 1) else n

def mkShapeLt (min max sig : Nat) : Shape :=
  { mkShape min max sig with
    bucketCount := bucketsLoopLt 64 ((2 ^ (halfMagOf sig + 1)) <<< Nat.log2 min) max 1 }

theorem bucketsLoopLt_eq (fuel sm max n : Nat) (hsm : 0 < sm) :
    bucketsLoopLt fuel sm max n = bucketsLoop fuel sm (max - 1) n := by
  fun_induction bucketsLoopLt fuel sm max n with
  | case1 sm n => rfl
  | case2 sm n f h ih =>
    unfold bucketsLoop
    rw [if_pos (by omega), ih (by rw [Nat.shiftLeft_eq]; omega)]
  | case3 sm n f h =>
    unfold bucketsLoop
    rw [if_neg (by omega)]

end FunModel.Hdr
