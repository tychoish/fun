/-! Shared by the pointer-level developments of `pubsub.Queue`, `pubsub.Deque` and `dt.List` (QueuePtr, DequePtr,
    DllChain) and by DequeLive: small list facts, and `Cells`, what the representation relations of the queue and of
    the deque say about allocation. -/

theorem List.headD_mem {α : Type} (b : α) (xs : List α) : xs.headD b = b ∨ xs.headD b ∈ xs := by
  cases xs <;> simp

namespace FunProofs.Ptr

/-- last element of `a :: xs` -/
def lastD (a : Nat) : List Nat → Nat
  | [] => a
  | x :: xs => lastD x xs

@[simp] theorem lastD_nil (a : Nat) : lastD a [] = a := rfl
@[simp] theorem lastD_cons (a x : Nat) (xs : List Nat) : lastD a (x :: xs) = lastD x xs := rfl
theorem lastD_eq_getLastD (a : Nat) (xs : List Nat) : lastD a xs = xs.getLastD a := by
  induction xs generalizing a with
  | nil => rfl
  | cons x xs ih => rw [lastD_cons, ih, List.getLastD_cons]

@[simp] theorem lastD_snoc (a b : Nat) (xs : List Nat) : lastD a (xs ++ [b]) = b :=
  (lastD_eq_getLastD ..).trans List.getLastD_concat

theorem lastD_mem (a : Nat) (xs : List Nat) : lastD a xs = a ∨ lastD a xs ∈ xs :=
  List.mem_cons.1 (lastD_eq_getLastD a xs ▸ List.getLastD_mem_cons)

theorem lastD_eq_getLast? (a : Nat) (xs : List Nat) : lastD a xs = xs.getLast?.getD a :=
  (lastD_eq_getLastD ..).trans List.getLastD_eq_getLast?

theorem lastD_eq_of_ne_nil (a : Nat) {xs : List Nat} (h : xs ≠ []) (b : Nat) : lastD a xs = lastD b xs := by
  cases xs with
  | nil => exact absurd rfl h
  | cons x xs => rfl

theorem lastD_eq_self {a : Nat} {xs : List Nat} (hn : (a :: xs).Nodup) (h : lastD a xs = a) : xs = [] := by
  cases xs with
  | nil => rfl
  | cons x xs =>
    exfalso
    rcases lastD_mem x xs with h1 | h1
    · simp only [lastD_cons, h1] at h
      simp [h] at hn
    · simp only [lastD_cons] at h
      rw [h] at h1
      simp [h1] at hn

/-- what a value table (`St.vals` of the queue and deque models) holds for `c` once `(n, v)` is put in front -/
theorem lookup_cons (vals : List (Nat × Int)) (n c : Nat) (v : Int) :
    ((((n, v) :: vals).find? (fun p => p.1 == c)).map (·.2)).getD 0 =
      if c = n then v else ((vals.find? (fun p => p.1 == c)).map (·.2)).getD 0 := by
  by_cases h : c = n
  · simp [h]
  · simp [h, Ne.symm h]

/-- pigeonhole -/
theorem length_le_of_nodup_lt (n : Nat) (l : List Nat) (hn : l.Nodup) (h : ∀ x ∈ l, x < n) : l.length ≤ n := by
  simpa using hn.length_le_of_subset (l₂ := List.range n) fun x hx => List.mem_range.mpr (h x hx)

/-- The part of the representation relations of `pubsub.Queue` and `pubsub.Deque` (`QueuePtr.R`, `DequePtr.R`) that is
    about allocation and not about links: the linked entries `q` sit at distinct addresses other than the sentinel 0
    and below the allocation pointer `nn`, each holds its item, and every cell ever allocated, linked or not, holds
    what the value table `vals` records for it. An insertion is `alloc`, a removal `forget`. -/
structure Cells (nn : Nat) (item : Nat → Int) (q vals : List (Nat × Int)) : Prop where
  nodup : (0 :: q.map (·.1)).Nodup
  lt : ∀ e ∈ q.map (·.1), e < nn
  pos : 0 < nn
  items : ∀ p ∈ q, item p.1 = p.2
  vals : ∀ c, c ≠ 0 → c < nn → item c = ((vals.find? (fun p => p.1 == c)).map (·.2)).getD 0

namespace Cells
variable {nn : Nat} {item item' : Nat → Int} {q q' vals : List (Nat × Int)}

theorem lt_nn (hc : Cells nn item q vals) {c : Nat} (h : c = 0 ∨ c ∈ q.map (·.1)) : c < nn :=
  h.elim (fun e => e ▸ hc.pos) (hc.lt c)

theorem fresh (hc : Cells nn item q vals) : nn ∉ 0 :: q.map (·.1) :=
  fun hm => Nat.lt_irrefl _ (hc.lt_nn (List.mem_cons.1 hm))

/-- the entry `(nn, v)` is linked in somewhere; the cell `nn` is the only one whose item changes -/
theorem alloc (hc : Cells nn item q vals) {v : Int} (hp : q'.Perm ((nn, v) :: q))
    (hi : ∀ c, item' c = if c = nn then v else item c) : Cells (nn + 1) item' q' ((nn, v) :: vals) := by
  have hids : (0 :: q'.map (·.1)).Perm (nn :: 0 :: q.map (·.1)) := ((hp.map _).cons 0).trans (.swap ..)
  refine ⟨hids.nodup_iff.2 (List.nodup_cons.2 ⟨hc.fresh, hc.nodup⟩), fun e he => ?_, Nat.succ_pos _, fun p hp' => ?_,
    fun c h0 h1 => ?_⟩
  · rcases List.mem_cons.1 ((hp.map _).mem_iff.1 he) with rfl | he
    · exact Nat.lt_succ_self _
    · exact Nat.lt_succ_of_lt (hc.lt e he)
  · rw [hi]
    rcases List.mem_cons.1 (hp.mem_iff.1 hp') with rfl | hp'
    · exact if_pos rfl
    · rw [if_neg (Nat.ne_of_lt (hc.lt _ (List.mem_map_of_mem hp'))), hc.items p hp']
  · rw [hi, lookup_cons]
    split
    · rfl
    · next hcn => exact hc.vals c h0 (Nat.lt_of_le_of_ne (Nat.le_of_lt_succ h1) hcn)

/-- entries are unlinked; no cell changes its item -/
theorem forget (hc : Cells nn item q vals) (hs : (q'.map (·.1)).Sublist (q.map (·.1))) (hq : ∀ p ∈ q', p ∈ q) :
    Cells nn item q' vals :=
  ⟨hc.nodup.sublist (hs.cons_cons 0), fun e he => hc.lt e (hs.subset he), hc.pos, fun p hp => hc.items p (hq p hp), hc.vals⟩

theorem length_lt (hc : Cells nn item q vals) : (q.map (·.1)).length < nn :=
  length_le_of_nodup_lt nn _ hc.nodup fun _ he => hc.lt_nn (List.mem_cons.1 he)

theorem read (hc : Cells nn item q vals) : (q.map (·.1)).map (fun e => (e, item e)) = q := by
  rw [List.map_map]
  conv => rhs; rw [← List.map_id q]
  exact List.map_congr_left fun p hp => by simp [hc.items p hp]

end Cells

end FunProofs.Ptr
