import FunProofs.ConcDeque
import FunProofs.DequeLive

/-! The wake-up invariant of the Deque model over all schedules (C07, C20): in every reachable
    state a parked goroutine whose condition holds has a wake-up on its way (`LiveInv`, read off the
    monitor invariant of `FunProofs/Conc.lean` through `seg_mon`), so nobody whose condition holds is
    blocked at quiescence up to ping-pong (`no_stuck_pp`, `blocked_pp_parks`). `Owned` is the hypothesis
    on the programs. -/

namespace FunModel.Deque
open FunModel.Conc

/-- each iterator (producer closure) is used by one goroutine -/
def Owned (s : Sys St Op) : Prop :=
  ∀ (t u : Nat) (tht thu : Th Op), t ≠ u → s.ths[t]? = some tht → s.ths[u]? = some thu →
    ∀ d b k, Op.next d b k ∈ tht.ops → Op.next d b k ∉ thu.ops

theorem reach_owned {s0 s : Sys St Op} (hwf0 : s0.WF) (h0 : Owned s0) (hr : Reach subject s0 s) : Owned s := by
  intro t u tht thu htu ht hu d b k hm
  have e1 := hr.ops_eq hwf0 t
  have e2 := hr.ops_eq hwf0 u
  rw [ht, Option.map_some] at e1
  rw [hu, Option.map_some] at e2
  obtain ⟨tht0, h1, e1⟩ := Option.map_eq_some_iff.1 e1.symm
  obtain ⟨thu0, h2, e2⟩ := Option.map_eq_some_iff.1 e2.symm
  rw [← e2]
  exact h0 t u tht0 thu0 htu h1 h2 d b k (by rw [e1]; exact hm)

theorem Eff.cursor {x : St} {opt : Op} {o : SegR} (e : Eff x opt o) (key' : Nat)
    (h : ∀ d b k, opt = .next d b k → cursorKey d b k ≠ key') : o.st.cursor key' = x.cursor key' :=
  e.inv (P := fun y => y.cursor key' = x.cursor key') rfl
    (fun y d v hy => (cursor_congr (addEnd_frame y d v).1 _).trans hy)
    (fun y d hy => (cursor_congr (popEnd_frame y d).1 _).trans hy)
    rfl
    (fun d b k hop => cursor_setCursor_ne x _ (h d b k hop).symm)

theorem seg_sameCursor {s : Sys St Op} (hown : Owned s) {t : Nat} {a : Act} {th0 : Th Op} {opt : Op} {o : SegOut St}
    (hseg : IsSeg subject s t a th0 opt o) {u : Nat} {thu : Th Op} (hut : u ≠ t) (hu : s.ths[u]? = some thu)
    {opu : Op} (hopu : thu.ops[thu.pc]? = some opu) : SameCursor s.subj o.st opu := by
  intro d key hop
  subst hop
  obtain ⟨tht, htht, hops, hpc, _, _, hopt, _, _⟩ := hseg.basic
  have hne : ∀ d' b' k', opt = .next d' b' k' → cursorKey d' b' k' ≠ cursorKey d true key := by
    intro d' b' k' he hk
    obtain ⟨rfl, rfl, rfl⟩ := cursorKey_inj hk
    subst he
    have hm1 : Op.next d' true k' ∈ tht.ops := by
      rw [← hops]; exact List.mem_of_getElem? hopt
    have hm2 : Op.next d' true k' ∈ thu.ops := List.mem_of_getElem? hopu
    exact hown t u tht thu (Ne.symm hut) htht hu d' true k' hm1 hm2
  rw [(isSeg_segR hseg).1]
  exact (segROf_eff _ _ _).cursor _ hne

theorem seg_stable {s : Sys St Op} (hown : Owned s) {t : Nat} {a : Act} {th0 : Th Op} {opt : Op} {o : SegOut St}
    (hseg : IsSeg subject s t a th0 opt o) : Stable condOf s t o := by
  intro u thu hut hu _ opu hopu
  exact condOf_congr (seg_sameCursor hown hseg hut hu hopu)

theorem seg_parkOK {s : Sys St Op} {t : Nat} {a : Act} {th0 : Th Op} {opt : Op} {o : SegOut St}
    (hseg : IsSeg subject s t a th0 opt o) : ParkOK (condOf s.subj) (condOf o.st) th0 opt o := by
  intro c hfin
  obtain ⟨hp, hc, hst', hsg⟩ := isSeg_park hseg hfin
  rw [hst', hsg]
  refine ⟨(parks_blocking hp).2, hc, ?_, ?_⟩
  -- no `release`; the helper is spawned here, or this is a re-park on the same condition
  · split <;> simp
  · rcases (isSeg_segR hseg).2.2 with hi | hw
    · rw [if_pos hi]; exact .inl List.mem_cons_self
    · exact .inr ⟨hw, hc⟩

/-- a parked goroutine whose loop test would let it go has a wake-up on its way (`Wit`, FunProofs/Conc.lean) -/
def LiveInv (s : Sys St Op) : Prop :=
  ∀ (u : Nat) (th : Th Op) (c : Nat) (op : Op), s.ths[u]? = some th → th.st = .parked c → th.ops[th.pc]? = some op →
    parks s.subj op th.cancelled = false → Wit condOf s c

/-- what `reach_good` establishes of every reachable state when the iterators are `Owned`. `helper`: a
    parked goroutine is inside an operation that waits on its condition, and its helper is still to
    broadcast; `waiting`: only operations that can park are parked or woken. -/
structure Good (s : Sys St Op) : Prop where
  wf : s.WF
  helper : HelperInv condOf s
  waiting : WaitingIn (fun op => op.blocking = true) s
  inv2 : Inv2 s.subj
  owned : Owned s
  live : LiveInv s

/-- the guard of a blocking operation (the `Gw` of `Mon`, FunProofs/Conc.lean; `Gs` is not used):
    `parks` under a live context -/
def Guard (x : St) (op : Op) : Prop := parks x op false = true

/-- `LiveInv` is the monitor invariant of the loop tests: a parked thread whose context is done has its
    helper at the gate -/
theorem LiveInv.of_mon {s : Sys St Op} (m : Mon condOf (fun _ _ => True) Guard s)
    (hinv : HelperInv condOf s) : LiveInv s := by
  intro u th c op hth hp hop hr
  cases hk : th.cancelled with
  | true => exact ⟨u, th, hth, .inr ((hinv u th hth).pending c hp hk)⟩
  | false =>
    rw [hk] at hr
    exact (m u th c op hth hp hop).2.resolve_left fun h : parks s.subj op false = true => by rw [hr] at h; cases h

theorem seg_mon {s : Sys St Op} (h2 : Inv2 s.subj) (hown : Owned s) {t : Nat} {a : Act} {th0 : Th Op} {opt : Op}
    {o : SegOut St} (hseg : IsSeg subject s t a th0 opt o) :
    SegMon condOf (fun _ _ => True) Guard s t th0 opt o := by
  refine ⟨?_, fun _ _ _ _ _ => .inl trivial, ?_, ?_⟩
  · -- the running thread parked: its loop test said "park", and it left the state alone
    intro c hfin
    obtain ⟨hp, _, hst, _⟩ := isSeg_park hseg hfin
    rw [hst]; refine ⟨trivial, ?_⟩; show parks s.subj opt false = true
    rw [← (parks_blocking hp).2]; exact hp
  · -- a loop test turned to "go" by this segment: the segment signalled or broadcast its condition
    intro u c op ⟨hut, hcond, thu, hthu, _, hopu⟩ hbefore
    cases hafter : parks o.st op false with
    | true => exact .inl hafter
    | false =>
      have hsame : SameCursor s.subj o.st op := seg_sameCursor hown hseg hut hthu hopu
      have hsig : Sig.signal c ∈ o.sigs ∨ Sig.broadcast c ∈ o.sigs := by
        rw [(isSeg_segR hseg).1] at hsame hafter ⊢
        exact (segROf_eff _ _ _).sig_ok h2 _ _ hcond hsame hbefore hafter
      exact .inr hsig.symm
  · -- a woken thread that parks again signals first (D28)
    intro c c' _ hcond hfin
    obtain ⟨_, hc, _, hsg⟩ := isSeg_park hseg hfin
    rw [hcond] at hc; cases hc
    rw [hsg]
    left; split <;> simp

theorem reach_mon (init : St) (h2 : Inv2 init) (programs : List (List Op)) (hown : Owned (initSys init programs))
    {s : Sys St Op} (hr : Reach subject (initSys init programs) s) :
    HelperInv condOf s ∧ Mon condOf (fun _ _ => True) Guard s :=
  have hwf0 := initSys_wf init programs
  hr.mon fun _ _ _ _ _ _ hr hseg => ⟨seg_parkOK hseg, seg_stable (reach_owned hwf0 hown hr) hseg,
    seg_mon (reach_inv2 hwf0 h2 hr) (reach_owned hwf0 hown hr) hseg⟩

theorem reach_good (init : St) (h2 : Inv2 init) (programs : List (List Op)) (hown : Owned (initSys init programs))
    {s : Sys St Op} (hr : Reach subject (initSys init programs) s) : Good s := by
  have hwf0 := initSys_wf init programs
  obtain ⟨hd, m⟩ := reach_mon init h2 programs hown hr
  exact ⟨hr.wf hwf0, hd, reach_waitingIn hwf0 (initSys_waitingIn _ _ _) hr, reach_inv2 hwf0 h2 hr,
    reach_owned hwf0 hown hr, .of_mon m hd⟩

/-- quiescence up to ping-pong: a woken goroutine can only resume to park again, so its loop test is on -/
theorem pp_resume {s0 s : Sys St Op} (hwf : s.WF) (hq : QuiescentPP subject s0) (hint : ReachInt subject s0 s)
    {v : Nat} {thv : Th Op} {opv : Op} (hthv : s.ths[v]? = some thv) (hwk : thv.st = .woken)
    (hopv : thv.ops[thv.pc]? = some opv) :
    ∃ s' obs c, Act.resume v ∈ enabled s false ∧ step subject s (.resume v) = some (s', obs) ∧ s'.subj = s.subj ∧
      parks s.subj opv thv.cancelled = true ∧ condOf s.subj opv = some c ∧
      subject.resume s.subj v opv thv.cancelled = { st := s.subj, sigs := [.signal c], fin := .park c } := by
  have hen : Act.resume v ∈ enabled s false := mem_enabled_resume.2 ⟨thv, hthv, hwk⟩
  obtain ⟨t, s', obs, thp, c', hat, hs, hsubj, hthp, hstp⟩ := hq s hint _ hen rfl
  cases hat
  obtain ⟨thx, opx, hthx, _, hopx, r⟩ := step_resume_rel hwf (enabled_false_sub hen) hs
  rw [hthv] at hthx; cases hthx
  rw [hopv] at hopx; cases hopx
  have hfin := (r.parked_iff hthp c').2 hstp
  rw [subject_resume, SegR.out_fin, FinR.out_park] at hfin
  obtain ⟨heq, hp, hc⟩ := resumeR_park hfin
  exact ⟨s', obs, c', hen, hs, hsubj, hp, hc, by rw [subject_resume, heq]; rfl⟩

/-- at quiescence up to ping-pong no goroutine is parked whose loop test would let it go. Such a
    goroutine `u` has a wake-up on its way (`LiveInv`); a helper at its gate contradicts quiescence,
    so a woken goroutine re-parks and signals `u`'s condition, which wakes `u` — then `u` would
    return — or somebody standing before `u` in that condition's queue (`repark_other`): induction
    on `u`'s place in the queue. -/
theorem no_stuck_pp (init : St) (h2 : Inv2 init) (programs : List (List Op)) (hown : Owned (initSys init programs))
    {s : Sys St Op} (hr : Reach subject (initSys init programs) s) (hq : QuiescentPP subject s)
    {u : Nat} {th : Th Op} {c : Nat} {op : Op} (hth : s.ths[u]? = some th) (hst : th.st = .parked c)
    (hop : th.ops[th.pc]? = some op) : parks s.subj op th.cancelled = true := by
  generalize hn : queuePos s u = n
  induction n using Nat.strongRecOn generalizing s with
  | _ n ih =>
  cases hready : parks s.subj op th.cancelled with
  | true => rfl
  | false =>
    exfalso
    have g := reach_good init h2 programs hown hr
    obtain ⟨v, thv, hthv, hw | hpend⟩ := g.live u th c op hth hst hop hready
    · obtain ⟨hwk, ⟨opv, hopv, hcv⟩, _⟩ := hw
      obtain ⟨s', obs, c', hen, hs, hsubj, _, hc', ho⟩ := pp_resume g.wf hq .refl hthv hwk hopv
      rw [hcv] at hc'; cases hc'
      have hint : ReachInt subject s s' := .step .refl hen rfl hs
      rcases repark_other g.wf hthv hwk hopv ho hs hth hst with hu' | ⟨hu', hlt⟩
      · -- the signal woke `u`: it is ready, so its resumption would not park again
        obtain ⟨_, _, _, _, _, _, hp, _⟩ :=
          pp_resume (step_wf g.wf (enabled_false_sub hen) hs) hq hint hu' rfl (opv := op) hop
        rw [hsubj, show (Th.wake th).cancelled = th.cancelled from rfl, hready] at hp
        cases hp
      · -- the signal woke somebody standing before `u`: `u` has moved up
        have := ih _ (hn ▸ hlt) (.step hr (enabled_false_sub hen) hs) (hq.step hint) hu' rfl
        rw [hsubj, hready] at this; cases this
    · -- a helper for `c` at its gate: `fire` is enabled, and it is not a re-parking resumption
      have hen : Act.fire v ∈ enabled s false := mem_enabled_fire.2 ⟨thv, hthv, hpend.hasGate⟩
      obtain ⟨t, _, _, _, _, hat, _⟩ := hq s .refl _ hen rfl
      cases hat

/-- `no_stuck_deque` (C07) and `iter_no_stuck` (C20) -/
theorem blocked_pp_parks (init : St) (h2 : Inv2 init) (programs : List (List Op)) (hown : Owned (initSys init programs))
    {s : Sys St Op} (hr : Reach subject (initSys init programs) s) (hq : QuiescentPP subject s)
    {u : Nat} {th : Th Op} {op : Op} (hth : s.ths[u]? = some th) (hb : Blocked th)
    (hop : th.ops[th.pc]? = some op) : parks s.subj op th.cancelled = true := by
  rcases hb with hw | ⟨c, hc⟩
  · obtain ⟨_, _, _, _, _, _, hp, _⟩ := pp_resume (reach_good init h2 programs hown hr).wf hq .refl hth hw hop
    exact hp
  · exact no_stuck_pp init h2 programs hown hr hq hth hc hop

end FunModel.Deque
