import FunProofs.OrchStep

/-! C11, WorkerPool / HandlerWorkerPool: conservation of jobs (every accepted job is in exactly one
    place: queue, reader, a worker, finished, dropped) and the inductive invariant of the pool machine. -/

namespace FunModel.Orch.Pool

def held (s : St) : List Nat := s.ws.flatMap heldOf
def busy (s : St) : List Nat := s.ws.flatMap busyOf
def b2n (b : Bool) : Nat := if b then 1 else 0

@[simp] theorem b2n_true : b2n true = 1 := rfl
@[simp] theorem b2n_false : b2n false = 0 := rfl

theorem b2n_le (b : Bool) : b2n b ≤ 1 := by cases b <;> simp

/-- in how many places job `j` is -/
def places (s : St) (j : Nat) : Nat :=
  s.queue.count j + (s.rd.toList.count j + (held s).count j + (busy s).count j + b2n (s.fin j) + s.dropped.count j)

/-- `hmove`: a job changes place between the reader, worker `w` and the finished jobs; `hrun`: it is counted as run
    when it goes to a busy worker -/
theorem moved {s : St} {w : Nat} {a : WSt} (hw : s.ws[w]? = some a) (b : WSt) {rd' : Option Nat} {runs' : Nat → Nat}
    {fin' : Nat → Bool} {k n : Nat} (hc : places s k = n) (hr : s.runs k = (busy s).count k + b2n (s.fin k))
    (hmove : rd'.toList.count k + (heldOf b).count k + (busyOf b).count k + b2n (fin' k) =
      s.rd.toList.count k + (heldOf a).count k + (busyOf a).count k + b2n (s.fin k))
    (hrun : runs' k + (busyOf a).count k + b2n (s.fin k) = s.runs k + (busyOf b).count k + b2n (fin' k)) :
    s.queue.count k + (rd'.toList.count k + ((s.ws.set w b).flatMap heldOf).count k +
        ((s.ws.set w b).flatMap busyOf).count k + b2n (fin' k) + s.dropped.count k) = n ∧
      runs' k = ((s.ws.set w b).flatMap busyOf).count k + b2n (fin' k) := by
  have h1 := List.count_flatMap_set heldOf k b hw
  have h2 := List.count_flatMap_set busyOf k b hw
  unfold places held busy at hc
  unfold busy at hr
  constructor
  · clear hr hrun; omega
  · clear hc hmove h1; omega

structure Inv (c : Cfg) (s : St) : Prop where
  cons : ∀ j, places s j = b2n (decide (s.addSt j = .accepted))
  runs_eq : ∀ j, s.runs j = (busy s).count j + b2n (s.fin j)
  coll_spec : ∀ j, s.fin j = true → (c.reports j = true → j ∈ s.coll) ∧ (c.handles j = true → j ∈ s.handled)
  drop_ctx : s.dropped ≠ [] → s.wctxEnded = true
  closed_ctx : s.closed = true → s.cancelled = true ∨ s.runReturned = true
  rdDone_why : s.rdDone = true → s.wctxEnded = true ∨ s.closed = true
  rr_all : s.runReturned = true → ∀ w ∈ s.ws, w = .done
  svc : s.svcDone = true → s.runReturned = true ∧ ∀ j, s.runs j = 1 → s.finAtW j = true
  unstarted : s.started = false → s.ws = [] ∧ s.rd = none ∧ s.runReturned = false

theorem inv_init (c : Cfg) : Inv c init := by
  refine ⟨?_, ?_, ?_, ?_, ?_, ?_, ?_, ?_, ?_⟩ <;> simp [init, places, held, busy, St.wctxEnded]

namespace Inv
variable {c : Cfg} {s : St}

theorem runs_le (hi : Inv c s) (j : Nat) : s.runs j ≤ 1 := by
  have h1 := hi.cons j
  have h2 := hi.runs_eq j
  have := b2n_le (decide (s.addSt j = .accepted))
  unfold places at h1; omega

theorem runs_accepted (hi : Inv c s) (j : Nat) (h : s.runs j ≠ 0) : s.addSt j = .accepted := by
  have h1 := hi.cons j
  have h2 := hi.runs_eq j
  refine Decidable.byContradiction fun ha => ?_
  simp only [ha, decide_false, b2n_false] at h1; unfold places at h1; omega

theorem worker_live (hi : Inv c s) {w : Nat} {x : WSt} (hw : s.ws[w]? = some x) (hx : x ≠ .done) :
    s.started = true ∧ s.runReturned ≠ true ∧ s.svcDone ≠ true := by
  have hnr : s.runReturned ≠ true := fun hr => hx (hi.rr_all hr x (List.mem_of_getElem? hw))
  refine ⟨Decidable.byContradiction fun hs => ?_, hnr, fun hd => hnr (hi.svc hd).1⟩
  rw [(hi.unstarted (by simpa using hs)).1] at hw; simp at hw

theorem returned_idle (hi : Inv c s) (hrr : s.runReturned = true) : busy s = [] :=
  List.flatMap_eq_nil_iff.mpr fun w hw => by rw [hi.rr_all hrr w hw]; rfl

theorem fin_of_returned (hi : Inv c s) (hrr : s.runReturned = true) {j : Nat} (hj : s.runs j = 1) : s.fin j = true := by
  have := hi.runs_eq j
  cases hf : s.fin j with
  | true => rfl
  | false => simp [hf, hi.returned_idle hrr] at this; omega

/-- `hmove`, `hrun` as in `moved`; the worker group's context may end (`hab`), results may be handed on (`hcoll`) -/
theorem setWorker (hi : Inv c s) {w : Nat} {a : WSt} (hw : s.ws[w]? = some a) (ha : a ≠ .done) (b : WSt)
    {ab : Bool} {rd' : Option Nat} {runs' : Nat → Nat} {fin' : Nat → Bool} {coll' handled' : List Nat}
    (hmove : ∀ k, rd'.toList.count k + (heldOf b).count k + (busyOf b).count k + b2n (fin' k) =
      s.rd.toList.count k + (heldOf a).count k + (busyOf a).count k + b2n (s.fin k))
    (hrun : ∀ k, runs' k + (busyOf a).count k + b2n (s.fin k) = s.runs k + (busyOf b).count k + b2n (fin' k))
    (hab : s.aborted = true → ab = true)
    (hcoll : ∀ j, fin' j = true → (c.reports j = true → j ∈ coll') ∧ (c.handles j = true → j ∈ handled')) :
    Inv c { s with aborted := ab, rd := rd', ws := s.ws.set w b, runs := runs', fin := fin', coll := coll',
                   handled := handled' } := by
  obtain ⟨hst, hnr, hns⟩ := hi.worker_live hw ha
  have hjobs := fun k => moved hw b (hi.cons k) (hi.runs_eq k) (hmove k) (hrun k)
  have hctx : s.wctxEnded = true → (s.cancelled || ab) = true := fun h => by
    rcases (Bool.or_eq_true _ _).mp h with h | h
    · simp [h]
    · simp [hab h]
  exact { hi with cons := fun k => (hjobs k).1, runs_eq := fun k => (hjobs k).2, coll_spec := hcoll,
                  drop_ctx := fun hd => hctx (hi.drop_ctx hd), rdDone_why := fun hd => (hi.rdDone_why hd).imp hctx id,
                  rr_all := fun hr => absurd hr hnr, svc := fun hd => absurd hd hns,
                  unstarted := fun hs => nomatch hst.symm.trans hs }

end Inv

theorem inv_step {c : Cfg} {s s' : St} {a : Act} (hi : Inv c s) (h : step c s a = some s') : Inv c s' := by
  cases a with
  | startPool =>
    obtain ⟨hs, rfl⟩ := ite_some_eq h
    obtain ⟨hws, _, hrr⟩ := hi.unstarted hs
    -- no worker holds a job, before (there is none) and after (all are idle)
    exact { hi with cons := fun j => by simpa [places, held, busy, hws, List.flatMap_replicate, heldOf, busyOf] using hi.cons j,
                    runs_eq := fun j => by simpa [busy, hws, List.flatMap_replicate, busyOf] using hi.runs_eq j,
                    rr_all := by simp [hrr], unstarted := by simp }
  | cancel =>
    cases h
    exact { hi with drop_ctx := fun _ => by simp [St.wctxEnded], closed_ctx := fun _ => Or.inl rfl,
                    rdDone_why := fun _ => Or.inl (by simp [St.wctxEnded]) }
  | add j acc =>
    obtain ⟨hg, h⟩ := Option.ite_none_right_eq_some.mp h
    have h0 := hi.cons j
    simp only [hg.1, reduceCtorEq, decide_false, b2n_false] at h0
    cases acc <;> simp only [Bool.false_eq_true, ↓reduceIte] at h <;> cases h
    · refine { hi with cons := fun k => ?_ }
      by_cases hk : k = j
      · subst hk; simp only [upd_same, reduceCtorEq, decide_false, b2n_false]; exact h0
      · simp only [upd_other _ _ _ _ hk]; exact hi.cons k
    · exact { hi with cons := placed_push hi.cons (by simp [hg.1, held, busy]) fun k hk => ⟨rfl, by simp only [upd_other _ _ _ _ hk]⟩ }
  | release j => cases h; exact { hi with }
  | shutdown =>
    obtain ⟨⟨_, hctx, _⟩, rfl⟩ := ite_some_eq h
    exact { hi with closed_ctx := fun _ => by simpa [St.svcCtxEnded] using hctx, rdDone_why := fun _ => Or.inr rfl }
  | read =>
    dsimp only [step] at h
    split at h
    · rename_i j q hq hrd
      obtain ⟨⟨hst, _⟩, rfl⟩ := ite_some_eq h
      refine { hi with cons := fun k => ?_, unstarted := by simp [hst] }
      have := hi.cons k
      simp only [places, held, busy, hq, hrd, List.count_cons, Option.toList_none, List.count_nil, Option.toList_some,
        beq_iff_eq] at this ⊢
      omega
    · cases h
  | handoff w =>
    dsimp only [step] at h
    split at h
    · rename_i j hrd hw
      cases h
      exact hi.setWorker hw (by simp) (.holding j) (fun _ => by simp [hrd, heldOf, busyOf]) (fun _ => rfl) id hi.coll_spec
    · cases h
  | drop =>
    dsimp only [step] at h
    split at h
    · rename_i j hrd
      obtain ⟨⟨hctx, _⟩, rfl⟩ := ite_some_eq h
      have hst : s.started = true := Decidable.byContradiction fun hs => by
        simp [(hi.unstarted (by simpa using hs)).2.1] at hrd
      refine { hi with cons := fun k => ?_, drop_ctx := fun _ => hctx,
                       rdDone_why := fun _ => Or.inl hctx, unstarted := by simp [hst] }
      have := hi.cons k
      simp only [places, held, busy, hrd, Option.toList_some, Option.toList_none, List.count_nil, List.count_cons,
        beq_iff_eq] at this ⊢
      omega
    · cases h
  | rdExit =>
    obtain ⟨⟨_, _, _, hwhy⟩, rfl⟩ := ite_some_eq h
    exact { hi with rdDone_why := fun _ => hwhy.imp id And.right }
  | wstart w =>
    dsimp only [step] at h
    split at h
    · rename_i j hw
      cases h
      refine hi.setWorker hw (by simp) (.busy j) (fun _ => by simp [heldOf, busyOf]) (fun k => ?_) id hi.coll_spec
      by_cases hk : k = j
      · subst hk; simp [busyOf]
      · simp [busyOf, hk, Ne.symm hk]
    · cases h
  | wfinish w =>
    dsimp only [step] at h
    split at h
    · rename_i j hw
      obtain ⟨_, rfl⟩ := ite_some_eq h
      -- the job is busy and runs at most once, so it has not finished before
      have hfin : s.fin j = false := by
        have hb : 1 ≤ (busy s).count j :=
          List.count_pos_iff.mpr (List.mem_flatMap.mpr ⟨.busy j, List.mem_of_getElem? hw, by simp [busyOf]⟩)
        have h1 := hi.runs_eq j
        have := hi.runs_le j
        cases hf : s.fin j with
        | false => rfl
        | true => simp only [hf, b2n_true] at h1; omega
      have hb : heldOf (if c.cont j then WSt.idle else .done) = [] ∧ busyOf (if c.cont j then WSt.idle else .done) = [] := by
        split <;> exact ⟨rfl, rfl⟩
      refine hi.setWorker hw (by simp) (if c.cont j then .idle else .done) (fin' := upd s.fin j true) (fun k => ?_)
        (fun k => ?_) (fun ha => by simp [ha]) fun k hk => ?_
      · rw [hb.1, hb.2]
        by_cases hk : k = j
        · subst hk; simp [heldOf, busyOf, hfin]
        · simp [heldOf, busyOf, hk, Ne.symm hk]
      · rw [hb.2]
        by_cases hk : k = j
        · subst hk; simp [busyOf, hfin]
        · simp [busyOf, hk, Ne.symm hk]
      · by_cases hkj : k = j
        · subst hkj
          exact ⟨fun hr => by simp [hr], fun hr => by simp [hr]⟩
        · have := hi.coll_spec k (by simpa [hkj] using hk)
          exact ⟨fun hr => by split <;> simp [this.1 hr], fun hr => by split <;> simp [this.2 hr]⟩
    · cases h
  | wexit w =>
    dsimp only [step] at h
    split at h
    · rename_i hw
      obtain ⟨_, rfl⟩ := ite_some_eq h
      exact hi.setWorker hw (by simp) .done (fun _ => by simp [heldOf, busyOf]) (fun _ => rfl) id hi.coll_spec
    · cases h
  | runReturn =>
    obtain ⟨⟨hst, _, _, hall⟩, rfl⟩ := ite_some_eq h
    exact { hi with closed_ctx := fun _ => Or.inr rfl, rr_all := fun _ => by simpa [List.all_eq_true] using hall,
                    svc := fun hd => ⟨rfl, (hi.svc hd).2⟩, unstarted := by simp [hst] }
  | svcReturn =>
    obtain ⟨⟨hrr, _, _⟩, rfl⟩ := ite_some_eq h
    exact { hi with svc := fun _ => ⟨hrr, fun j hj => hi.fin_of_returned hrr hj⟩ }

theorem reachable_inv {c : Cfg} {s : St} (h : Reachable c s) : Inv c s :=
  List.foldlM_option_reach_induction (Inv c) (inv_init c) (fun _ _ _ _ => inv_step) h

end FunModel.Orch.Pool
