import FunModel.Dll

/-! What each write of the pointer-level model of `dt.List` (FunModel/Dll.lean) does to each field, and the heaps the
    two splices, `lazySetup` and `Set`/`Drop` produce, in closed form (`appendResult`, `removeResult`, `setupResult`,
    `setData`); then `Frame` and the steps that are frames on any heap. Nothing here needs the invariant. -/

namespace FunModel.Dll

namespace Heap

section setters
variable (h : Heap) (a i : Nat) (n : Node) (d : Hdr) (v : Option Nat) (z : Int)

@[simp] theorem setNode_node : (h.setNode a n).node i = if i = a then n else h.node i := rfl
@[simp] theorem setNode_hdr : (h.setNode a n).hdr = h.hdr := rfl
@[simp] theorem setNode_nn : (h.setNode a n).nn = h.nn := rfl
@[simp] theorem setNode_nl : (h.setNode a n).nl = h.nl := rfl

@[simp] theorem setHdr_hdr : (h.setHdr a d).hdr i = if i = a then d else h.hdr i := rfl
@[simp] theorem setHdr_node : (h.setHdr a d).node = h.node := rfl
@[simp] theorem setHdr_nn : (h.setHdr a d).nn = h.nn := rfl
@[simp] theorem setHdr_nl : (h.setHdr a d).nl = h.nl := rfl

theorem setNode_get {α : Type} (f : Node → α) :
    f ((h.setNode a n).node i) = if i = a then f n else f (h.node i) := by
  rw [setNode_node]; split <;> rfl

theorem setNode_keep {α : Type} (f : Node → α) (hf : f n = f (h.node a)) :
    f ((h.setNode a n).node i) = f (h.node i) := by
  rw [setNode_get h a i n f]; split
  · next e => rw [e, hf]
  · rfl

@[simp] theorem setNext_next : ((h.setNext a v).node i).next = if i = a then v else (h.node i).next :=
  setNode_get h a i _ Node.next
@[simp] theorem setNext_prev : ((h.setNext a v).node i).prev = (h.node i).prev := setNode_keep h a i _ Node.prev rfl
@[simp] theorem setNext_list : ((h.setNext a v).node i).list = (h.node i).list := setNode_keep h a i _ Node.list rfl
@[simp] theorem setNext_ok : ((h.setNext a v).node i).ok = (h.node i).ok := setNode_keep h a i _ Node.ok rfl
@[simp] theorem setNext_item : ((h.setNext a v).node i).item = (h.node i).item := setNode_keep h a i _ Node.item rfl
@[simp] theorem setNext_hdr : (h.setNext a v).hdr = h.hdr := rfl
@[simp] theorem setNext_nn : (h.setNext a v).nn = h.nn := rfl
@[simp] theorem setNext_nl : (h.setNext a v).nl = h.nl := rfl

@[simp] theorem setPrev_prev : ((h.setPrev a v).node i).prev = if i = a then v else (h.node i).prev :=
  setNode_get h a i _ Node.prev
@[simp] theorem setPrev_next : ((h.setPrev a v).node i).next = (h.node i).next := setNode_keep h a i _ Node.next rfl
@[simp] theorem setPrev_list : ((h.setPrev a v).node i).list = (h.node i).list := setNode_keep h a i _ Node.list rfl
@[simp] theorem setPrev_ok : ((h.setPrev a v).node i).ok = (h.node i).ok := setNode_keep h a i _ Node.ok rfl
@[simp] theorem setPrev_item : ((h.setPrev a v).node i).item = (h.node i).item := setNode_keep h a i _ Node.item rfl
@[simp] theorem setPrev_hdr : (h.setPrev a v).hdr = h.hdr := rfl
@[simp] theorem setPrev_nn : (h.setPrev a v).nn = h.nn := rfl
@[simp] theorem setPrev_nl : (h.setPrev a v).nl = h.nl := rfl

@[simp] theorem setList_list : ((h.setList a v).node i).list = if i = a then v else (h.node i).list :=
  setNode_get h a i _ Node.list
@[simp] theorem setList_next : ((h.setList a v).node i).next = (h.node i).next := setNode_keep h a i _ Node.next rfl
@[simp] theorem setList_prev : ((h.setList a v).node i).prev = (h.node i).prev := setNode_keep h a i _ Node.prev rfl
@[simp] theorem setList_ok : ((h.setList a v).node i).ok = (h.node i).ok := setNode_keep h a i _ Node.ok rfl
@[simp] theorem setList_item : ((h.setList a v).node i).item = (h.node i).item := setNode_keep h a i _ Node.item rfl
@[simp] theorem setList_hdr : (h.setList a v).hdr = h.hdr := rfl
@[simp] theorem setList_nn : (h.setList a v).nn = h.nn := rfl
@[simp] theorem setList_nl : (h.setList a v).nl = h.nl := rfl

@[simp] theorem addLength_root : ((h.addLength a z).hdr i).root = (h.hdr i).root := by
  unfold addLength; by_cases hi : i = a <;> simp [hi]
@[simp] theorem addLength_length :
    ((h.addLength a z).hdr i).length = if i = a then (h.hdr a).length + z else (h.hdr i).length := by
  unfold addLength; by_cases hi : i = a <;> simp [hi]
@[simp] theorem addLength_node : (h.addLength a z).node = h.node := rfl
@[simp] theorem addLength_nn : (h.addLength a z).nn = h.nn := rfl
@[simp] theorem addLength_nl : (h.addLength a z).nl = h.nl := rfl

@[simp] theorem alloc_fst_node : (h.alloc n).1.node i = if i = h.nn then n else h.node i := rfl
@[simp] theorem alloc_fst_hdr : (h.alloc n).1.hdr = h.hdr := rfl
@[simp] theorem alloc_fst_nn : (h.alloc n).1.nn = h.nn + 1 := rfl
@[simp] theorem alloc_fst_nl : (h.alloc n).1.nl = h.nl := rfl
@[simp] theorem alloc_snd : (h.alloc n).2 = h.nn := rfl

@[simp] theorem allocList_fst_node : h.allocList.1.node = h.node := rfl
@[simp] theorem allocList_fst_hdr : h.allocList.1.hdr i = if i = h.nl then {} else h.hdr i := rfl
@[simp] theorem allocList_fst_nn : h.allocList.1.nn = h.nn := rfl
@[simp] theorem allocList_fst_nl : h.allocList.1.nl = h.nl + 1 := rfl
@[simp] theorem allocList_snd : h.allocList.2 = h.nl := rfl

end setters

end Heap

theorem Node.ext' {a b : Node} (h1 : a.next = b.next) (h2 : a.prev = b.prev) (h3 : a.list = b.list)
    (h4 : a.ok = b.ok) (h5 : a.item = b.item) : a = b := by
  cases a; cases b; simp_all

namespace Heap

/-- the heap after `e.uncheckedAppend(new)`, where `l` is `e.list` and `n` is `e.next` as read before the call -/
def appendResult (h : Heap) (l e new n : Nat) : Heap :=
  (((((h.addLength l 1).setList new (some l)).setPrev new (some e)).setNext new (some n)).setNext e
    (some new)).setPrev n (some new)

/-- `new ≠ e`: the code reads `new.next` back after `new.prev.next = new`, which for `new = e` is a write to the
    same field -/
theorem uncheckedAppend_eq {h : Heap} {l e new n : Nat} (hl : (h.node e).list = some l)
    (hn : (h.node e).next = some n) (hne : new ≠ e) :
    h.uncheckedAppend e new = some (h.appendResult l e new n) := by
  simp [uncheckedAppend, appendResult, hl, hn, hne]

/-- the heap after `e.uncheckedRemove()`, where `l`, `p`, `n` are `e.list`, `e.prev`, `e.next` as read before the
    call; `e` keeps its own `next` and `prev` -/
def removeResult (h : Heap) (l e p n : Nat) : Heap :=
  (((h.addLength l (-1)).setNext p (some n)).setPrev n (some p)).setList e none

theorem uncheckedRemove_eq {h : Heap} {l e p n : Nat} (hl : (h.node e).list = some l)
    (hp : (h.node e).prev = some p) (hn : (h.node e).next = some n) :
    h.uncheckedRemove e = some (h.removeResult l e p n) := by
  simp [uncheckedRemove, removeResult, hl, hn, hp]

section results
variable (h : Heap) (l e new p n c i : Nat)

@[simp] theorem appendResult_next : ((h.appendResult l e new n).node c).next =
    if c = e then some new else if c = new then some n else (h.node c).next := by simp [appendResult]
@[simp] theorem appendResult_prev : ((h.appendResult l e new n).node c).prev =
    if c = n then some new else if c = new then some e else (h.node c).prev := by simp [appendResult]
@[simp] theorem appendResult_list : ((h.appendResult l e new n).node c).list =
    if c = new then some l else (h.node c).list := by simp [appendResult]
@[simp] theorem appendResult_ok : ((h.appendResult l e new n).node c).ok = (h.node c).ok := by
  simp [appendResult]
@[simp] theorem appendResult_item : ((h.appendResult l e new n).node c).item = (h.node c).item := by
  simp [appendResult]
@[simp] theorem appendResult_root : ((h.appendResult l e new n).hdr i).root = (h.hdr i).root := by
  simp [appendResult]
@[simp] theorem appendResult_length : ((h.appendResult l e new n).hdr i).length =
    if i = l then (h.hdr l).length + 1 else (h.hdr i).length := by simp [appendResult]
@[simp] theorem appendResult_nn : (h.appendResult l e new n).nn = h.nn := rfl
@[simp] theorem appendResult_nl : (h.appendResult l e new n).nl = h.nl := rfl

@[simp] theorem removeResult_next : ((h.removeResult l e p n).node c).next =
    if c = p then some n else (h.node c).next := by simp [removeResult]
@[simp] theorem removeResult_prev : ((h.removeResult l e p n).node c).prev =
    if c = n then some p else (h.node c).prev := by simp [removeResult]
@[simp] theorem removeResult_list : ((h.removeResult l e p n).node c).list =
    if c = e then none else (h.node c).list := by simp [removeResult]
@[simp] theorem removeResult_ok : ((h.removeResult l e p n).node c).ok = (h.node c).ok := by
  simp [removeResult]
@[simp] theorem removeResult_item : ((h.removeResult l e p n).node c).item = (h.node c).item := by
  simp [removeResult]
@[simp] theorem removeResult_root : ((h.removeResult l e p n).hdr i).root = (h.hdr i).root := by
  simp [removeResult]
@[simp] theorem removeResult_length : ((h.removeResult l e p n).hdr i).length =
    if i = l then (h.hdr l).length + -1 else (h.hdr i).length := by simp [removeResult]
@[simp] theorem removeResult_nn : (h.removeResult l e p n).nn = h.nn := rfl
@[simp] theorem removeResult_nl : (h.removeResult l e p n).nl = h.nl := rfl

theorem appendResult_hdr_other {i l : Nat} (hi : i ≠ l) : (h.appendResult l e new n).hdr i = h.hdr i := by
  simp [appendResult, addLength, hi]
theorem removeResult_hdr_other {i l : Nat} (hi : i ≠ l) : (h.removeResult l e p n).hdr i = h.hdr i := by
  simp [removeResult, addLength, hi]

end results

/-- the heap after `lazySetup` had to create the sentinel -/
def setupResult (h : Heap) (l : Nat) : Heap where
  node := fun c => if c = h.nn then { next := some h.nn, prev := some h.nn, list := some l, ok := false, item := 0 }
    else h.node c
  hdr := fun i => if i = l then { root := some h.nn, length := (h.hdr l).length } else h.hdr i
  nn := h.nn + 1
  nl := h.nl

theorem lazySetup_some {h : Heap} {l r : Nat} (hr : (h.hdr l).root = some r) : h.lazySetup l = h := by
  simp [lazySetup, hr]

theorem lazySetup_none {h : Heap} {l : Nat} (hr : (h.hdr l).root = none) :
    h.lazySetup l = h.setupResult l := by
  simp only [lazySetup, hr, makeElem, setupResult, alloc, setNext, setPrev, setList, setNode, setHdr]
  congr 1
  · funext c; by_cases hc : c = h.nn <;> simp [hc]

theorem lazySetup_root (h : Heap) (l : Nat) : ∃ r, ((h.lazySetup l).hdr l).root = some r := by
  cases hr : (h.hdr l).root with
  | some r => rw [lazySetup_some hr]; exact ⟨r, hr⟩
  | none => rw [lazySetup_none hr]; exact ⟨h.nn, by simp [setupResult]⟩

theorem lazySetup_nl (h : Heap) (l : Nat) : (h.lazySetup l).nl = h.nl := by
  cases hr : (h.hdr l).root with
  | some r => rw [lazySetup_some hr]
  | none => rw [lazySetup_none hr]; rfl

theorem lazySetup_hdr_length (h : Heap) (l o : Nat) : ((h.lazySetup l).hdr o).length = (h.hdr o).length := by
  cases hr : (h.hdr l).root with
  | some r => rw [lazySetup_some hr]
  | none => rw [lazySetup_none hr]; by_cases ho : o = l <;> simp [setupResult, ho]

/-- `Set`/`Drop` data update -/
def setData (h : Heap) (e : Nat) (b : Bool) (v : Int) : Heap := h.setNode e { h.node e with ok := b, item := v }

section
variable (h : Heap) (e c : Nat) (b : Bool) (v : Int)
@[simp] theorem setData_next : ((h.setData e b v).node c).next = (h.node c).next := setNode_keep h e c _ Node.next rfl
@[simp] theorem setData_prev : ((h.setData e b v).node c).prev = (h.node c).prev := setNode_keep h e c _ Node.prev rfl
@[simp] theorem setData_list : ((h.setData e b v).node c).list = (h.node c).list := setNode_keep h e c _ Node.list rfl
@[simp] theorem setData_ok : ((h.setData e b v).node c).ok = if c = e then b else (h.node c).ok :=
  setNode_get h e c _ Node.ok
@[simp] theorem setData_item : ((h.setData e b v).node c).item = if c = e then v else (h.node c).item :=
  setNode_get h e c _ Node.item
@[simp] theorem setData_hdr : (h.setData e b v).hdr = h.hdr := rfl
@[simp] theorem setData_nn : (h.setData e b v).nn = h.nn := rfl
@[simp] theorem setData_nl : (h.setData e b v).nl = h.nl := rfl
end

end Heap

theorem Heap.appendable_eq_true {h : Heap} {e : Nat} {new : Option Nat} :
    h.appendable e new = true ↔
      ∃ n, new = some n ∧ (h.node n).ok = true ∧ (h.node e).list.isSome ∧ (h.node n).list = none := by
  cases new with
  | none => simp [Heap.appendable]
  | some n => simp [Heap.appendable, and_assoc]

theorem Heap.elemAppend_reject {h : Heap} {e : Nat} {new : Option Nat} (hr : h.appendable e new = false) :
    h.elemAppend e new = some (h, e) := by
  simp [Heap.elemAppend, hr]

theorem Heap.elemSet_root {h : Heap} {l e : Nat} (he : (h.node e).list = some l) (hr : (h.hdr l).root = some e)
    (v : Int) : h.elemSet e v = (h, false) := by
  simp [Heap.elemSet, he, hr]

/-- what every operation except `Set`/`Drop` leaves alone -/
structure Frame (h h' : Heap) : Prop where
  nn : h.nn ≤ h'.nn
  nl : h.nl ≤ h'.nl
  data : ∀ a, a < h.nn → (h'.node a).ok = (h.node a).ok ∧ (h'.node a).item = (h.node a).item
  root : ∀ l r, (h.hdr l).root = some r → (h'.hdr l).root = some r

theorem Frame.refl (h : Heap) : Frame h h := ⟨Nat.le_refl _, Nat.le_refl _, fun _ _ => ⟨rfl, rfl⟩, fun _ _ x => x⟩

theorem Frame.trans {h1 h2 h3 : Heap} (a : Frame h1 h2) (b : Frame h2 h3) : Frame h1 h3 := by
  refine ⟨Nat.le_trans a.nn b.nn, Nat.le_trans a.nl b.nl, ?_, fun l r x => b.root l r (a.root l r x)⟩
  intro c hc
  have h1 := a.data c hc
  have h2 := b.data c (Nat.lt_of_lt_of_le hc a.nn)
  exact ⟨h2.1.trans h1.1, h2.2.trans h1.2⟩

theorem Frame.alloc (h : Heap) (n : Node) : Frame h (h.alloc n).1 := by
  refine ⟨by simp, by simp, ?_, fun _ _ hr => by simpa using hr⟩
  intro a ha
  have : a ≠ h.nn := Nat.ne_of_lt ha
  simp [this]

theorem Frame.appendResult (h : Heap) (l e new n : Nat) : Frame h (h.appendResult l e new n) :=
  ⟨Nat.le_refl _, Nat.le_refl _, fun _ _ => by simp, fun _ _ hr => by simpa using hr⟩

theorem Frame.removeResult (h : Heap) (l e p n : Nat) : Frame h (h.removeResult l e p n) :=
  ⟨Nat.le_refl _, Nat.le_refl _, fun _ _ => by simp, fun _ _ hr => by simpa using hr⟩

theorem Frame.lazySetup (h : Heap) (l : Nat) : Frame h (h.lazySetup l) := by
  cases hr : (h.hdr l).root with
  | some r => rw [Heap.lazySetup_some hr]; exact Frame.refl h
  | none =>
    rw [Heap.lazySetup_none hr]
    refine ⟨Nat.le_succ _, Nat.le_refl _, fun a ha => ?_, fun l' r' hr' => ?_⟩
    · have : a ≠ h.nn := Nat.ne_of_lt ha
      simp [Heap.setupResult, this]
    · have : l' ≠ l := by intro hx; subst hx; rw [hr] at hr'; cases hr'
      simpa [Heap.setupResult, this] using hr'

end FunModel.Dll
