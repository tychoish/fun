import FunProofs.Broker

/-! C08: every published message is in exactly one place inside the broker (or done), nothing else is anywhere,
    and a message reaches (is on its way to) each subscriber at most once (`Uniq`). Stated with `List.count`, so
    that moving a message is linear arithmetic; what a step moves is said once, by `flow_step`. -/

namespace FunProofs.Broker
open FunModel.Broker

def callMsgs (calls : List Call) : List Msg := calls.flatMap Call.msgs
def workerMsgs (ws : List Worker) : List Msg := ws.flatMap Worker.msgs
/-- the messages inside the broker -/
def flight (s : St) : List Msg := callMsgs s.calls ++ s.loop.msgs ++ s.buf ++ workerMsgs s.ws

def occ (s : St) (m : Msg) : Nat :=
  (callMsgs s.calls).count m + s.loop.msgs.count m + s.buf.count m + (workerMsgs s.ws).count m + s.fin.count m

theorem count_flight (s : St) (m : Msg) : (flight s ++ s.fin).count m = occ s m := by
  simp only [flight, occ, List.count_append]

/-- how often `m` has reached / is on its way to subscriber `k` -/
def dcount (s : St) (k : Sub) (m : Msg) : Nat :=
  (s.recvd k).count m + (s.chan k).count m + s.sends.count (k, m)

/-- what a worker holds and has not yet offered to subscriber `k` -/
def aheadMsgs (k : Sub) : Worker → List Msg
  | .got m => [m]
  | .iter m _ visited => if k ∈ visited then [] else [m]
  | _ => []

/-- what a worker holds and has offered to subscriber `k` already -/
def pastMsgs (k : Sub) : Worker → List Msg
  | .iter m _ visited => if k ∈ visited then [m] else []
  | _ => []

/-! The route of `m` as seen from subscriber `k`, in four counts: in a pending Publish call (`pend`); taken and
    not yet offered to `k` (`ahead`); offered to `k` or gone (`past`); delivered or being delivered to `k`
    (`dcount`). A message goes `pend → ahead → past`, and a copy enters `dcount` at the moment it is offered. -/

def pend (s : St) (m : Msg) : Nat := (callMsgs s.calls).count m
def ahead (s : St) (k : Sub) (m : Msg) : Nat :=
  s.loop.msgs.count m + s.buf.count m + (s.ws.flatMap (aheadMsgs k)).count m
def past (s : St) (k : Sub) (m : Msg) : Nat := (s.ws.flatMap (pastMsgs k)).count m + s.fin.count m

theorem count_worker_msgs (k : Sub) (m : Msg) (w : Worker) :
    w.msgs.count m = (aheadMsgs k w).count m + (pastMsgs k w).count m := by
  cases w <;> simp only [Worker.msgs, aheadMsgs, pastMsgs] <;> try rfl
  split <;> simp

theorem occ_eq (k : Sub) (s : St) (m : Msg) : occ s m = pend s m + ahead s k m + past s k m := by
  have : ∀ ws : List Worker, (workerMsgs ws).count m
      = (ws.flatMap (aheadMsgs k)).count m + (ws.flatMap (pastMsgs k)).count m := by
    intro ws
    induction ws with
    | nil => rfl
    | cons w ws ih =>
      have := count_worker_msgs k m w
      simp only [workerMsgs, List.flatMap_cons, List.count_append] at ih ⊢; omega
  simp only [occ, pend, ahead, past, this]; omega

def Sourced (s : St) (k : Sub) (m : Msg) : Prop := dcount s k m ≤ past s k m

structure Uniq (s : St) : Prop where
  cons : ∀ m, occ s m = s.published.count m
  nodup : s.published.Nodup
  /-- why the message of the next `pubCall` is new -/
  seq : ∀ m ∈ s.published, m.2 < s.nextSeq m.1
  sourced : ∀ k m, Sourced s k m

theorem Uniq.once {s : St} (hu : Uniq s) (m : Msg) : occ s m ≤ 1 :=
  hu.cons m ▸ List.nodup_iff_count.mp hu.nodup m

theorem Uniq.pub {s : St} (hu : Uniq s) (m : Msg) (h : 0 < occ s m) : m ∈ s.published :=
  List.count_pos_iff.mp (hu.cons m ▸ h)

theorem count_upd_snoc (f : Sub → List Msg) (k k' : Sub) (m m' : Msg) :
    (upd f k (f k ++ [m]) k').count m' = (f k').count m' + if (k', m') = (k, m) then 1 else 0 := by
  by_cases hk : k' = k
  · subst hk
    simp only [upd_same, List.count_append, List.count_singleton, beq_iff_eq, Prod.mk.injEq, true_and, eq_comm (a := m)]
  · simp [upd_apply, hk]

theorem count_upd_tail {f : Sub → List Msg} {k : Sub} {m : Msg} {rest : List Msg} (h : f k = m :: rest)
    (k' : Sub) (m' : Msg) :
    (upd f k rest k').count m' + (if (k', m') = (k, m) then 1 else 0) = (f k').count m' := by
  by_cases hk : k' = k
  · subst hk
    by_cases hm : m' = m
    · simp [h, hm]
    · simp [h, hm, Ne.symm hm]
  · simp [upd_apply, hk]

theorem mem_callMsgs {calls : List Call} {m : Msg} : m ∈ callMsgs calls ↔ ∃ cl ∈ calls, cl.kind = .pub m := by
  simp only [callMsgs, List.mem_flatMap]
  refine exists_congr fun cl => and_congr_right fun _ => ?_
  obtain ⟨kind, x⟩ := cl
  cases kind <;> simp [Call.msgs, eq_comm]

theorem callMsgs_snoc (calls : List Call) (cl : Call) : callMsgs (calls ++ [cl]) = callMsgs calls ++ cl.msgs := by
  simp [callMsgs]

theorem callMsgs_erase {calls : List Call} {i : Nat} {cl : Call} (h : calls[i]? = some cl) :
    (callMsgs calls).Perm (cl.msgs ++ callMsgs (calls.eraseIdx i)) :=
  (List.perm_cons_eraseIdx h).flatMap_right Call.msgs

theorem callMsgs_set {calls : List Call} {i : Nat} {cl cl' : Call} (h : calls[i]? = some cl) (hm : cl'.msgs = cl.msgs) :
    (callMsgs calls).Perm (callMsgs (calls.set i cl')) :=
  (List.flatMap_set_same Call.msgs cl' h hm).symm

theorem count_callMsgs_snoc {calls : List Call} {cl : Call} (h : cl.msgs = []) (m : Msg) :
    (callMsgs (calls ++ [cl])).count m = (callMsgs calls).count m := by
  rw [callMsgs_snoc, h, List.append_nil]

theorem count_callMsgs_erase {calls : List Call} {i : Nat} {cl : Call} (h : calls[i]? = some cl) (m : Msg) :
    (callMsgs (calls.eraseIdx i)).count m + cl.msgs.count m = (callMsgs calls).count m :=
  List.count_flatMap_eraseIdx Call.msgs m h

theorem count_callMsgs_erase_nil {calls : List Call} {i : Nat} {cl : Call} (h : calls[i]? = some cl)
    (hm : cl.msgs = []) (m : Msg) : (callMsgs (calls.eraseIdx i)).count m = (callMsgs calls).count m := by
  simpa [hm] using count_callMsgs_erase h m

theorem count_callMsgs_set {calls : List Call} {i : Nat} {cl cl' : Call} (h : calls[i]? = some cl)
    (hm : cl'.msgs = cl.msgs) (m : Msg) :
    (callMsgs (calls.set i cl')).count m = (callMsgs calls).count m :=
  ((callMsgs_set h hm).count_eq m).symm

theorem uniq_init (c : Cfg) : Uniq (init c) := by
  refine ⟨fun m => ?_, .nil, nofun, fun k m => ?_⟩
  · simp [occ, init, callMsgs, workerMsgs, Loop.msgs, List.flatMap_replicate, Worker.msgs]
  · simp [Sourced, dcount, past, init, List.flatMap_replicate, pastMsgs]

def publishes (s : St) : Act → List Msg
  | .pubCall p => [(p, s.nextSeq p)]
  | _ => []

/-- What a step does to the four counts of `(k, m)`: `t` copies taken by the event loop, `q` given up by their
    Publish call, `o` offered to `k` (a send starts), `g` gone without having been offered to `k`, `l` sends to
    `k` lost. -/
inductive Flow (c : Cfg) (s s' : St) (a : Act) (k : Sub) (m : Msg) : Prop
  | mk (t q o g l : Nat)
      (pend_eq : pend s' m + t + q = pend s m + (publishes s a).count m)
      (ahead_eq : ahead s' k m + o + g = ahead s k m + t)
      (past_eq : past s' k m = past s k m + q + g + o)
      (deliv_eq : dcount s' k m + l = dcount s k m + o)
      -- the excuses for losing a copy; `Owed.of_flow` refutes each for a live lossless broker
      (gone : g = 0 ∨ s.live = false ∨ c.backend.lossless = false ∨ ∃ (w : Nat) (start visited : List Sub),
        s.ws[w]? = some (Worker.iter m start visited) ∧ rangeDone s.subs start visited = true ∧ k ∉ visited)
      (lost : l = 0 ∨ s.live = false)

theorem Flow.still {c : Cfg} {s s' : St} {a : Act} {k : Sub} {m : Msg} (h1 : pend s' m = pend s m)
    (h2 : ahead s' k m = ahead s k m) (h3 : past s' k m = past s k m) (h4 : dcount s' k m = dcount s k m)
    (ha : publishes s a = [] := by rfl) : Flow c s s' a k m :=
  .mk 0 0 0 0 0 (by rw [ha]; exact h1) h2 h3 h4 (.inl rfl) (.inl rfl)

theorem flow_step {c : Cfg} {s s' : St} {a : Act} (h : Step c s a s') (k : Sub) (m : Msg) : Flow c s s' a k m := by
  -- worker `w` goes from `x` to `y`
  have ws_flow : ∀ {w : Nat} {x : Worker} (y : Worker), s.ws[w]? = some x → s'.ws = s.ws.set w y →
      ahead s' k m + (aheadMsgs k x).count m + (s.loop.msgs.count m + s.buf.count m)
        = ahead s k m + (aheadMsgs k y).count m + (s'.loop.msgs.count m + s'.buf.count m) ∧
      past s' k m + (pastMsgs k x).count m + s.fin.count m
        = past s k m + (pastMsgs k y).count m + s'.fin.count m := by
    intro w x y hw hs
    have h1 := List.count_flatMap_set (aheadMsgs k) m y hw
    have h2 := List.count_flatMap_set (pastMsgs k) m y hw
    simp only [ahead, past, hs]; omega
  -- worker `w` is done with `m0`: what of it was still ahead of `k` goes unoffered
  have ws_done : ∀ {w : Nat} {x : Worker} {m0 : Msg}, s.ws[w]? = some x → x.msgs = [m0] →
      s'.ws = s.ws.set w .idle → (s'.loop, s'.buf, s'.fin) = (s.loop, s.buf, m0 :: s.fin) →
      ahead s' k m + 0 + (aheadMsgs k x).count m = ahead s k m + 0 ∧
      past s' k m = past s k m + 0 + (aheadMsgs k x).count m + 0 := by
    intro w x m0 hw hx hs hrest
    have h1 := ws_flow .idle hw hs
    have h2 := count_worker_msgs k m x
    have a0 : (aheadMsgs k .idle).count m = 0 := rfl
    have p0 : (pastMsgs k .idle).count m = 0 := rfl
    simp only [Prod.mk.injEq] at hrest
    simp only [hrest, hx, List.count_cons, List.count_nil] at h1 h2
    omega
  cases h
  case subCall | unsubCall | statsCall | waitCall => exact .still (count_callMsgs_snoc rfl m) rfl rfl rfl
  case cancelCall i cl hc => exact .still (count_callMsgs_set (cl' := { cl with cancelled := true }) hc rfl m) rfl rfl rfl
  case enqSub hc _ | enqUnsub hc _ | waitRet hc _ _ | loopSub hc | loopUnsub hc | loopStats hc =>
    exact .still (count_callMsgs_erase_nil hc rfl m) rfl rfl rfl
  case pubCall p hp =>
    refine .mk 0 0 0 0 0 ?_ rfl rfl rfl (.inl rfl) (.inl rfl)
    simp only [pend, publishes, callMsgs_snoc, Call.msgs, List.count_append]; omega
  case callAbort i cl hc hx =>
    refine .mk 0 (cl.msgs.count m) 0 0 0 (count_callMsgs_erase hc m) rfl ?_ rfl (.inl rfl) (.inl rfl)
    simp only [past, List.count_append]; omega
  case loopTake i m0 x hl hc =>
    refine .mk ([m0].count m) 0 0 0 0 (count_callMsgs_erase hc m) ?_ rfl rfl (.inl rfl) (.inl rfl)
    simp only [ahead, hl, Loop.msgs, List.count_nil]; omega
  case loopSend accept m0 buf' dropped hl hs =>
    have := sendTo_count hs m
    refine .mk 0 0 0 (dropped.count m) 0 rfl ?_ ?_ rfl ?_ (.inl rfl)
    · simp only [ahead, hl, Loop.msgs, List.count_nil]; omega
    · simp only [past, List.count_append]; omega
    · cases hb : c.backend.lossless with
      | false => exact .inr (.inr (.inl rfl))
      | true => rw [(sendTo_lossless hb hs).2]; exact .inl rfl
  case loopSendAbort m0 hl hd =>
    refine .mk 0 0 0 ([m0].count m) 0 rfl ?_ ?_ rfl (.inr (.inl hd)) (.inl rfl)
    · simp only [ahead, hl, Loop.msgs, List.count_nil]; omega
    · simp only [past, List.count_cons, List.count_nil]; omega
  case loopExit hl hd => exact .still rfl (by simp only [ahead, hl, Loop.msgs]) rfl rfl
  case wRecvBuf w m0 rest hw hb =>
    have := ws_flow (.got m0) hw rfl
    simp only [hb, aheadMsgs, pastMsgs, List.count_cons, List.count_nil] at this
    exact .still rfl (by omega) (by omega) rfl
  case wRecvDirect w m0 cap hw hb hl hc =>
    have := ws_flow (.got m0) hw rfl
    simp only [hl, Loop.msgs, aheadMsgs, pastMsgs, List.count_cons, List.count_nil] at this
    exact .still rfl (by omega) (by omega) rfl
  case wStart w m0 hw =>
    have := ws_flow (.iter m0 s.subs []) hw rfl
    simp only [aheadMsgs, pastMsgs, List.not_mem_nil, if_false] at this
    exact .still rfl (by omega) (by omega) rfl
  case wExit w hd hw =>
    have := ws_flow .exited hw rfl
    simp only [aheadMsgs, pastMsgs] at this
    exact .still rfl (by omega) (by omega) rfl
  case wDone w m0 start visited hw hr hp =>
    have := ws_done hw rfl rfl rfl
    refine .mk 0 0 0 _ 0 rfl this.1 this.2 rfl ?_ (.inl rfl)
    -- what goes unoffered is `m0`, if the range has not yielded `k`
    simp only [aheadMsgs]
    split
    · exact .inl rfl
    · by_cases hm : m0 = m
      · exact hm ▸ .inr (.inr (.inr ⟨w, start, visited, hw, hr, ‹_›⟩))
      · exact .inl (List.count_eq_zero.mpr fun h => hm (List.mem_singleton.mp h).symm)
  case wAbandonGot w m0 hd hw | wAbandonIter w m0 _ _ hd hw =>
    have := ws_done hw rfl rfl rfl
    exact .mk 0 0 0 _ 0 rfl this.1 this.2 rfl (.inr (.inl hd)) (.inl rfl)
  case wNext w k0 m0 start visited hw hk hv hp =>
    -- the send to `k0` starts; the worker, having yielded `k0`, holds `m0` past `k0`, not ahead of it
    have := ws_flow (.iter m0 start (k0 :: visited)) hw rfl
    by_cases he : k = k0
    · subst he
      simp only [aheadMsgs, pastMsgs, hv, List.mem_cons_self, if_true, if_false, List.count_nil] at this
      refine .mk 0 0 ([m0].count m) 0 0 rfl (by omega) (by omega) ?_ (.inl rfl) (.inl rfl)
      simp only [dcount, List.count_append, List.count_singleton, beq_iff_eq, Prod.mk.injEq, true_and]; omega
    · simp only [aheadMsgs, pastMsgs, List.mem_cons, he, false_or] at this
      refine .still rfl (by omega) (by omega) ?_
      simp only [dcount, List.count_append, List.count_singleton, beq_iff_eq, Prod.mk.injEq, Ne.symm he, false_and,
        if_false]; omega
  case deliver k0 m0 hs _ | handoff k0 m0 hs _ _ =>
    have := List.count_erase_mem hs (k, m)
    exact .still rfl rfl rfl (by simp only [dcount, count_upd_snoc]; omega)
  case recv k0 m0 rest hb ho =>
    have := count_upd_tail hb k m
    exact .still rfl rfl rfl (by simp only [dcount, count_upd_snoc]; omega)
  case sendAbort k0 m0 hs hd =>
    have := List.count_erase_mem hs (k, m)
    exact .mk 0 0 0 0 (if (k, m) = (k0, m0) then 1 else 0) rfl rfl rfl (by simp only [dcount]; omega) (.inl rfl) (.inr hd)
  -- `stop`, `openSub`, `gateSub`, the two observations, `loopSubQ`, `loopUnsubQ`: no place of a message is touched
  all_goals exact .still rfl rfl rfl rfl

theorem uniq_step {c : Cfg} {s s' : St} {a : Act} (hu : Uniq s) (h : Step c s a s') : Uniq s' := by
  have hpub : s'.published = publishes s a ++ s.published ∧ s'.published.Nodup ∧
      ∀ m ∈ s'.published, m.2 < s'.nextSeq m.1 := by
    cases h
    case pubCall p hp =>
      refine ⟨rfl, List.nodup_cons.mpr ⟨fun h => Nat.lt_irrefl _ (hu.seq _ h), hu.nodup⟩, fun m hm => ?_⟩
      show m.2 < upd s.nextSeq p (s.nextSeq p + 1) m.1
      rw [upd_apply]
      rcases List.mem_cons.mp hm with rfl | hm
      · simp
      · have := hu.seq m hm
        split
        · rename_i he; rw [he] at this; omega
        · exact this
    all_goals exact ⟨rfl, hu.nodup, hu.seq⟩
  refine ⟨fun m => ?_, hpub.2.1, hpub.2.2, fun k m => ?_⟩
  · obtain ⟨t, q, o, g, l, h1, h2, h3, -, -, -⟩ := flow_step h 0 m
    have := hu.cons m
    rw [hpub.1, List.count_append]
    simp only [occ_eq 0] at this ⊢; omega
  · obtain ⟨t, q, o, g, l, -, -, h3, h4, -, -⟩ := flow_step h k m
    have := hu.sourced k m
    simp only [Sourced] at this ⊢; omega

theorem uniq_reachable {c : Cfg} {s : St} (h : Reachable c s) : Uniq s :=
  reachable_induction Uniq (uniq_init c) (fun _ _ _ _ hu hs => uniq_step hu hs) h

theorem Uniq.donce {s : St} (hu : Uniq s) (k : Sub) (m : Msg) : dcount s k m ≤ 1 := by
  have h1 := hu.once m
  have h2 := hu.sourced k m
  simp only [occ_eq k, Sourced] at h1 h2; omega

theorem Uniq.published_of_dcount {s : St} (hu : Uniq s) {k : Sub} {m : Msg} (h : 0 < dcount s k m) :
    m ∈ s.published := by
  apply hu.pub
  have := hu.sourced k m
  simp only [occ_eq k, Sourced] at this ⊢; omega

theorem Uniq.published_of_call {s : St} (hu : Uniq s) {i : Nat} {m : Msg} {x : Bool}
    (hc : s.calls[i]? = some { kind := .pub m, cancelled := x }) : m ∈ s.published := by
  apply hu.pub
  have := List.count_flatMap_ge Call.msgs m hc
  simp only [Call.msgs, List.count_cons_self, List.count_nil] at this
  simp only [occ, callMsgs]; omega

end FunProofs.Broker
