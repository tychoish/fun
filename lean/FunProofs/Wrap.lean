import FunModel.Wrap

/-! Facts about the sequential wrapper semantics of `FunModel/Wrap.lean` behind the C15 properties: the
    attempts of a Retry call, invariants of Once and Limit along a call sequence, and which world the
    parts of a hooked or joined function run in. -/
namespace FunModel.Wrap

def Res.succ : Res → Bool
  | .ret _ e => decide (e = [])
  | .panic _ => false

/-- `Worker.Retry` does not go on after this attempt -/
def stopsW : Res → Bool
  | .panic _ => true
  | .ret _ e => decide (e = []) || isExpired e || (!isSkip e && isTerminating e)

/-- `Producer.Retry` does not go on after this attempt -/
def stopsP : Res → Bool
  | .panic _ => true
  | .ret _ e => decide (e = []) || isTerminating e

/-- the attempts of one `Retry` call, latest first, against a budget of `i` -/
def Attempts (stops : Res → Bool) (i : Nat) (new : List Res) : Prop :=
  new.length ≤ i ∧ (∀ r ∈ new.tail, stops r = false) ∧ (new.length < i → ∃ r, new.head? = some r ∧ stops r = true)

theorem attempts_more {stops : Res → Bool} {i : Nat} {new : List Res} {r : Res} (h : Attempts stops i new)
    (hr : stops r = false) : Attempts stops (i + 1) (new ++ [r]) := by
  obtain ⟨h1, h2, h3⟩ := h
  cases new with
  | nil => exact ⟨Nat.succ_le_succ h1, nofun, fun hlt => (h3 (Nat.lt_of_succ_lt_succ hlt)).imp fun _ h => nomatch h.1⟩
  | cons a t =>
    refine ⟨Nat.succ_le_succ (by simpa using h1), fun x hx => ?_, fun hlt => h3 (by simpa using hlt)⟩
    rcases List.mem_append.1 hx with hx | hx
    · exact h2 x hx
    · exact List.mem_singleton.1 hx ▸ hr

theorem stopsW_of_succ : ∀ r : Res, r.succ = true → stopsW r = true
  | .ret _ _, h => by rw [stopsW, show decide _ = true from h]; rfl

theorem stopsP_of_succ : ∀ r : Res, r.succ = true → stopsP r = true
  | .ret _ _, h => by rw [stopsP, show decide _ = true from h]; rfl

/-- A retry loop around `logged f`, known only through one iteration (`hstep`): an attempt that `stops` ends the
    call, with result `R r` if it is the success `r`; any other hands the remaining budget to the loop. -/
theorem retry_log {f : Mach} (dead : Bool) (arg : Int) {stops : Res → Bool} {R : Res → Res}
    {loop : Nat → Err → List Res × f.σ → World → Out (List Res × f.σ)}
    (hsucc : ∀ r, r.succ = true → stops r = true)
    (hzero : ∀ err st w, (loop 0 err st w).st = st)
    (hstep : ∀ i err (st : List Res × f.σ) w (o : Out (List Res × f.σ)), (logged f).call st dead arg w = o →
      (stops o.res = true ∧ (loop (i + 1) err st w).st = o.st ∧
        (o.res.succ = true → (loop (i + 1) err st w).res = R o.res)) ∨
      (stops o.res = false ∧ ∃ err', loop (i + 1) err st w = loop i err' o.st o.w)) :
    ∀ i err st w, ∃ new, (loop i err st w).st.1 = new ++ st.1 ∧ Attempts stops i new ∧
      ∀ r ∈ new, r.succ = true → (loop i err st w).res = R r := by
  intro i
  induction i with
  | zero => exact fun err st w => ⟨[], congrArg Prod.fst (hzero ..), ⟨Nat.le_refl 0, nofun, nofun⟩, nofun⟩
  | succ i ih =>
    intro err st w
    rcases hstep i err st w _ rfl with ⟨hst, hlog, hres⟩ | ⟨hst, err', heq⟩
    · exact ⟨[_], congrArg Prod.fst hlog, ⟨Nat.succ_le_succ (Nat.zero_le i), nofun, fun _ => ⟨_, rfl, hst⟩⟩,
        fun r hr => List.mem_singleton.1 hr ▸ hres⟩
    · rw [heq]
      obtain ⟨new, h1, h2, h3⟩ := ih err' ((logged f).call st dead arg w).st ((logged f).call st dead arg w).w
      refine ⟨new ++ [_], by rw [h1, List.append_assoc]; rfl, attempts_more h2 hst, fun r hr hs => ?_⟩
      rcases List.mem_append.1 hr with hr | hr
      · exact h3 r hr hs
      · rw [List.mem_singleton.1 hr] at hs
        exact absurd (hsucc _ hs) (hst ▸ Bool.false_ne_true)

theorem no_success_of_error {new : List Res} {res : Res} (h : ∀ r ∈ new, r.succ = true → res.succ = true)
    (v : Int) (e : Err) (hres : res = .ret v e) (he : e ≠ []) : ∀ r ∈ new, r.succ = false := by
  intro r hr
  cases hs : r.succ with
  | false => rfl
  | true =>
    have := h r hr hs
    rw [hres] at this
    exact absurd (of_decide_eq_true this) he

theorem retryW_log (f : Mach) (dead : Bool) (arg : Int) :
    ∀ i err (st : List Res × f.σ) w, ∃ new,
      (retryW (logged f) dead arg i err st w).st.1 = new ++ st.1 ∧ Attempts stopsW i new ∧
      ∀ r ∈ new, r.succ = true → (retryW (logged f) dead arg i err st w).res = .ret 0 [] := by
  refine retry_log dead arg (R := fun _ => .ret 0 []) stopsW_of_succ (fun _ _ _ => rfl) ?_
  rintro i err st w ⟨res, st', w'⟩ ho
  simp only [retryW, ho]
  cases res with
  | panic p => exact .inl ⟨rfl, rfl, nofun⟩
  | ret v e =>
    simp only [stopsW, Res.succ]
    by_cases he : e = []
    · simp [he]
    · by_cases hx : isExpired e = true
      · simp [he, hx]
      · by_cases hs : isSkip e = true
        · exact .inr ⟨by simp [he, hx, hs], err, by rw [if_neg he, if_neg hx, if_pos hs]⟩
        · by_cases ht : isTerminating e = true
          · simp [he, hx, hs, ht]
          · exact .inr ⟨by simp [he, hx, hs, ht], join [e, err], by rw [if_neg he, if_neg hx, if_neg hs, if_neg ht]⟩

theorem retryP_log (f : Mach) (dead : Bool) (arg : Int) :
    ∀ i err (st : List Res × f.σ) w, ∃ new,
      (retryP (logged f) dead arg i err st w).st.1 = new ++ st.1 ∧ Attempts stopsP i new ∧
      ∀ r ∈ new, r.succ = true → (retryP (logged f) dead arg i err st w).res = r := by
  refine retry_log dead arg (R := id) stopsP_of_succ (fun _ _ _ => rfl) ?_
  rintro i err st w ⟨res, st', w'⟩ ho
  simp only [retryP, ho]
  cases res with
  | panic p => exact .inl ⟨rfl, rfl, nofun⟩
  | ret v e =>
    simp only [stopsP, Res.succ]
    by_cases he : e = []
    · simp [he]
    · by_cases ht : isTerminating e = true
      · simp [he, ht]
      · by_cases hs : isSkip e = true
        · exact .inr ⟨by simp [he, ht], err, by rw [if_neg he, if_neg ht, if_pos hs]⟩
        · exact .inr ⟨by simp [he, ht], join [e, err], by rw [if_neg he, if_neg ht, if_neg hs]⟩

def ncalls : List CallOp → Nat
  | [] => 0
  | .call _ :: r => ncalls r + 1
  | .callDead _ :: r => ncalls r + 1
  | _ :: r => ncalls r

theorem runOps_inv (m : Mach) (I : m.σ → List Res → Prop)
    (hcall : ∀ st acc d a w, I st acc → I (m.call st d a w).st ((m.call st d a w).res :: acc))
    (hcancel : ∀ st acc, I st acc → I (m.cancel st) acc) :
    ∀ (ops : List CallOp) (st : m.σ) (w : World) (acc : List Res), I st acc →
      I (runOps m st w ops acc).2.1 (runOps m st w ops acc).1.reverse := by
  intro ops
  induction ops with
  | nil => intro st w acc h; simpa [runOps] using h
  | cons op ops ih =>
    intro st w acc h
    cases op with
    | call a => simp only [runOps]; exact ih _ _ _ (hcall st acc false a w h)
    | callDead a => simp only [runOps]; exact ih _ _ _ (hcall st acc true a w h)
    | cancel => simp only [runOps]; exact ih _ _ _ h
    | wcancel => simp only [runOps]; exact ih _ _ _ (hcancel st acc h)

theorem runOps_length (m : Mach) : ∀ (ops : List CallOp) (st : m.σ) (w : World) (acc : List Res),
    (runOps m st w ops acc).1.length = acc.length + ncalls ops := by
  intro ops
  induction ops with
  | nil => intro st w acc; simp [runOps, ncalls]
  | cons op ops ih =>
    intro st w acc
    cases op <;> simp only [runOps, ncalls] <;> rw [ih] <;> simp <;> omega

theorem run_length (m : Mach) (script : List Step) (ops : List CallOp) :
    (run m script ops).1.length = ncalls ops :=
  (runOps_length m ops _ _ []).trans (Nat.zero_add _)

/-- invariant of `once k (logged f)`: nothing executed before the Once fired, exactly one execution
    after, whose result (if it returned) is what the closure captured; every result handed out so far
    is that captured value -/
def OnceInv (k : Kind) (f : Mach) (st : (once k (logged f)).σ) (acc : List Res) : Prop :=
  (st.1.fired = false → st.2.1 = [] ∧ acc = []) ∧
  (st.1.fired = true → ∃ r, st.2.1 = [r] ∧
      (∀ v e, r = .ret v e → st.1.cache = k.cache (.ret v e) ∧ ∀ x ∈ acc, x = k.cache (.ret v e)))

theorem once_inv_call (k : Kind) (f : Mach) (st : (once k (logged f)).σ) (acc : List Res) (d : Bool) (a : Int) (w : World)
    (h : OnceInv k f st acc) :
    OnceInv k f ((once k (logged f)).call st d a w).st (((once k (logged f)).call st d a w).res :: acc) := by
  obtain ⟨⟨fired, cache⟩, l, s⟩ := st
  cases fired with
  | true =>
    obtain ⟨r, hl, hr⟩ := h.2 rfl
    exact ⟨nofun, fun _ => ⟨r, hl, fun v e hre =>
      ⟨(hr v e hre).1, List.forall_mem_cons.2 ⟨(hr v e hre).1, (hr v e hre).2⟩⟩⟩⟩
  | false =>
    obtain ⟨hl, hacc⟩ := h.1 rfl
    cases (show l = [] from hl); cases hacc
    simp only [once, logged, Bool.false_eq_true, if_false]
    cases (f.call s d a w).res with
    | panic p => exact ⟨nofun, fun _ => ⟨.panic p, rfl, nofun⟩⟩
    | ret v e =>
      refine ⟨nofun, fun _ => ⟨.ret v e, rfl, fun v' e' hre => ?_⟩⟩
      cases hre
      exact ⟨rfl, List.forall_mem_cons.2 ⟨rfl, nofun⟩⟩

theorem once_inv_run (k : Kind) (f : Mach) (script : List Step) (ops : List CallOp) :
    OnceInv k f (run (once k (logged f)) script ops).2.1 (run (once k (logged f)) script ops).1.reverse := by
  unfold run
  apply runOps_inv (once k (logged f)) (OnceInv k f) (once_inv_call k f) (fun ⟨_, _, _⟩ _ h => h)
  simp [OnceInv, once, logged]

def Res.isRet : Res → Bool
  | .ret _ _ => true
  | .panic _ => false

@[simp] theorem isRet_ret (v : Int) (e : Err) : (Res.ret v e).isRet = true := rfl
@[simp] theorem isRet_panic (p : Err) : (Res.panic p).isRet = false := rfl

/-- results of the executions that returned, latest first -/
def completed (log : List Res) : List Res := log.filter Res.isRet

/-- invariant of `limit n (logged f)` after `acc.length` calls: the counter is the number of completed
    executions, never above n; the cached output is the latest completed execution's result;
    while the counter is below n every call executed the function -/
def LimInv (n : Nat) (f : Mach) (st : (limit n (logged f)).σ) (acc : List Res) : Prop :=
  st.1.counter = (completed st.2.1).length ∧ st.1.counter ≤ n ∧
  (0 < st.1.counter → (completed st.2.1).head? = some st.1.output) ∧
  st.2.1.length ≤ acc.length ∧ (st.1.counter < n → st.2.1.length = acc.length)

theorem lim_inv_call (n : Nat) (f : Mach) (st : (limit n (logged f)).σ) (acc : List Res) (d : Bool) (a : Int) (w : World)
    (h : LimInv n f st acc) :
    LimInv n f ((limit n (logged f)).call st d a w).st (((limit n (logged f)).call st d a w).res :: acc) := by
  obtain ⟨⟨ctr, out⟩, log, s⟩ := st
  obtain ⟨h1, h2, h3, h4, h5⟩ := h
  by_cases hc : ctr = n
  · -- at the limit: the cached output, nothing executed
    subst hc
    simp only [limit, beq_self_eq_true, if_true]
    exact ⟨h1, Nat.le_refl _, h3, Nat.le_succ_of_le h4, fun hlt => absurd hlt (Nat.lt_irrefl _)⟩
  · have hlt : ctr < n := Nat.lt_of_le_of_ne h2 hc
    have h5 := h5 hlt
    simp only [limit, logged, beq_iff_eq, hc, if_false, hlt, if_true]
    cases (f.call s d a w).res with
    | panic p => exact ⟨h1, h2, h3, Nat.le_of_eq (congrArg (· + 1) h5), fun _ => congrArg (· + 1) h5⟩
    | ret v e =>
      have hmin : min n (ctr + 1) = ctr + 1 := Nat.min_eq_right hlt
      exact ⟨hmin.trans (congrArg (· + 1) h1), Nat.min_le_left .., fun _ => rfl, Nat.le_of_eq (congrArg (· + 1) h5),
        fun _ => congrArg (· + 1) h5⟩

theorem lim_inv_run (n : Nat) (f : Mach) (script : List Step) (ops : List CallOp) :
    LimInv n f (run (limit n (logged f)) script ops).2.1 (run (limit n (logged f)) script ops).1.reverse := by
  unfold run
  apply runOps_inv (limit n (logged f)) (LimInv n f) (lim_inv_call n f) (fun ⟨_, _, _⟩ _ h => h)
  simp [LimInv, limit, logged, completed]

/-- at the limit every call returns the cached output and executes nothing -/
theorem lim_saturated (n : Nat) (f : Mach) (l : LimitSt) (log : List Res) (hc : l.counter = n) (ops : List CallOp)
    (st : (limit n (logged f)).σ) (w : World) (h : st.1 = l ∧ st.2.1 = log) :
    (runOps (limit n (logged f)) st w ops []).2.1.2.1 = log ∧
    ∀ r ∈ (runOps (limit n (logged f)) st w ops []).1, r = l.output := by
  have := runOps_inv (limit n (logged f)) (fun st acc => (st.1 = l ∧ st.2.1 = log) ∧ ∀ r ∈ acc, r = l.output)
    (fun ⟨l', s⟩ acc d a w ⟨⟨h1, h2⟩, h3⟩ => by
      cases (show l' = l from h1)
      rw [show (limit n (logged f)).call (l, s) d a w = { res := l.output, st := (l, s), w := w } by simp [limit, hc]]
      exact ⟨⟨rfl, h2⟩, List.forall_mem_cons.2 ⟨rfl, h3⟩⟩)
    (fun ⟨_, _, _⟩ _ h => h) ops st w [] ⟨h, nofun⟩
  exact ⟨this.1.2, fun r hr => this.2 r (List.mem_reverse.2 hr)⟩

def Mach.Extends (f : Mach) : Prop := ∀ s d a w, ∃ evs, (f.call s d a w).w.trace = evs ++ w.trace

theorem probe_call (k : Nat) (f : Mach) (hf : f.Extends) (s : f.σ) (d : Bool) (a : Int) (w : World) :
    ∃ evs, ((probe k f).call s d a w).w.trace = .ret k ((probe k f).call s d a w).res :: (evs ++ .call k :: w.trace) := by
  obtain ⟨evs, h⟩ := hf s d a { w with trace := .call k :: w.trace }
  exact ⟨evs, by simp [probe, h]⟩

theorem base_extends (k : Kind) (id : Nat) : (base k id).Extends := by
  intro s d a w
  exact ⟨[.fnret id (k.proj (popScript w).1.res), .fn id (if k.hasArg then a else 0)], by simp [base]⟩

/-- does a PreHook of this kind convert a panicking hook into an error (and go on)? -/
def Kind.recovers : Kind → Bool
  | .worker | .processor | .producer => true
  | _ => false

def Res.isPanic : Res → Bool
  | .panic _ => true
  | .ret _ _ => false

/-- `PreHook` runs the hook, then the function in the world the hook left — unless the hook
    panicked and this kind of function does not recover it: then the call ends there -/
theorem preHook_world (k : Kind) (f h : Mach) (s : f.σ) (t : h.σ) (d : Bool) (arg : Int) (w : World) :
    if (h.call t d arg w).res.isPanic && !k.recovers then
      ((preHook k f h).call (s, t) d arg w).w = (h.call t d arg w).w ∧
      ((preHook k f h).call (s, t) d arg w).res = (h.call t d arg w).res
    else ((preHook k f h).call (s, t) d arg w).w = (f.call s d arg (h.call t d arg w).w).w := by
  cases hq : (h.call t d arg w).res <;> cases k <;>
    simp only [Res.isPanic, Kind.recovers, Bool.not_true, Bool.not_false, Bool.and_true, Bool.and_false,
      Bool.false_eq_true, if_true, if_false, preHook, hq, and_self] <;>
    split <;> rfl

/-- `PostHook` runs the function, then the hook in the world the function left — unless the function
    panicked and this kind recovers hooks (there the hook is an operand of `ers.Join`, not deferred) -/
theorem postHook_world (k : Kind) (f h : Mach) (s : f.σ) (t : h.σ) (d : Bool) (arg : Int) (w : World) :
    if (f.call s d arg w).res.isPanic && k.recovers then
      ((postHook k f h).call (s, t) d arg w).w = (f.call s d arg w).w ∧
      ((postHook k f h).call (s, t) d arg w).res = (f.call s d arg w).res
    else ((postHook k f h).call (s, t) d arg w).w = (h.call t d arg (f.call s d arg w).w).w := by
  cases hr : (f.call s d arg w).res <;> cases k <;>
    simp only [Res.isPanic, Kind.recovers, Bool.and_true, Bool.and_false,
      Bool.false_eq_true, if_true, if_false, postHook, hr, and_self] <;>
    cases (h.call t d arg (f.call s d arg w).w).res <;> rfl

/-- the RETRY_SECOND loop of `Producer.Join` leaves the stage where it is or moves it to 3 (the second
    producer failed) or 4 (exhausted); stated as far as it is needed to see that a stage other than 0 ("run
    first") never becomes 0 again -/
theorem pjoinSecond_stage (g : Mach) (d : Bool) (arg : Int) : ∀ (fuel : Nat) (j : PJoinSt) (t : g.σ) (w : World),
    j.stage ≤ (pjoinSecond g d arg fuel j t w).st.1.stage ∨ (pjoinSecond g d arg fuel j t w).st.1.stage ≥ 3 := by
  intro fuel
  induction fuel with
  | zero => intro j t w; simp [pjoinSecond]
  | succ fuel ih =>
    intro j t w
    simp only [pjoinSecond]
    cases (g.call t d arg w).res with
    | panic p => simp
    | ret v e =>
      simp only
      split
      · simp
      · split
        · exact ih _ _ _
        · split <;> simp

end FunModel.Wrap
