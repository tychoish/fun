import FunProofs.ServiceInv

/-! Consequences of the invariant: Start returns nil exactly once, every reachable log is accepted by `allowedLog`,
    and liveness as safety: what a state looks like in which nobody can move (an actor that could move is shown its
    constructor of the step relation; `stepX_complete` then contradicts quiescence). -/

namespace FunModel.Service

theorem start_nil_count {c : Cfg} {s : State} (hI : Inv c s) (hL : Lock s) :
    countEv s.log isStartNil ≤ 1 ∧
    ((∀ (t : Nat) (th : Thread), s.ths[t]? = some th → th.loc = .idle) → has s.log isStartCall = true →
      countEv s.log isStartNil = 1) := by
  have hk := hL.token
  unfold Token at hk
  refine ⟨by have := Bool.toNat_le s.claimed; omega, fun hidle hsc => ?_⟩
  -- nobody holds the token, and a `Start` that was called and has returned leaves the service claimed
  cases hcl : s.claimed with
  | true => exact hL.token.n3 hcl fun t th hth => by simp [inClaim, hidle t th hth]
  | false => rw [hI.i2.th.sc hcl fun t th hth => by simp [hidle t th hth]] at hsc; cases hsc

theorem phases_once_of_finished {c : Cfg} {s : State} (hI : Inv c s) (hf : s.isFinished = true) :
    (c.run.present = true → countEv s.log (isBegin .run) = 1) ∧
    (c.shutdown.present = true → countEv s.log (isBegin .shutdown) = 1) ∧
    (c.cleanup.present = true → countEv s.log (isBegin .cleanup) = 1) := by
  have hG := hI.i1.1
  have hr := hG.rg_of_finished hf
  have hsd := hG.sd_of_rg (Nat.le_trans (by decide) hr)
  refine ⟨fun hp => ?_, fun hp => ?_, fun hp => ?_⟩
  · rw [hI.i2.run.runB]; simp [hp]; omega
  · rw [hI.i2.sd.sdB]; simp [hp]; omega
  · rw [hI.i2.run.cuB]; simp [hp]; omega

/-- a thread inside an operation has logged its call (`cm1`) but not yet the return (`cm2`) -/
theorem idle_of_complete {c : Cfg} {s : State} (hI : Inv c s) (hcomp : complete s.log = true) :
    ∀ (t : Nat) (th : Thread), s.ths[t]? = some th → th.loc = .idle := by
  intro t th hth
  refine Decidable.byContradiction fun hl => ?_
  obtain ⟨k, op, ho, hk⟩ := hI.i2.book.cm1 t th hth hl
  simp only [complete, List.all_eq_true] at hcomp
  have := hcomp _ hk
  simp only [List.any_eq_true] at this
  obtain ⟨y, hy, hy2⟩ := this
  cases hy2' : y.2 with
  | ret t' i' r =>
    simp only [hy2', Bool.and_eq_true, beq_iff_eq] at hy2
    obtain ⟨rfl, rfl⟩ := hy2
    exact Nat.lt_irrefl _ (hI.i2.book.cm2 y hy _ _ r hy2' th hth)
  | _ => simp [hy2'] at hy2

theorem allowedLog_inv {c : Cfg} {s : State} (hI : Inv c s) (hL : Lock s) : allowedLog c s.log = true := by
  have hnil := start_nil_count hI hL
  have h1 := hI.i2.run.phases.1.once.1
  have h2 := hI.i2.sd.phase.once.1
  have h3 := hI.i2.run.phases.2.once.1
  have h4 := hI.i2.eh.ehB1
  have h5 : (!complete s.log || countEv s.log isStartCall == 0 || countEv s.log isStartNil == 1) = true := by
    cases hcomp : complete s.log with
    | false => rfl
    | true =>
      by_cases hz : countEv s.log isStartCall = 0
      · simp [hz]
      · have := hnil.2 (idle_of_complete hI hcomp) (has_of_count_pos (Nat.pos_of_ne_zero hz))
        simp [this]
  have h0 : s.log.all (fun x => evOk c s.log x.1 x.2) = true := by
    rw [List.all_eq_true]; exact fun x hx => hI.evs x hx
  simp only [allowedLog, h0, h5, Bool.and_true, Bool.true_and, Bool.and_eq_true, decide_eq_true_eq]
  exact ⟨⟨⟨⟨h1, h2⟩, h3⟩, h4⟩, hnil.1⟩

theorem rg_quiescent {c : Cfg} {s : State} (hG : InvG c s) (hl : s.once ≠ .fresh)
    (hrg : stepRg c s = none) (hsd : stepSd c s = none) :
    s.rg = .gone ∨ (s.rg = .inRun ∧ c.runBlocks = true ∧ s.ctxDone = false) := by
  obtain ⟨hne, hsdne, -⟩ := hG.launched hl
  have rg : ∀ {s'} {P : Prop}, RgStep c s s' → P := fun h => nomatch (stepRg_complete h).symm.trans hrg
  have sd : ∀ {s'} {P : Prop}, SdStep c s s' → P := fun h => nomatch (stepSd_complete h).symm.trans hsd
  cases hr : s.rg with
  | none => exact absurd hr hne
  | gone => exact .inl rfl
  | entry => exact (Decidable.em (c.run = .absent)).elim (fun hc => rg (.entryAbsent hr hc)) fun hc => rg (.entry hr hc)
  | inRun =>
    by_cases hb : (c.runBlocks && !s.ctxDone) = true
    · simp only [Bool.and_eq_true, Bool.not_eq_true'] at hb
      exact .inr ⟨rfl, hb.1, hb.2⟩
    · by_cases hp : ∃ p, c.run = .panic p
      · obtain ⟨p, hp⟩ := hp; exact rg (.runPanic hr hb p hp)
      · exact rg (.runRet hr hb fun p g => hp ⟨p, g⟩)
  | returned => exact rg (.cancel hr)
  | cancelled =>
    cases hp : s.panicking with
    | none => exact rg (.recoverNone hr hp)
    | some p => exact rg (.recoverPanic hr p hp)
  | recovered =>
    -- waiting for `shutdownSignal`: the context has ended, so the shutdown goroutine can move
    cases hsig : s.shutdownSig with
    | true => exact rg (.signal hr hsig)
    | false =>
      have hcd : s.ctxDone = true := by
        have := hG.ccl (by rw [hr]; decide); simp [State.ctxDone, this]
      have hlt : s.sd.rank < 4 := Nat.lt_of_not_le (of_decide_eq_false (hG.sdS.symm.trans hsig))
      cases hs : s.sd with
      | none => exact absurd hs hsdne
      | entry =>
        exact (Decidable.em (c.shutdown = .absent)).elim (fun hc => sd (.entryAbsent hs hcd hc)) fun hc =>
          sd (.entry hs hcd hc)
      | inShutdown => exact sd (.shutdownEnd hs)
      | closing => exact sd (.closeSig hs)
      | exit | gone => simp [hs, SdLoc.rank] at hlt
  | signalled =>
    exact (Decidable.em (c.cleanup = .absent)).elim (fun hc => rg (.cleanupAbsent hr hc)) fun hc =>
      rg (.cleanupBegin hr hc)
  | inCleanup => exact rg (.cleanupEnd hr)
  | cleaned => exact rg (.finish hr)
  | finished => exact rg (.notRunning hr)
  | closing => exact rg (.closeMain hr)
  | exit => exact rg (.done hr)

theorem sd_eh_quiescent {c : Cfg} {s : State} (hG : InvG c s) (hl : s.once ≠ .fresh) (hg : s.rg = .gone)
    (hsd : stepSd c s = none) (heh : stepEh c s = none) : s.sd = .gone ∧ s.eh = .gone ∧ s.wg = 0 := by
  have hehne := (hG.launched hl).2.2.1
  have eh : ∀ {s'} {P : Prop}, EhStep c s s' → P := fun h => nomatch (stepEh_complete h).symm.trans heh
  have hmain : s.mainSig = true := by rw [hG.mainS, hg]; simp [RgLoc.rank]
  have hehs : s.ehSig = true := by rw [hG.ehS, hg]; simp [RgLoc.rank]
  have h4 := hG.sd_of_rg (by rw [hg]; decide)
  have hsdg : s.sd = .gone := by
    cases hs : s.sd <;> simp [hs, SdLoc.rank] at h4
    · exact nomatch (stepSd_complete (.done hs)).symm.trans hsd
    · rfl
  have hehg : s.eh = .gone := by
    cases he : s.eh with
    | none => exact absurd he hehne
    | entry => exact eh (.entry he hmain)
    | main =>
      exact (Decidable.em (c.handler ≠ .absent ∧ s.coll ≠ [])).elim (fun hc => eh (.call he hehs hc)) fun hc =>
        eh (.skip he hehs hc)
    | inHandler =>
      by_cases hp : ∃ p, c.handler = .panic p
      · obtain ⟨p, hp⟩ := hp; exact eh (.handlerPanic he p hp)
      · exact eh (.handlerEnd he fun p g => hp ⟨p, g⟩)
    | exit => exact eh (.done he)
    | gone => rfl
  refine ⟨hsdg, hehg, ?_⟩
  rw [hG.wgEq, hg, hsdg, hehg]; simp [liveRg, liveSd, liveEh]

theorem th_quiescent {c : Cfg} (hc : c.current) {s : State} (hI : Inv c s) (hL : LocOp s) {t : Nat} {th : Thread}
    (hth : s.ths[t]? = some th) (hq : stepTh c s t = none) :
    th.ops.length ≤ th.pc ∨ (th.loc = .waitStarted ∧ s.wg ≠ 0) := by
  cases hop : th.ops[th.pc]? with
  | none => exact Or.inl (List.getElem?_eq_none_iff.mp hop)
  | some op =>
    refine Or.inr ?_
    have mv : ∀ {s'} {P : Prop}, ThStep c s t th op s' → P := fun h => nomatch (stepTh_complete hc hth hop h).symm.trans hq
    -- a caller inside an operation is at one of that operation's locations
    have bad : ∀ {P : Prop} {l : Loc}, th.loc = l → l ≠ .idle → locOk op l = false → P := fun hl hne hf => by
      obtain ⟨op', ho', hok⟩ := hL t th hth (hl ▸ hne)
      cases hop.symm.trans ho'
      rw [hl, hf] at hok; cases hok
    cases op with
    | start p =>
      cases hl : th.loc with
      | idle => exact (Bool.eq_false_or_eq_true s.isFinished).elim (fun hf => mv (.startReturned p hl hf)) fun hf => mv (.startCheck p hl hf)
      | startChecked => exact (Bool.eq_false_or_eq_true s.isRunning).elim (fun hr => mv (.startAlready p hl hr)) fun hr => mv (.startSwap p hl hr)
      | startSwapped => exact (Bool.eq_false_or_eq_true s.isFinished).elim (fun hf => mv (.startRecheck p hl hf)) fun hf => mv (.startClaim p hl hf)
      | startRechecked => exact mv (.startUndo p hl)
      -- `doStart.Do` blocks only while another `Start` is inside it, and then no thread is at `startClaimed` (`t1`)
      | startClaimed => exact mv (.startLaunch p hl (hI.i1.2.t1 t th hth hl))
      | startLaunched => exact mv (.startStore p hl)
      | startStarted => exact mv (.startNil p hl)
      | _ => exact bad hl nofun rfl
    | close =>
      cases hl : th.loc with
      | idle => exact mv (.close hl)
      | _ => exact bad hl nofun rfl
    | wait =>
      cases hl : th.loc with
      | idle => exact (Bool.eq_false_or_eq_true s.isFinished).elim (fun hf => mv (.waitFinished hl hf)) fun hf => mv (.waitCheck hl hf)
      | waitChecked =>
        exact (Bool.eq_false_or_eq_true s.isStarted).elim (fun hst => mv (.waitStarted hl hst)) fun hst => mv (.waitNotStarted hl hst)
      | waitStarted => exact ⟨rfl, fun hw => mv (.waitDone hl hw)⟩
      | _ => exact bad hl nofun rfl
    | running =>
      cases hl : th.loc with
      | idle =>
        exact (Bool.eq_false_or_eq_true s.isFinished).elim (fun hf => mv (.runningFinished hl hf)) fun hf => mv (.runningCheck hl hf)
      | runningChecked => exact mv (.runningLoad hl)
      | _ => exact bad hl nofun rfl

theorem no_stuck {c : Cfg} (hc : c.current) {s : State} (hI : Inv c s) (hL : LocOp s)
    (hq : ∀ a, (∀ p, a ≠ .cancelParent p) → step c s a = none)
    (hend : s.ctxDone = true ∨ c.runBlocks = false) :
    (∀ (t : Nat) (th : Thread), s.ths[t]? = some th → th.ops.length ≤ th.pc) ∧
    (s.once ≠ .fresh → s.rg = .gone ∧ s.sd = .gone ∧ s.eh = .gone ∧ s.wg = 0) := by
  have hG := hI.i1.1
  have hrg : stepRg c s = none := hq .rg (by simp)
  have hsd : stepSd c s = none := hq .sd (by simp)
  have heh : stepEh c s = none := hq .eh (by simp)
  have hgor : s.once ≠ .fresh → s.rg = .gone ∧ s.sd = .gone ∧ s.eh = .gone ∧ s.wg = 0 := by
    intro hl
    have hg : s.rg = .gone := by
      rcases rg_quiescent hG hl hrg hsd with h | ⟨_, hb, hd⟩
      · exact h
      · rcases hend with h | h
        · rw [h] at hd; exact absurd hd (by simp)
        · rw [h] at hb; exact absurd hb (by simp)
    obtain ⟨a, b, d⟩ := sd_eh_quiescent hG hl hg hsd heh
    exact ⟨hg, a, b, d⟩
  refine ⟨fun t th hth => ?_, hgor⟩
  rcases th_quiescent hc hI hL hth (hq (.th t) (by simp)) with h | ⟨hl, hw⟩
  · exact h
  · exfalso
    have hst := hI.i2.th.ws t th hth hl
    exact hw (hgor (hI.i1.2.st hst)).2.2.2

theorem stuck_shape {c : Cfg} (hc : c.current) {s : State} (hI : Inv c s) (hL : LocOp s)
    (hq : ∀ a, (∀ p, a ≠ .cancelParent p) → step c s a = none) (hl : s.once ≠ .fresh) (hg : s.rg ≠ .gone) :
    s.rg = .inRun ∧ s.sd = .entry ∧ s.eh = .entry ∧ s.ctxDone = false ∧ c.runBlocks = true ∧
    (∀ (t : Nat) (th : Thread), s.ths[t]? = some th → th.ops.length ≤ th.pc ∨ th.loc = .waitStarted) := by
  have hG := hI.i1.1
  have hrg : stepRg c s = none := hq .rg (by simp)
  have hsd : stepSd c s = none := hq .sd (by simp)
  rcases rg_quiescent hG hl hrg hsd with h | ⟨hr, hb, hd⟩
  · exact absurd h hg
  · have hsdne := (hG.launched hl).2.1
    have hehne := (hG.launched hl).2.2.1
    have hsde : s.sd = .entry := by
      have : ¬ (2 ≤ s.sd.rank) := fun h2 => by have := hG.sdCtx h2; rw [hd] at this; exact absurd this (by simp)
      cases hs : s.sd <;> simp [hs, SdLoc.rank] at this hsdne ⊢
    have hehe : s.eh = .entry := by
      have hm : s.mainSig = false := by rw [hG.mainS, hr]; simp [RgLoc.rank]
      have : ¬ (2 ≤ s.eh.rank) := fun h2 => by have := hG.ehMain h2; rw [hm] at this; exact absurd this (by simp)
      cases hs : s.eh <;> simp [hs, EhLoc.rank] at this hehne ⊢
    refine ⟨hr, hsde, hehe, hd, hb, fun t th hth => ?_⟩
    exact (th_quiescent hc hI hL hth (hq (.th t) (by simp))).imp_right And.left

theorem measure_decreases {c : Cfg} (hc : c.current) {s s' : State} {a : Act} (hI : Inv c s) (h : step c s a = some s') :
    (∀ p, a ≠ .cancelParent p) → measure s' < measure s := by
  intro hne
  cases a with
  | th t => obtain ⟨th, op, hth, ho, h'⟩ := stepTh_sound hc h; exact h'.measure_lt (fun h0 => have f := hI.i1.1.fresh h0; ⟨f.1, f.2.1, f.2.2.1⟩) hth ho
  | rg => exact (stepRg_sound h).measure_lt
  | sd => exact (stepSd_sound h).measure_lt
  | eh => exact (stepEh_sound h).measure_lt
  | cancelParent p => exact absurd rfl (hne p)

end FunModel.Service
