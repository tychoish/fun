import FunProofs.C03Pipe
import FunProofs.Err
import FunProofs.ErrPolicy

/-! C03: the model's `Cfg.reports` / `Cfg.cont` in the property's words (`reportable`, `continues`), and what its
    collector resolves to, by the collector lemmas of `FunProofs/Err.lean`. -/

namespace FunModel.FaultPipe
open FunModel

theorem reports_eq_reportable (c : Cfg) (x : Nat) : c.reports x = (c.cls x).reportable c.conf :=
  canContinue_reports c.conf (c.cls x)

theorem cont_eq_continues (c : Cfg) (x : Nat) : c.cont x = (c.cls x).continues c.conf :=
  (canContinue_table c.conf (c.cls x)).2

theorem Inv.mem_coll {c : Cfg} {input : List Nat} {s : St} (h : Inv c input s) {x : Nat} :
    x ∈ s.coll ↔ x ∈ fins s.log ∧ (c.cls x).reportable c.conf = true := by
  rw [h.coll, List.mem_filter, reports_eq_reportable]

theorem result_some_of_reports {c : Cfg} {x : Nat} (h : c.reports x = true) :
    ∃ e, (c.outcome x).result = some e := by
  rw [reports_eq_reportable] at h
  cases hr : (c.outcome x).result with
  | some e => exact ⟨e, rfl⟩
  | none => simp [Cfg.cls, hr, classify, ErrClass.reportable] at h

theorem resultOf_none_iff (c : Cfg) (coll : List Nat)
    (hsolid : ∀ x e, (c.outcome x).result = some e → e.solid = true)
    (hrep : ∀ x ∈ coll, c.reports x = true) : resultOf c coll = none ↔ coll = [] := by
  rw [resultOf, collected, collector_eq_none]
  simp only [collectedErrs, List.mem_map, List.mem_reverse, forall_exists_index, and_imp, forall_apply_eq_imp_iff₂]
  constructor
  · intro h
    cases coll with
    | nil => rfl
    | cons x xs =>
      obtain ⟨e, he⟩ := result_some_of_reports (hrep x (by simp))
      have := h x (by simp)
      rw [he] at this
      exact absurd this (Err.parts_ne_nil e (hsolid x e he))
  · rintro rfl; nofun

theorem resultOf_is (c : Cfg) (coll : List Nat) (t : Nat) :
    isOpt (resultOf c coll) t = true ↔ ∃ x ∈ coll, (optParts (c.outcome x).result).any (fun p => p.is t) = true := by
  rw [resultOf, collected, collector_is_parts]
  simp [collectedErrs, List.any_flatMap, List.any_map]

theorem resultOf_is_of_reported (c : Cfg) (coll : List Nat) (x : Nat) (hx : x ∈ coll) (e : Err)
    (he : (c.outcome x).result = some e) (t : Nat) (ht : e.is t = true) (hshell : t ∉ e.shellIds) :
    isOpt (resultOf c coll) t = true :=
  (resultOf_is c coll t).mpr ⟨x, hx, by rw [he]; exact (Err.parts_of_is t e ht).resolve_left hshell⟩

theorem resultOf_is_panic (c : Cfg) (coll : List Nat) (x : Nat) (hx : x ∈ coll) (p : Err)
    (hp : c.outcome x = .panic p) : isOpt (resultOf c coll) idRecoveredPanic = true :=
  (resultOf_is c coll _).mpr ⟨x, hx, by simp [hp, Outcome.result, parsePanic_parts, Err.is]⟩

theorem reported_of_resultOf_is (c : Cfg) (coll : List Nat) (t : Nat)
    (hvis : ∀ x e, (c.outcome x).result = some e → e.visible = true)
    (h : isOpt (resultOf c coll) t = true) :
    ∃ x ∈ coll, ∃ e, (c.outcome x).result = some e ∧ e.is t = true := by
  obtain ⟨x, hx, hp⟩ := (resultOf_is c coll t).mp h
  cases he : (c.outcome x).result with
  | none => rw [he] at hp; cases hp
  | some e => rw [he] at hp; exact ⟨x, hx, e, he, Err.is_of_parts t e (hvis x e he) hp⟩

end FunModel.FaultPipe
