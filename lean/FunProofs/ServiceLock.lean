import FunProofs.ServiceLog

/-! The callers of the `srv.Service` model. `Lock` counts them: the claim on the service is a token (`Token`) and
    `isRunning` is the lock on the swap (`Swap`); `InvT` is what a caller inside `Start` knows at its location, `ThLog`
    what the log says about `Start`, `Wait` and `Running`. -/

namespace FunModel.Service

def inClaim (l : Loc) : Prop := l = .startClaimed ∨ l = .startLaunched ∨ l = .startStarted

instance : DecidablePred inClaim := fun l => by unfold inClaim; exact inferInstance

/-- the number of callers at a location satisfying `P` -/
def nAt (s : State) (P : Loc → Prop) [DecidablePred P] : Nat := (s.ths.map fun x => if P x.loc then 1 else 0).sum

section
variable {s s' : State} {t : Nat} {th th' : Thread} {P : Loc → Prop} [DecidablePred P]

theorem nAt_set (hth : s.ths[t]? = some th) (e : s'.ths = s.ths.set t th') (P : Loc → Prop) [DecidablePred P] :
    nAt s' P + (if P th.loc then 1 else 0) = nAt s P + (if P th'.loc then 1 else 0) := by
  unfold nAt; rw [e]; exact List.sum_map_set _ th' hth

theorem nAt_pos (hth : s.ths[t]? = some th) (hp : P th.loc) : 0 < nAt s P := by
  have := List.sum_map_eraseIdx (fun x : Thread => if P x.loc then 1 else 0) hth
  rw [if_pos hp] at this; unfold nAt; omega

theorem nAt_zero (h : ∀ (u : Nat) (x : Thread), s.ths[u]? = some x → ¬ P x.loc) : nAt s P = 0 := by
  unfold nAt
  generalize s.ths = l at h
  induction l with
  | nil => rfl
  | cons y ys ih => rw [List.map_cons, List.sum_cons, if_neg (h 0 y rfl), ih fun u x hu => h (u + 1) x hu]

theorem nAt_unique (h : nAt s P ≤ 1) {t1 t2 : Nat} {x1 x2 : Thread} (h1 : s.ths[t1]? = some x1) (h2 : s.ths[t2]? = some x2)
    (p1 : P x1.loc) (p2 : P x2.loc) : t1 = t2 := by
  refine Decidable.byContradiction fun hne => ?_
  have := List.add_le_sum_map (fun x : Thread => if P x.loc then 1 else 0) h1 h2 hne
  rw [if_pos p1, if_pos p2] at this; unfold nAt at h; omega

end

/-- The claim on the service is a token: taken by the `Start` that gets past the swap and the re-check (`claimed`), held
    by a caller between there and its nil return, and left in the log as that return. -/
def Token (s : State) : Prop := countEv s.log isStartNil + nAt s inClaim = s.claimed.toNat

/-- Until the service is claimed `isRunning` is the lock on the swap: it is set exactly while a caller is at
    `startSwapped`, so at most one is. -/
def Swap (s : State) : Prop := s.claimed = false → nAt s (· = .startSwapped) = s.isRunning.toNat

structure Lock (s : State) : Prop where
  token : Token s
  swap : Swap s

section
variable {s : State} {t : Nat} {th : Thread}

theorem Token.claimed (h : Token s) (hth : s.ths[t]? = some th) (hp : inClaim th.loc) : s.claimed = true := by
  have := nAt_pos hth hp
  cases hc : s.claimed with
  | true => rfl
  | false => unfold Token at h; rw [hc] at h; have : nAt s inClaim = 0 := (Nat.add_eq_zero_iff.mp h).2; omega

theorem Token.n1 (h : Token s) (t : Nat) (th : Thread) (hth : s.ths[t]? = some th) (hp : inClaim th.loc) :
    countEv s.log isStartNil = 0 := by
  have := nAt_pos hth hp; have := Bool.toNat_le s.claimed; unfold Token at h; omega

theorem Token.n2 (h : Token s) (hc : s.claimed = false) : countEv s.log isStartNil = 0 := by
  unfold Token at h; rw [hc] at h; exact (Nat.add_eq_zero_iff.mp h).1

theorem Token.n3 (h : Token s) (hc : s.claimed = true)
    (hall : ∀ (t : Nat) (th : Thread), s.ths[t]? = some th → ¬ inClaim th.loc) : countEv s.log isStartNil = 1 := by
  unfold Token at h; rw [hc, nAt_zero hall] at h; exact h

theorem Token.t2 (h : Token s) (t1 t2 : Nat) (th1 th2 : Thread) (h1 : s.ths[t1]? = some th1) (h2 : s.ths[t2]? = some th2)
    (p1 : inClaim th1.loc) (p2 : inClaim th2.loc) : t1 = t2 :=
  nAt_unique (by have := Bool.toNat_le s.claimed; unfold Token at h; omega) h1 h2 p1 p2

theorem Token.alone (h : Token s) (hth : s.ths[t]? = some th) (hp : inClaim th.loc) (u : Nat) (x : Thread) (hne : u ≠ t)
    (hu : s.ths[u]? = some x) : ¬ inClaim x.loc := fun hx => hne (h.t2 u t x th hu hth hx hp)

theorem Swap.k (h : Swap s) (hc : s.claimed = false) (t1 t2 : Nat) (th1 th2 : Thread) (h1 : s.ths[t1]? = some th1)
    (h2 : s.ths[t2]? = some th2) (p1 : th1.loc = .startSwapped) (p2 : th2.loc = .startSwapped) : t1 = t2 :=
  nAt_unique (P := (· = .startSwapped)) (by rw [h hc]; exact Bool.toNat_le _) h1 h2 p1 p2

theorem Swap.l (h : Swap s) (hc : s.claimed = false) (t : Nat) (th : Thread) (hth : s.ths[t]? = some th)
    (hl : th.loc = .startSwapped) : s.isRunning = true := by
  have := nAt_pos (P := (· = .startSwapped)) hth hl
  rw [h hc] at this
  cases hr : s.isRunning with
  | true => rfl
  | false => rw [hr] at this; cases this

theorem Swap.lp (h : Swap s) (hc : s.claimed = false)
    (hall : ∀ (u : Nat) (x : Thread), s.ths[u]? = some x → x.loc ≠ .startSwapped) : s.isRunning = false := by
  have := h hc; rw [nAt_zero hall] at this
  cases hr : s.isRunning with
  | false => rfl
  | true => rw [hr] at this; cases this

end

structure ThMove (s s' : State) (t : Nat) (th' : Thread) (evs : List Ev) : Prop where
  ths : s'.ths = s.ths.set t th'
  log : s'.log = s.log ++ stamp s.clock evs

section
variable {s s' : State} {t : Nat} {th th' : Thread} {evs : List Ev}

/-- `e1`, `e2`: what the step of thread `t` does to the two sides of `Token` and of `Swap` cancels out -/
theorem Lock.move (h : Lock s) (hth : s.ths[t]? = some th) (m : ThMove s s' t th' evs)
    (e1 : (evs.filter isStartNil).length + (if inClaim th'.loc then 1 else 0) + s.claimed.toNat =
      (if inClaim th.loc then 1 else 0) + s'.claimed.toNat)
    (e2 : s'.claimed = false → s.claimed = false ∧ (if th'.loc = .startSwapped then 1 else 0) + s.isRunning.toNat =
      (if th.loc = .startSwapped then 1 else 0) + s'.isRunning.toNat) : Lock s' := by
  constructor
  · have := nAt_set hth m.ths inClaim
    have h := h.token
    unfold Token at h ⊢; rw [m.log, countEv_append, countEv_stamp]; omega
  · intro hc
    have h1 := nAt_set hth m.ths (· = .startSwapped)
    have h2 := h.swap (e2 hc).1
    have h3 := (e2 hc).2
    omega

end

/-- `isRunning` as a lock on `Start`, read through the ghost `claimed` ("some `Start` got past the swap and the re-check").
    Until then at most one thread is at `startSwapped`, and `isRunning` is set while it is there (`k`, `l`); afterwards a
    thread that gets there finds `isFinished` set and backs out (`j`, `t5`). At most one thread is between the claim and
    its nil return (`t2`), and it alone drives `once` (`t1`, `t6`). `m` makes the later swaps fail: from the claim until
    `isFinished` is stored `isRunning` stays set (the current code stores nothing to it in between). `lc`, `st`: `once`
    leaves `fresh`, and `isStarted` is stored, only under the claim. `t2`, `n0`, `k`, `l` restate `Token.t2`,
    `Token.claimed`, `Swap.k`, `Swap.l` and are never projected. -/
structure InvT (c : Cfg) (s : State) : Prop where
  t1 : ∀ (t : Nat) (th : Thread), s.ths[t]? = some th → th.loc = .startClaimed → s.once = .fresh
  t6 : ∀ (t : Nat) (th : Thread), s.ths[t]? = some th → (th.loc = .startLaunched ∨ th.loc = .startStarted) → s.once = .running
  t2 : ∀ (t1 t2 : Nat) (th1 th2 : Thread), s.ths[t1]? = some th1 → s.ths[t2]? = some th2 → inClaim th1.loc → inClaim th2.loc → t1 = t2
  n0 : s.claimed = false → ∀ (t : Nat) (th : Thread), s.ths[t]? = some th → ¬ inClaim th.loc
  lc : s.once ≠ .fresh → s.claimed = true
  st : s.isStarted = true → s.once ≠ .fresh
  j : ∀ (t : Nat) (th : Thread), s.ths[t]? = some th → th.loc = .startSwapped → s.claimed = true → s.isFinished = true
  k : s.claimed = false → ∀ (t1 t2 : Nat) (th1 th2 : Thread), s.ths[t1]? = some th1 → s.ths[t2]? = some th2 →
        th1.loc = .startSwapped → th2.loc = .startSwapped → t1 = t2
  l : s.claimed = false → ∀ (t : Nat) (th : Thread), s.ths[t]? = some th → th.loc = .startSwapped → s.isRunning = true
  m : s.claimed = true → s.isFinished = false → s.isRunning = true
  t5 : ∀ (t : Nat) (th : Thread), s.ths[t]? = some th → th.loc = .startRechecked → s.isFinished = true

/-- `InvT` seen from thread `t`, without the clauses read off `Lock`: each clause split into what it says of `t`'s own
    location `loc` (tested with `decide`, as in `Launched`) and what it says of the other threads of `ths`, which a step
    of `t` leaves alone. -/
structure InvTv (s : State) (ths : List Thread) (t : Nat) (loc : Loc) : Prop where
  t1 : decide (loc = .startClaimed) = true → s.once = .fresh
  t1o : ∀ (u : Nat) (x : Thread), u ≠ t → ths[u]? = some x → x.loc = .startClaimed → s.once = .fresh
  t6 : decide (loc = .startLaunched ∨ loc = .startStarted) = true → s.once = .running
  t6o : ∀ (u : Nat) (x : Thread), u ≠ t → ths[u]? = some x → (x.loc = .startLaunched ∨ x.loc = .startStarted) → s.once = .running
  lc : s.once ≠ .fresh → s.claimed = true
  st : s.isStarted = true → s.once ≠ .fresh
  j : decide (loc = .startSwapped) = true → s.claimed = true → s.isFinished = true
  jo : ∀ (u : Nat) (x : Thread), u ≠ t → ths[u]? = some x → x.loc = .startSwapped → s.claimed = true → s.isFinished = true
  m : s.claimed = true → s.isFinished = false → s.isRunning = true
  t5 : decide (loc = .startRechecked) = true → s.isFinished = true
  t5o : ∀ (u : Nat) (x : Thread), u ≠ t → ths[u]? = some x → x.loc = .startRechecked → s.isFinished = true

theorem InvT.view {c : Cfg} {s : State} {t : Nat} {th : Thread} (h : InvT c s) (hth : s.ths[t]? = some th) :
    InvTv s s.ths t th.loc where
  t1 g := h.t1 t th hth (of_decide_eq_true g)
  t1o u x _ := h.t1 u x
  t6 g := h.t6 t th hth (of_decide_eq_true g)
  t6o u x _ := h.t6 u x
  lc := h.lc
  st := h.st
  j g := h.j t th hth (of_decide_eq_true g)
  jo u x _ := h.j u x
  m := h.m
  t5 g := h.t5 t th hth (of_decide_eq_true g)
  t5o u x _ := h.t5 u x

theorem InvTv.invT {c : Cfg} {s s' : State} {t : Nat} {th th' : Thread} (hth : s.ths[t]? = some th)
    (e : s'.ths = s.ths.set t th') (v : InvTv s' s.ths t th'.loc) (hk : Lock s') : InvT c s' := by
  refine ⟨?_, ?_, hk.token.t2, (fun hc t th hth hp => by have := hk.token.claimed hth hp; rw [hc] at this; cases this), v.lc, v.st, ?_, hk.swap.k,
    hk.swap.l, v.m, ?_⟩ <;> rw [e, List.forall_getElem?_set hth]
  · exact ⟨fun g => v.t1 (decide_eq_true g), v.t1o⟩
  · exact ⟨fun g => v.t6 (decide_eq_true g), v.t6o⟩
  · exact ⟨fun g => v.j (decide_eq_true g), v.jo⟩
  · exact ⟨fun g => v.t5 (decide_eq_true g), v.t5o⟩

theorem InvTv.move {s : State} {ths : List Thread} {t : Nat} {l : Loc} (v : InvTv s ths t l) {u : Nat} {th : Thread}
    {evs : List Ev} : InvTv ((s.setTh u th).tick evs) ths t l := { v with }

theorem ThStep.invT {c : Cfg} {s s' : State} {t : Nat} {th : Thread} {op : Op} (h : InvT c s) (hL : Lock s)
    (hth : s.ths[t]? = some th) (hs : ThStep c s t th op s') (hk : Lock s') : InvT c s' := by
  have v := h.view hth
  cases hs with
  | startReturned _ hl | startAlready _ hl | close hl | waitFinished hl | waitNotStarted hl | waitDone hl
  | runningFinished hl | runningLoad hl | startCheck _ hl | waitCheck hl | waitStarted hl | runningCheck hl =>
    rw [hl] at v; refine InvTv.invT hth rfl (InvTv.move ?_) hk; exact { v with }
  | startOnceDone p hl hon => exact absurd (h.t1 t th hth hl) (by simp [hon])
  | startSwap p hl hr =>
    rw [hl] at v
    -- `isRunning` was clear: nothing is claimed unless the service has finished
    refine InvTv.invT hth rfl (InvTv.move ?_) hk
    refine { v with j := fun _ hc => ?_, m := fun _ _ => rfl }
    cases hf : s.isFinished with
    | true => rfl
    | false => rw [v.m hc hf] at hr; cases hr
  | startRecheck p hl hf =>
    rw [hl] at v; refine InvTv.invT hth rfl (InvTv.move ?_) hk
    exact { v with j := nofun, t5 := fun _ => hf }
  | startClaim p hl hf =>
    rw [hl] at v
    have hc : s.claimed = false := by
      cases hc : s.claimed with
      | false => rfl
      | true => rw [v.j rfl hc] at hf; cases hf
    have hfr : s.once = .fresh := by
      cases ho : s.once <;> first | rfl | (rw [v.lc (by simp [ho])] at hc; cases hc)
    refine InvTv.invT hth rfl (InvTv.move ?_) hk
    -- this caller held the lock on the swap alone
    exact { v with
      t1 := fun _ => hfr, j := nofun, lc := fun _ => rfl,
      jo := fun u x hne hu hx => absurd (hL.swap.k hc u t x th hu hth hx hl) hne, m := fun _ _ => hL.swap.l hc t th hth hl }
  | startUndo p hl =>
    rw [hl] at v
    have hf := v.t5 rfl
    refine InvTv.invT hth rfl (InvTv.move ?_) hk
    exact { v with t5 := nofun, m := fun _ g => (nomatch hf.symm.trans g) }
  | startLaunch p hl hon =>
    rw [hl] at v
    have hin : inClaim th.loc := .inl hl
    refine InvTv.invT hth rfl (InvTv.move ?_) hk
    exact { v with
      t1 := nofun, t1o := fun u x hne hu hx => absurd (.inl hx) (hL.token.alone hth hin u x hne hu), t6 := fun _ => rfl,
      t6o := fun u x hne hu hx => absurd (.inr hx) (hL.token.alone hth hin u x hne hu),
      lc := fun _ => hL.token.claimed hth hin, st := fun _ => nofun }
  | startStore p hl =>
    rw [hl] at v
    refine InvTv.invT hth rfl (InvTv.move ?_) hk
    exact { v with st := fun _ => by rw [v.t6 rfl]; nofun }
  | startNil p hl =>
    rw [hl] at v
    have hin : inClaim th.loc := .inr (.inr hl)
    refine InvTv.invT hth rfl (InvTv.move ?_) hk
    exact { v with
      t1o := fun u x hne hu hx => absurd (.inl hx) (hL.token.alone hth hin u x hne hu),
      t6o := fun u x hne hu hx => absurd (.inr hx) (hL.token.alone hth hin u x hne hu),
      t1 := nofun, t6 := nofun, lc := fun _ => hL.token.claimed hth hin, st := fun _ => nofun }

theorem RgStep.invT {c : Cfg} {s s' : State} (h : InvT c s)
    (hfin : s.rg = .finished → s.isFinished = true ∧ s.claimed = true) (hs : RgStep c s s') : InvT c s' := by
  cases hs with
  | finish hr => exact { h with j := fun _ _ _ _ _ => rfl, m := fun _ g => (nomatch g), t5 := fun _ _ _ _ => rfl }
  | notRunning hr =>
    -- `isRunning` is cleared after `isFinished` was set, and the service was claimed before it was launched
    obtain ⟨hf, hc⟩ := hfin hr
    exact { h with l := fun g => (nomatch hc.symm.trans g), m := fun _ g => (nomatch hf.symm.trans g) }
  | _ => exact { h with }

theorem SdStep.invT {c : Cfg} {s s' : State} (h : InvT c s) (hs : SdStep c s s') : InvT c s' := by
  cases hs <;> exact { h with }

theorem EhStep.invT {c : Cfg} {s s' : State} (h : InvT c s) (hs : EhStep c s s') : InvT c s' := by
  cases hs <;> exact { h with }

section
variable {c : Cfg} {s s' : State} {t : Nat} {th : Thread}

theorem ThStep.lock {op : Op} (h : Lock s) (hT : InvT c s) (hfc : s.isFinished = true → s.claimed = true)
    (hth : s.ths[t]? = some th) (hs : ThStep c s t th op s') : Lock s' := by
  cases hs with
  | startOnceDone p hl hon => exact absurd (hT.t1 t th hth hl) (by simp [hon])
  | startClaim p hl hf =>
    -- nothing was claimed before: else this thread, still at the swap, would have seen `isFinished`
    have hc : s.claimed = false := by
      cases hc : s.claimed with
      | false => rfl
      | true => rw [hT.j t th hth hl hc] at hf; cases hf
    exact h.move hth ⟨rfl, rfl⟩ (by simp [State.goto, inClaim, hl, hc]) nofun
  | startRecheck p hl hf =>
    exact h.move hth ⟨rfl, rfl⟩ (by simp [State.goto, inClaim, hl]) fun g => nomatch (hfc hf).symm.trans g
  | startUndo p hl =>
    exact h.move hth ⟨rfl, rfl⟩ (by simp [State.finish, inClaim, hl, List.filter]) fun g =>
      nomatch (hfc (hT.t5 t th hth hl)).symm.trans g
  | startNil p hl =>
    exact h.move hth ⟨rfl, rfl⟩ (by simp [State.finish, inClaim, hl, List.filter]) fun g => ⟨g, by simp [State.finish, hl]⟩
  | _ =>
    -- both balances are kept: `startSwap` enters `startSwapped` in the step that sets `isRunning`; `startLaunch` and
    -- `startStore` move inside the claim; the others touch neither the counted locations nor `isRunning`/`claimed`
    exact h.move hth ⟨rfl, rfl⟩ (by simp [State.goto, State.finish, inClaim, *]) fun g =>
      ⟨g, by simp [State.goto, State.finish, *]⟩

end

theorem GStep.lock {s s' : State} {phs : List Phase} (g : GStep s s' phs) (h : Lock s)
    (er : s.claimed = false → s'.isRunning = s.isRunning) : Lock s' := by
  obtain ⟨evs, hl, -, hev⟩ := g.appends (P := fun e => isStartNil e = false) fun _ he => (gEv_not_call_ret he).2.1
  constructor
  · have h := h.token
    unfold Token nAt at h ⊢
    rw [g.ths, g.claimed, hl, countEv_append, count_stamp_zero hev]; exact h
  · intro hc; rw [g.claimed] at hc; unfold nAt; rw [g.ths, er hc]; exact h.swap hc

/-- `rc`: a `Running()` that has read `isFinished = false` logged its call no later than any Wait result in the log (the
    obligation `runningCallOk` of its return, should it read `isRunning = true`). `sc`: while nothing is claimed and no
    `Start` is between its first check and the claim, no `Start` call is in the log — every such call has returned an
    error, which needs `isFinished` or `isRunning` set, hence an earlier claim or a `Start` at the swap; with `Token`
    this gives "exactly one nil return once all callers are idle" (`start_nil_count`). `n1`–`n3`, `lp` restate
    `Token.n1`–`n3`, `Swap.lp` and are never projected. -/
structure ThLog (c : Cfg) (s : State) : Prop where
  ws : ∀ (t : Nat) (th : Thread), s.ths[t]? = some th → th.loc = .waitStarted → s.isStarted = true
  wf : has s.log isWaitRes = true → s.isFinished = true
  rc : ∀ (t : Nat) (th : Thread), s.ths[t]? = some th → th.loc = .runningChecked →
        ∀ x ∈ s.log, ∀ y ∈ s.log, isWaitRes x.2 = true → y.2 = .call t th.pc .running → y.1 ≤ x.1
  n1 : ∀ (t : Nat) (th : Thread), s.ths[t]? = some th → inClaim th.loc → countEv s.log isStartNil = 0
  n2 : s.claimed = false → countEv s.log isStartNil = 0
  n3 : s.claimed = true → (∀ (t : Nat) (th : Thread), s.ths[t]? = some th → ¬ inClaim th.loc) →
        countEv s.log isStartNil = 1
  sc : s.claimed = false →
        (∀ (t : Nat) (th : Thread), s.ths[t]? = some th → th.loc ≠ .startChecked ∧ th.loc ≠ .startSwapped) →
        has s.log isStartCall = false
  lp : s.claimed = false → (∀ (t : Nat) (th : Thread), s.ths[t]? = some th → th.loc ≠ .startSwapped) →
        s.isRunning = false

section
variable {c : Cfg} {s s' : State} {t : Nat} {th th' : Thread} {evs : List Ev}

/-- the three clauses of `ThLog` about `Wait` and `Running` -/
def WaitOk (s : State) : Prop :=
  (∀ (u : Nat) (x : Thread), s.ths[u]? = some x → x.loc = .waitStarted → s.isStarted = true) ∧
  (has s.log isWaitRes = true → s.isFinished = true) ∧
  (∀ (u : Nat) (x : Thread), s.ths[u]? = some x → x.loc = .runningChecked →
    ∀ a ∈ s.log, ∀ b ∈ s.log, isWaitRes a.2 = true → b.2 = .call u x.pc .running → b.1 ≤ a.1)

theorem ThLog.w_move (h : ThLog c s) (hclk : Clk s) (hth : s.ths[t]? = some th) (m : ThMove s s' t th' evs)
    (e : s'.isFinished = s.isFinished) (hcall : ∀ e ∈ evs, ∀ u i op, e = .call u i op → u = t)
    (hst : s.isStarted = true → s'.isStarted = true) (hws : th'.loc = .waitStarted → s'.isStarted = true)
    (hev : evs.any isWaitRes = true → s.isFinished = true) (hrc : th'.loc = .runningChecked → s.isFinished = false) :
    WaitOk s' := by
  refine ⟨?_, ?_, ?_⟩
  · rw [m.ths, List.forall_getElem?_set hth]
    exact ⟨hws, fun u x _ hu hl => hst (h.ws u x hu hl)⟩
  · rw [m.log, e, has_append, has_stamp, Bool.or_eq_true]
    exact fun g => g.elim h.wf hev
  -- a thread that has just read `isFinished = false` sees no Wait result in the log; for the others, a new Wait
  -- result is stamped later than their call, and a new call is not theirs
  rw [m.ths, m.log, List.forall_getElem?_set hth]
  simp only [List.mem_append, mem_stamp]
  refine ⟨fun hl a ha _ _ hw _ => ?_, fun u x hne hu hl a ha b hb hw hb2 => ?_⟩
  · have : s.isFinished = true := by
      rcases ha with ha | ha
      · exact h.wf (has_iff.mpr ⟨a, ha, hw⟩)
      · exact hev (List.any_eq_true.mpr ⟨a.2, ha.2, hw⟩)
    rw [hrc hl] at this; cases this
  · rcases hb with hb | hb
    · rcases ha with ha | ha
      · exact h.rc u x hu hl a ha b hb hw hb2
      · rw [ha.1]; exact Nat.le_of_lt (hclk b hb)
    · exact absurd (hcall _ hb.2 _ _ _ hb2) hne

theorem ThLog.sc_move (h : ThLog c s) (hth : s.ths[t]? = some th) (m : ThMove s s' t th' evs)
    (e : s'.claimed = s.claimed) (hev : evs.any isStartCall = false)
    (hl : th'.loc ≠ .startChecked ∧ th'.loc ≠ .startSwapped → th.loc ≠ .startChecked ∧ th.loc ≠ .startSwapped) :
    s'.claimed = false → (∀ (u : Nat) (x : Thread), s'.ths[u]? = some x → x.loc ≠ .startChecked ∧ x.loc ≠ .startSwapped) →
      has s'.log isStartCall = false := by
  rw [m.log, m.ths, e, has_append, has_stamp, hev, Bool.or_false, List.forall_getElem?_set hth]
  refine fun hc hall => h.sc hc fun u x hu => ?_
  by_cases hut : u = t
  · subst hut; rw [hth] at hu; cases hu; exact hl hall.1
  · exact hall.2 u x hut hu

theorem ThStep.thLog (h : ThLog c s) (hfc : s.isFinished = true → s.claimed = true)
    (hwg : s.isStarted = true → s.wg = 0 → s.isFinished = true)
    (hclk : Clk s) (hth : s.ths[t]? = some th) {op : Op} (hs : ThStep c s t th op s') (hk : Lock s') : ThLog c s' := by
  have hset : ∀ th', (s.ths.set t th')[t]? = some th' := fun th' => by simp [List.lt_of_getElem? hth]
  have hw : WaitOk s' := by
    cases hs with
    | waitStarted hl hst => exact h.w_move hclk hth ⟨rfl, rfl⟩ rfl (by simp) id (fun _ => hst) nofun nofun
    | startStore => exact h.w_move hclk hth ⟨rfl, rfl⟩ rfl (by simp) (fun _ => rfl) nofun nofun nofun
    | waitFinished hl hf => exact h.w_move hclk hth ⟨rfl, rfl⟩ rfl (by simp) id nofun (fun _ => hf) nofun
    | waitDone hl hw =>
      exact h.w_move hclk hth ⟨rfl, rfl⟩ rfl (by simp) id nofun (fun _ => hwg (h.ws t th hth hl) hw) nofun
    | runningCheck hl hf => exact h.w_move hclk hth ⟨rfl, rfl⟩ rfl (by simp) id nofun nofun (fun _ => hf)
    | _ => exact h.w_move hclk hth ⟨rfl, rfl⟩ rfl (by simp) id nofun nofun nofun
  refine ⟨hw.1, hw.2.1, hw.2.2, hk.token.n1, hk.token.n2, hk.token.n3, ?_, hk.swap.lp⟩
  · cases hs with
    | startReturned p hl hf => exact fun g => nomatch (hfc hf).symm.trans g
    | startRecheck p hl hf => exact fun g => nomatch (hfc hf).symm.trans g
    | startClaim => exact nofun
    | startCheck => exact fun _ hall => absurd rfl (hall t _ (hset _)).1
    | startAlready p hl hr =>
      -- `isRunning` is set while nothing is claimed: some thread holds the swap
      exact fun g hall => absurd (hk.swap.lp g fun u x hu => (hall u x hu).2) (by simp [State.finish, hr])
    | _ => exact h.sc_move hth ⟨rfl, rfl⟩ rfl rfl (by simp [*])

end

theorem ThLog.frameG {c : Cfg} {s s' : State} (h : ThLog c s) (hk : Lock s') (e0 : s'.ths = s.ths)
    (e2 : s'.claimed = s.claimed) (e3 : s.isFinished = true → s'.isFinished = true) (e5 : s'.isStarted = s.isStarted)
    (hl : Appends s s' (fun e => isWaitRes e = false ∧ isStartCall e = false ∧ (∀ t i op, e ≠ .call t i op))) :
    ThLog c s' := by
  obtain ⟨evs, hl, -, hev⟩ := hl
  have z1 := has_stamp_false (k := s.clock) (fun e he => (hev e he).1)
  have z3 := has_stamp_false (k := s.clock) (fun e he => (hev e he).2.1)
  refine ⟨?_, ?_, ?_, hk.token.n1, hk.token.n2, hk.token.n3, ?_, hk.swap.lp⟩ <;>
    simp only [e0, hl, e2, e5, has_append, z1, z3, Bool.or_false]
  · exact h.ws
  · intro hw; exact e3 (h.wf hw)
  · intro u x hu hloc a ha b hb hwa hcb
    have ha' : a ∈ s.log := by
      rcases List.mem_append.mp ha with h | h
      · exact h
      · rw [mem_stamp] at h; have := (hev _ h.2).1; simp [hwa] at this
    have hb' : b ∈ s.log := by
      rcases List.mem_append.mp hb with h | h
      · exact h
      · rw [mem_stamp] at h; exact absurd hcb ((hev _ h.2).2.2 _ _ _)
    exact h.rc u x hu hloc a ha' b hb' hwa hcb
  · exact h.sc

end FunModel.Service
