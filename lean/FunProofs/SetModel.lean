import FunModel.SetModel
import FunProofs.SortSeq
import FunProofs.Assoc
import FunProofs.ListAux

/-! The model of `dt.Set` (C18): its invariant `Inv`, the reference model `members` (the elements as a list) and what
    each operation does to both; `GoodOrder`, the hypothesis on the order in which the Go map is ranged over;
    `Reachable`, the states a client can produce. -/

namespace FunModel.SetModel
open FunModel.SortSeq

theorem nodup_of_nodup_map {α β : Type} (f : α → β) {l : List α} (h : (l.map f).Nodup) :
    l.Nodup :=
  List.Pairwise.of_map f (fun _ _ hne e => hne (congrArg f e)) h

theorem subset_of_nodup_of_length_le {l1 l2 : List Int} (hn : l1.Nodup)
    (hs : ∀ a, a ∈ l1 → a ∈ l2) (hl : l2.length ≤ l1.length) : ∀ a, a ∈ l2 → a ∈ l1 := by
  intro a ha
  apply Classical.byContradiction
  intro hna
  -- otherwise the duplicate-free `l1` fits into `l2.erase a`, which is shorter
  have := hn.length_le_of_subset (l₂ := l2.erase a) fun x hx =>
    have hne : x ≠ a := fun e => hna (e ▸ hx)
    (List.mem_erase_of_ne hne).mpr (hs x hx)
  rw [List.length_erase_of_mem ha] at this
  have := List.length_pos_of_mem ha
  omega

namespace SetSt

def keys (s : SetSt) : List Int := s.hash.map (·.1)

/-- the reference model: the members in iteration order for an ordered set, in insertion order for an unordered
    one (whose iteration yields a permutation of it, `iter_perm_members`) -/
def members (s : SetSt) : List Int :=
  match s.list with
  | some l => l.map (·.2)
  | none => s.hash.map (·.1)

/-- `mo` is a possible order for `range s.hash` -/
def GoodOrder (s : SetSt) (mo : List Int) : Prop := mo.Nodup ∧ ∀ k, k ∈ s.hash.map (·.1) → k ∈ mo

end SetSt

/-- `keys_nodup` is what a Go map gives for free; it is a clause because the model's `hash` is an association
    list. `l` = the (element address, item) pairs of the list of an ordered set. -/
structure Inv (s : SetSt) : Prop where
  keys_nodup : (s.hash.map (·.1)).Nodup
  items_nodup : ∀ l, s.list = some l → (l.map (·.2)).Nodup
  addrs_nodup : ∀ l, s.list = some l → (l.map (·.1)).Nodup
  /-- the element `NewElement` hands out next is not in the list, so `Back().Append` accepts it (`GenTieSet.Fresh`) -/
  addrs_lt : ∀ l, s.list = some l → ∀ p, p ∈ l → p.1 < s.nextId
  items_keys : ∀ l, s.list = some l → ∀ k, k ∈ l.map (·.2) ↔ k ∈ s.hash.map (·.1)
  /-- so `DeleteCheck` unlinks the element that holds `k` -/
  entry_ordered : ∀ l, s.list = some l → ∀ k e, (k, e) ∈ s.hash → ∃ a, e = some a ∧ (a, k) ∈ l
  /-- an unordered set stores nil pointers (`SetDefault`) -/
  entry_unordered : s.list = none → ∀ p, p ∈ s.hash → p.2 = none

def Total (lt : Int → Int → Bool) : Prop := ∀ a b, a ≠ b → lt a b = true ∨ lt b a = true

theorem Inv.of_unordered {s : SetSt} (hl : s.list = none) (hk : (s.hash.map (·.1)).Nodup)
    (he : ∀ p, p ∈ s.hash → p.2 = none) : Inv s := by
  have no : ∀ l, s.list ≠ some l := fun l h => by rw [hl] at h; cases h
  exact {
    keys_nodup := hk
    items_nodup := fun l h => absurd h (no l)
    addrs_nodup := fun l h => absurd h (no l)
    addrs_lt := fun l h => absurd h (no l)
    items_keys := fun l h => absurd h (no l)
    entry_ordered := fun l h => absurd h (no l)
    entry_unordered := fun _ => he }

theorem Inv.of_ordered {s : SetSt} {l : List (Nat × Int)} (hl : s.list = some l)
    (hk : (s.hash.map (·.1)).Nodup) (hitems : (l.map (·.2)).Nodup) (haddrs : (l.map (·.1)).Nodup)
    (hlt : ∀ p, p ∈ l → p.1 < s.nextId) (hik : ∀ k, k ∈ l.map (·.2) ↔ k ∈ s.hash.map (·.1))
    (he : ∀ k e, (k, e) ∈ s.hash → ∃ a, e = some a ∧ (a, k) ∈ l) : Inv s := by
  have only : ∀ l', s.list = some l' → l' = l := fun l' h => Option.some.inj (h.symm.trans hl)
  exact {
    keys_nodup := hk
    items_nodup := fun l' h => only l' h ▸ hitems
    addrs_nodup := fun l' h => only l' h ▸ haddrs
    addrs_lt := fun l' h => only l' h ▸ hlt
    items_keys := fun l' h => only l' h ▸ hik
    entry_ordered := fun l' h => only l' h ▸ he
    entry_unordered := fun h => by rw [hl] at h; cases h }

def entryOf (p : Nat × Int) : Int × Option Nat := (p.2, some p.1)

/-- the map of an ordered set is its list, an entry for each element, in some order: `keys_nodup`, `items_keys` and
    `entry_ordered` in one (given `items_nodup`; `Inv.of_perm` is the converse) -/
theorem Inv.perm {s : SetSt} (hi : Inv s) {l : List (Nat × Int)} (hl : s.list = some l) :
    s.hash.Perm (l.map entryOf) := by
  have hn : ((l.map entryOf).map (·.1)).Nodup := by rw [List.map_map]; exact hi.items_nodup l hl
  refine (List.perm_ext_iff_of_nodup (nodup_of_nodup_map _ hi.keys_nodup) (nodup_of_nodup_map _ hn)).mpr ?_
  intro (k, e)
  constructor
  · intro he
    obtain ⟨a, rfl, ha⟩ := hi.entry_ordered l hl k e he
    exact List.mem_map.mpr ⟨(a, k), ha, rfl⟩
  · intro he
    obtain ⟨⟨a, k'⟩, ha, e⟩ := List.mem_map.mp he
    cases e
    obtain ⟨⟨_, e'⟩, he', rfl⟩ := List.mem_map.mp ((hi.items_keys l hl k').mp (List.mem_map.mpr ⟨(a, k'), ha, rfl⟩))
    obtain ⟨a', rfl, ha'⟩ := hi.entry_ordered l hl _ e' he'
    cases List.eq_of_map_eq_of_nodup (·.2) (hi.items_nodup l hl) ha' ha rfl
    exact he'

theorem Inv.of_perm {s : SetSt} {l : List (Nat × Int)} (hl : s.list = some l)
    (hp : s.hash.Perm (l.map entryOf)) (hitems : (l.map (·.2)).Nodup) (haddrs : (l.map (·.1)).Nodup)
    (hlt : ∀ p, p ∈ l → p.1 < s.nextId) : Inv s := by
  have hpk : (s.hash.map (·.1)).Perm (l.map (·.2)) := by
    have := hp.map (·.1); rwa [List.map_map] at this
  refine Inv.of_ordered hl (hpk.nodup_iff.mpr hitems) hitems haddrs hlt (fun k => hpk.mem_iff.symm) ?_
  intro k e he
  obtain ⟨p, hp', e'⟩ := List.mem_map.mp (hp.mem_iff.mp he)
  cases e'
  exact ⟨p.1, rfl, hp'⟩

namespace SetSt

theorem mem_keys_iff {h : List (Int × Option Nat)} {k : Int} :
    k ∈ h.map (·.1) ↔ ∃ e, (k, e) ∈ h := by
  simp

theorem check_iff_keys (s : SetSt) (k : Int) : s.check k = true ↔ k ∈ s.hash.map (·.1) := by
  simp [check, lookup]

theorem check_false_iff_keys (s : SetSt) (k : Int) : s.check k = false ↔ k ∉ s.hash.map (·.1) := by
  rw [← check_iff_keys]; simp

theorem check_congr_keys {s t : SetSt} (h : t.hash.map (·.1) = s.hash.map (·.1)) (k : Int) :
    t.check k = s.check k := by
  rw [Bool.eq_iff_iff, check_iff_keys, check_iff_keys, h]

theorem len_congr_keys {s t : SetSt} (h : t.hash.map (·.1) = s.hash.map (·.1)) : t.len = s.len := by
  have := congrArg List.length h
  simpa [len] using this

theorem lookup_eq_some_iff {s : SetSt} (hn : (s.hash.map (·.1)).Nodup) (k : Int) (e : Option Nat) :
    s.lookup k = some e ↔ (k, e) ∈ s.hash := by
  unfold lookup
  constructor
  · intro h
    obtain ⟨p, hf, rfl⟩ := Option.map_eq_some_iff.mp h
    obtain ⟨hm, rfl⟩ := List.mem_of_find?_key hf
    exact hm
  · intro h
    rw [List.find?_of_mem_of_nodup hn h]; rfl

theorem lookup_eq_none_iff (s : SetSt) (k : Int) : s.lookup k = none ↔ k ∉ s.hash.map (·.1) := by
  rw [← check_iff_keys]
  unfold check
  cases s.lookup k <;> simp

theorem members_perm_keys {s : SetSt} (hi : Inv s) : (members s).Perm (s.hash.map (·.1)) := by
  unfold members
  cases hl : s.list with
  | none => exact List.Perm.refl _
  | some l =>
    exact (List.perm_ext_iff_of_nodup (hi.items_nodup l hl) hi.keys_nodup).mpr (hi.items_keys l hl)

theorem members_nodup {s : SetSt} (hi : Inv s) : (members s).Nodup :=
  (members_perm_keys hi).nodup_iff.mpr hi.keys_nodup

theorem mem_members_iff_keys {s : SetSt} (hi : Inv s) (k : Int) :
    k ∈ members s ↔ k ∈ s.hash.map (·.1) := (members_perm_keys hi).mem_iff

theorem check_iff_members {s : SetSt} (hi : Inv s) (k : Int) :
    s.check k = true ↔ k ∈ members s := by
  rw [check_iff_keys, mem_members_iff_keys hi]

theorem check_eq_false_iff_members {s : SetSt} (hi : Inv s) (k : Int) :
    s.check k = false ↔ k ∉ members s := by
  rw [← check_iff_members hi, Bool.not_eq_true]

theorem len_eq_members {s : SetSt} (hi : Inv s) : s.len = (members s).length := by
  unfold len
  rw [(members_perm_keys hi).length_eq, List.length_map]

theorem inv_empty : Inv ({} : SetSt) :=
  Inv.of_unordered rfl List.nodup_nil (fun _ hp => nomatch hp)

theorem inv_ordered_nil {s : SetSt} (hl : s.list = some []) (he : s.hash = []) : Inv s :=
  Inv.of_ordered hl (he ▸ List.nodup_nil) List.nodup_nil List.nodup_nil (fun _ hp => nomatch hp)
    (fun _ => he ▸ Iff.rfl) (fun _ _ h => nomatch he ▸ h)

/-- `Order()` panics on a set with elements, hence `he` -/
theorem inv_order {s : SetSt} (hi : Inv s) (he : s.hash = []) : Inv s.order := by
  unfold order
  by_cases h : s.list.isSome
  · rw [if_pos h]; exact hi
  · rw [if_neg h]; exact inv_ordered_nil rfl he

theorem addCheck_present {s : SetSt} {k : Int} (h : s.check k = true) : s.addCheck k = (s, true) := by
  unfold addCheck; rw [if_pos h]

theorem addCheck_absent_unordered {s : SetSt} {k : Int} (h : s.check k = false) (hl : s.list = none) :
    s.addCheck k = ({ s with hash := s.hash ++ [(k, none)] }, false) := by
  unfold addCheck; rw [if_neg (by simp [h])]; rw [hl]

theorem addCheck_absent_ordered {s : SetSt} {k : Int} (h : s.check k = false) {l : List (Nat × Int)}
    (hl : s.list = some l) :
    s.addCheck k = ({ s with hash := s.hash ++ [(k, some s.nextId)], list := some (l ++ [(s.nextId, k)]),
                             nextId := s.nextId + 1 }, false) := by
  unfold addCheck; rw [if_neg (by simp [h])]; rw [hl]

theorem addCheck_list_isSome (s : SetSt) (k : Int) : (s.addCheck k).1.list.isSome = s.list.isSome := by
  cases hc : s.check k with
  | true => rw [addCheck_present hc]
  | false =>
    cases hl : s.list with
    | none => rw [addCheck_absent_unordered hc hl]; simp [hl]
    | some l => rw [addCheck_absent_ordered hc hl]; simp

theorem addrs_lt_concat {l : List (Nat × Int)} {n : Nat} (h : ∀ p, p ∈ l → p.1 < n) (k : Int) :
    ∀ p, p ∈ l ++ [(n, k)] → p.1 < n + 1 := by
  intro p hp
  rcases List.mem_append.mp hp with hp | hp
  · exact Nat.lt_succ_of_lt (h p hp)
  · rw [List.mem_singleton.mp hp]; exact Nat.lt_succ_self _

/-- `AddCheck` on the reference model -/
def refAdd (m : List Int) (k : Int) : List Int := if k ∈ m then m else m ++ [k]

theorem addCheck_sim {s : SetSt} (hi : Inv s) (k : Int) :
    Inv (s.addCheck k).1 ∧ (s.addCheck k).2 = s.check k ∧
      members (s.addCheck k).1 = refAdd (members s) k ∧
      (s.addCheck k).1.list.isSome = s.list.isSome := by
  suffices h : Inv (s.addCheck k).1 ∧ (s.addCheck k).2 = s.check k ∧
      members (s.addCheck k).1 = refAdd (members s) k from ⟨h.1, h.2.1, h.2.2, addCheck_list_isSome s k⟩
  unfold refAdd
  cases hc : s.check k with
  | true =>
    rw [addCheck_present hc, if_pos ((check_iff_members hi k).mp hc)]
    exact ⟨hi, rfl, rfl⟩
  | false =>
    rw [if_neg ((check_eq_false_iff_members hi k).mp hc)]
    have hk : k ∉ s.hash.map (·.1) := (check_false_iff_keys s k).mp hc
    cases hl : s.list with
    | none =>
      rw [addCheck_absent_unordered hc hl]
      refine ⟨Inv.of_unordered hl ?_ fun p hp => ?_, rfl, by simp [members, hl]⟩
      · rw [List.map_append]; exact List.nodup_concat hi.keys_nodup hk
      rcases List.mem_append.mp hp with hp | hp
      · exact hi.entry_unordered hl p hp
      · rw [List.mem_singleton.mp hp]
    | some l =>
      rw [addCheck_absent_ordered hc hl]
      have hkl : k ∉ l.map (·.2) := fun h => hk ((hi.items_keys l hl k).mp h)
      have hfresh : s.nextId ∉ l.map (·.1) := fun h => by
        obtain ⟨p, hp, e⟩ := List.mem_map.mp h
        exact Nat.lt_irrefl _ (e ▸ hi.addrs_lt l hl p hp)
      refine ⟨Inv.of_perm (l := l ++ [(s.nextId, k)]) rfl ?_ ?_ ?_
        (addrs_lt_concat (hi.addrs_lt l hl) k), rfl, by simp [members, hl]⟩
      · rw [List.map_append]; exact (hi.perm hl).append_right _
      · rw [List.map_append]; exact List.nodup_concat (hi.items_nodup l hl) hkl
      · rw [List.map_append]; exact List.nodup_concat (hi.addrs_nodup l hl) hfresh

/-- `DeleteCheck` unlinks the element the map entry points at (a filter by address), the reference model erases
    the value (a filter by item) -/
theorem filter_addr_eq_filter_item {l : List (Nat × Int)} (hn2 : (l.map (·.2)).Nodup)
    (hn1 : (l.map (·.1)).Nodup) {a : Nat} {k : Int} (h : (a, k) ∈ l) :
    l.filter (fun p => p.1 != a) = l.filter (fun p => p.2 != k) := by
  apply List.filter_congr
  intro p hp
  by_cases e1 : p.1 = a
  · have : p = (a, k) := List.eq_of_map_eq_of_nodup (·.1) hn1 hp h e1
    simp [this]
  · have e2 : p.2 ≠ k := fun e2 => e1 (by
      have : p = (a, k) := List.eq_of_map_eq_of_nodup (·.2) hn2 hp h e2
      rw [this])
    rw [bne_iff_ne.mpr e1, bne_iff_ne.mpr e2]

theorem deleteCheck_absent {s : SetSt} {k : Int} (h : s.check k = false) :
    s.deleteCheck k = (s, false) := by
  have : s.lookup k = none := (lookup_eq_none_iff s k).mpr ((check_false_iff_keys s k).mp h)
  unfold deleteCheck; rw [this]

theorem deleteCheck_present_unordered {s : SetSt} (hi : Inv s) {k : Int} (h : s.check k = true)
    (hl : s.list = none) :
    s.deleteCheck k = ({ s with hash := s.hash.filter (fun p => p.1 != k) }, true) := by
  obtain ⟨e, he⟩ := mem_keys_iff.mp ((check_iff_keys s k).mp h)
  have hlk := (lookup_eq_some_iff hi.keys_nodup k e).mpr he
  unfold deleteCheck; rw [hlk, hl]
  cases e <;> rfl

theorem deleteCheck_present_ordered {s : SetSt} (hi : Inv s) {k : Int} (h : s.check k = true)
    {l : List (Nat × Int)} (hl : s.list = some l) :
    s.deleteCheck k = ({ s with hash := s.hash.filter (fun p => p.1 != k),
                                list := some (l.filter (fun p => p.2 != k)) }, true) := by
  obtain ⟨e, he⟩ := mem_keys_iff.mp ((check_iff_keys s k).mp h)
  have hlk := (lookup_eq_some_iff hi.keys_nodup k e).mpr he
  obtain ⟨a, rfl, ha⟩ := hi.entry_ordered l hl k e he
  unfold deleteCheck; rw [hlk, hl]
  show ({ s with hash := _, list := some (l.filter (fun p => p.1 != a)) }, true) = _
  rw [filter_addr_eq_filter_item (hi.items_nodup l hl) (hi.addrs_nodup l hl) ha]

theorem map_filter_ne {α β : Type} [BEq β] (f : α → β) (l : List α) (k : β) :
    (l.filter (fun p => f p != k)).map f = (l.map f).filter (· != k) :=
  (List.filter_map (p := (· != k))).symm

theorem deleteCheck_sim {s : SetSt} (hi : Inv s) (k : Int) :
    Inv (s.deleteCheck k).1 ∧ (s.deleteCheck k).2 = s.check k ∧
      members (s.deleteCheck k).1 = (members s).erase k ∧
      (s.deleteCheck k).1.list.isSome = s.list.isSome := by
  cases hc : s.check k with
  | false =>
    rw [deleteCheck_absent hc, List.erase_of_not_mem ((check_eq_false_iff_members hi k).mp hc)]
    exact ⟨hi, rfl, rfl, rfl⟩
  | true =>
    rw [(members_nodup hi).erase_eq_filter]
    cases hl : s.list with
    | none =>
      rw [deleteCheck_present_unordered hi hc hl]
      refine ⟨Inv.of_unordered hl (List.Nodup.sublist (List.filter_sublist.map _) hi.keys_nodup)
        fun p hp => hi.entry_unordered hl p (List.mem_filter.mp hp).1, rfl, ?_, by rw [hl]⟩
      simp only [members, hl]
      exact map_filter_ne Prod.fst _ _
    | some l =>
      rw [deleteCheck_present_ordered hi hc hl]
      refine ⟨?_, rfl, ?_, rfl⟩
      · refine Inv.of_perm (l := l.filter (fun p => p.2 != k)) rfl ?_
          (List.Nodup.sublist (List.filter_sublist.map _) (hi.items_nodup l hl))
          (List.Nodup.sublist (List.filter_sublist.map _) (hi.addrs_nodup l hl))
          (fun p hp => hi.addrs_lt l hl p (List.mem_filter.mp hp).1)
        have := (hi.perm hl).filter (fun p => p.1 != k)
        rw [List.filter_map] at this
        exact this
      · simp only [members, hl]
        exact map_filter_ne Prod.snd _ _

theorem addAll_nil (s : SetSt) : s.addAll [] = s := rfl
theorem addAll_cons (s : SetSt) (k : Int) (ks : List Int) :
    s.addAll (k :: ks) = (s.addCheck k).1.addAll ks := rfl

theorem addAll_sim {s : SetSt} (hi : Inv s) (ks : List Int) :
    Inv (s.addAll ks) ∧ members (s.addAll ks) = ks.foldl refAdd (members s) ∧
      (s.addAll ks).list.isSome = s.list.isSome := by
  induction ks generalizing s with
  | nil => exact ⟨hi, rfl, rfl⟩
  | cons k ks ih =>
    obtain ⟨h1, _, h3, h4⟩ := addCheck_sim hi k
    rw [addAll_cons, List.foldl_cons, ← h3, ← h4]
    exact ih h1

theorem refAdd_nodup {m : List Int} (h : m.Nodup) (k : Int) : (refAdd m k).Nodup := by
  unfold refAdd
  by_cases hk : k ∈ m
  · rw [if_pos hk]; exact h
  · rw [if_neg hk]; exact List.nodup_concat h hk

theorem foldl_refAdd_nodup {m : List Int} (h : m.Nodup) (ks : List Int) :
    (ks.foldl refAdd m).Nodup := by
  induction ks generalizing m with
  | nil => exact h
  | cons k ks ih => exact ih (refAdd_nodup h k)

theorem foldl_refAdd_of_nodup {m ks : List Int} (h : (m ++ ks).Nodup) :
    ks.foldl refAdd m = m ++ ks := by
  induction ks generalizing m with
  | nil => simp
  | cons k ks ih =>
    have hk : k ∉ m := by
      intro hk
      have := (List.nodup_append.mp h).2.2 k hk k List.mem_cons_self
      exact this rfl
    have e : m ++ k :: ks = (m ++ [k]) ++ ks := by simp
    rw [List.foldl_cons, refAdd, if_neg hk, ih (e ▸ h), e]

theorem addAll_members_of_nil {s : SetSt} (hi : Inv s) (he : members s = []) {ks : List Int}
    (hn : ks.Nodup) : members (s.addAll ks) = ks := by
  rw [(addAll_sim hi ks).2.1, he, foldl_refAdd_of_nodup (by rw [List.nil_append]; exact hn), List.nil_append]

theorem foldl_refAdd_eq (m ks : List Int) :
    ks.foldl refAdd m = m ++ ks.eraseDups.filter (fun x => decide (x ∉ m)) := by
  induction ks generalizing m with
  | nil => simp
  | cons k ks ih =>
    rw [List.foldl_cons, ih, List.eraseDups_cons, List.eraseDups_filter, refAdd]
    by_cases hk : k ∈ m
    · rw [if_pos hk, List.filter_cons_of_neg (by simpa using hk), List.filter_filter]
      congr 1
      apply List.filter_congr
      intro x _
      by_cases hx : x ∈ m
      · simp [hx]
      · have : x ≠ k := fun e => hx (e ▸ hk)
        simp [hx, this]
    · rw [if_neg hk, List.filter_cons_of_pos (by simpa using hk), List.filter_filter,
        List.append_assoc, List.singleton_append]
      congr 2
      apply List.filter_congr
      intro x _
      by_cases hx : x = k
      · subst hx; simp
      · simp [hx]

theorem mem_foldl_refAdd {m : List Int} {ks : List Int} {x : Int} :
    x ∈ ks.foldl refAdd m ↔ x ∈ m ∨ x ∈ ks := by
  rw [foldl_refAdd_eq, List.mem_append, List.mem_filter, List.mem_eraseDups, decide_eq_true_iff]
  exact ⟨fun h => h.imp_right And.left, fun h => (Classical.em (x ∈ m)).imp_right fun hx => ⟨h.resolve_left hx, hx⟩⟩

theorem foldl_refAdd_prefix (m ks : List Int) : m <+: ks.foldl refAdd m :=
  foldl_refAdd_eq m ks ▸ List.prefix_append _ _

theorem insertAsc_perm (k : Int) (l : List Int) : (insertAsc k l).Perm (k :: l) := by
  fun_induction insertAsc k l with
  | case1 => exact .refl _
  | case2 x xs h => exact .refl _
  | case3 x xs h ih => exact (ih.cons x).trans (.swap k x xs)

theorem ascKeys_perm (s : SetSt) : s.ascKeys.Perm (s.hash.map (·.1)) := by
  unfold ascKeys
  induction s.hash.map (·.1) with
  | nil => exact List.Perm.refl _
  | cons x xs ih => exact (insertAsc_perm x _).trans (ih.cons x)

theorem iter_ordered {s : SetSt} (h : s.list.isSome) (mo : List Int) : s.iter mo = members s := by
  obtain ⟨l, hl⟩ := Option.isSome_iff_exists.mp h
  unfold iter members; rw [hl]

theorem iter_unordered_eq {s : SetSt} (hl : s.list = none) (mo : List Int) :
    s.iter mo = mo.filter (fun k => s.check k) := by
  unfold iter; rw [hl]

theorem mem_filter_check {s : SetSt} {mo : List Int} (hg : GoodOrder s mo) (k : Int) :
    k ∈ mo.filter (fun k => s.check k) ↔ k ∈ s.hash.map (·.1) := by
  rw [List.mem_filter, check_iff_keys]
  exact ⟨fun h => h.2, fun h => ⟨hg.2 k h, h⟩⟩

theorem iter_perm_members {s : SetSt} (hi : Inv s) {mo : List Int} (hg : GoodOrder s mo) :
    (s.iter mo).Perm (members s) := by
  cases hl : s.list with
  | some l => rw [iter_ordered (hl ▸ rfl)]
  | none =>
    rw [iter_unordered_eq hl]
    exact ((List.perm_ext_iff_of_nodup (hg.1.filter _) hi.keys_nodup).mpr
      (mem_filter_check hg)).trans (members_perm_keys hi).symm

/-- the elements `forceSetupOrdered` allocates -/
def mkElems (n : Nat) (ks : List Int) (i : Nat) : List (Nat × Int) :=
  (ks.zipIdx i).map (fun (k, j) => (n + j, k))

theorem mkElems_nil (n i : Nat) : mkElems n [] i = [] := rfl
theorem mkElems_cons (n : Nat) (k : Int) (ks : List Int) (i : Nat) :
    mkElems n (k :: ks) i = (n + i, k) :: mkElems n ks (i + 1) := rfl

theorem mkElems_map_snd (n : Nat) (ks : List Int) (i : Nat) : (mkElems n ks i).map (·.2) = ks := by
  induction ks generalizing i with
  | nil => rfl
  | cons k ks ih => rw [mkElems_cons, List.map_cons, ih]

theorem mkElems_map_fst (n : Nat) (ks : List Int) (i : Nat) :
    (mkElems n ks i).map (·.1) = List.range' (n + i) ks.length := by
  induction ks generalizing i with
  | nil => rfl
  | cons k ks ih => rw [mkElems_cons, List.map_cons, ih, List.length_cons, List.range'_succ, Nat.add_assoc]

/-- how `forceSetupOrdered` re-points a map entry -/
def repoint (elems : List (Nat × Int)) (p : Int × Option Nat) : Int × Option Nat :=
  match elems.find? (fun e => e.2 == p.1) with
  | some e => (p.1, some e.1)
  | none => p

theorem forceSetupOrdered_eq (s : SetSt) (mo : List Int) :
    s.forceSetupOrdered mo =
      { hash := s.hash.map (repoint (mkElems s.nextId (mo.filter (fun k => s.check k)) 0)),
        list := some (mkElems s.nextId (mo.filter (fun k => s.check k)) 0),
        nextId := s.nextId + (mo.filter (fun k => s.check k)).length } := rfl

theorem repoint_fst (elems : List (Nat × Int)) (p : Int × Option Nat) : (repoint elems p).1 = p.1 := by
  unfold repoint
  cases elems.find? (fun e => e.2 == p.1) <;> rfl

theorem repoint_of_mem {elems : List (Nat × Int)} {p : Int × Option Nat}
    (h : p.1 ∈ elems.map (·.2)) : ∃ a, repoint elems p = (p.1, some a) ∧ (a, p.1) ∈ elems := by
  obtain ⟨e, hf, hm, hk⟩ := List.exists_find?_of_mem_map h
  unfold repoint
  rw [hf]
  exact ⟨e.1, rfl, hk ▸ hm⟩

theorem forceSetupOrdered_keys (s : SetSt) (mo : List Int) :
    (s.forceSetupOrdered mo).hash.map (·.1) = s.hash.map (·.1) := by
  rw [forceSetupOrdered_eq, List.map_map]
  apply List.map_congr_left
  intro p _
  exact repoint_fst _ _

theorem forceSetupOrdered_members (s : SetSt) (mo : List Int) :
    members (s.forceSetupOrdered mo) = mo.filter (fun k => s.check k) := by
  rw [forceSetupOrdered_eq]
  exact mkElems_map_snd _ _ _

theorem forceSetupOrdered_check (s : SetSt) (mo : List Int) (k : Int) :
    (s.forceSetupOrdered mo).check k = s.check k :=
  check_congr_keys (forceSetupOrdered_keys s mo) k

theorem forceSetupOrdered_len (s : SetSt) (mo : List Int) : (s.forceSetupOrdered mo).len = s.len :=
  len_congr_keys (forceSetupOrdered_keys s mo)

theorem forceSetupOrdered_inv {s : SetSt} (hn : (s.hash.map (·.1)).Nodup) {mo : List Int}
    (hg : GoodOrder s mo) : Inv (s.forceSetupOrdered mo) := by
  have hkeys := forceSetupOrdered_keys s mo
  rw [forceSetupOrdered_eq] at hkeys ⊢
  refine Inv.of_ordered rfl (hkeys ▸ hn) ?_ (mkElems_map_fst _ _ _ ▸ List.nodup_range') ?_ ?_ ?_
  · rw [mkElems_map_snd]; exact hg.1.filter _
  · intro p hp
    have := List.mem_range'_1.mp (mkElems_map_fst _ _ _ ▸ List.mem_map_of_mem (f := Prod.fst) hp)
    show p.1 < s.nextId + _
    omega
  · intro k
    rw [hkeys, mkElems_map_snd]; exact mem_filter_check hg k
  · intro k e he
    obtain ⟨p, hp, hpe⟩ := List.mem_map.mp he
    have hpk : p.1 ∈ (mkElems s.nextId (mo.filter (fun k => s.check k)) 0).map (·.2) := by
      rw [mkElems_map_snd]
      exact (mem_filter_check hg p.1).mpr (List.mem_map.mpr ⟨p, hp, rfl⟩)
    obtain ⟨a, ha, hm⟩ := repoint_of_mem hpk
    rw [ha] at hpe
    cases hpe
    exact ⟨a, rfl, hm⟩

theorem filterMap_find_self {l : List (Nat × Int)} (hn : (l.map (·.2)).Nodup) :
    (l.map (·.2)).filterMap (fun it => l.find? (fun p => p.2 == it)) = l := by
  rw [List.filterMap_map]
  have : l.filterMap ((fun it => l.find? (fun p => p.2 == it)) ∘ (·.2)) = l.filterMap some := by
    apply List.filterMap_congr
    intro p hp
    exact List.find?_of_mem_of_nodup hn hp
  rw [this, List.filterMap_some]

/-- `sortWith` rebuilds the list by looking up the element of each sorted item -/
theorem reorder_perm {l : List (Nat × Int)} (hn : (l.map (·.2)).Nodup) {its : List Int}
    (hp : its.Perm (l.map (·.2))) :
    (its.filterMap (fun it => l.find? (fun p => p.2 == it))).Perm l := by
  have := hp.filterMap (fun it => l.find? (fun p => p.2 == it))
  rwa [filterMap_find_self hn] at this

theorem reorder_map_snd {l : List (Nat × Int)} {its : List Int} (h : ∀ it, it ∈ its → it ∈ l.map (·.2)) :
    (its.filterMap (fun it => l.find? (fun p => p.2 == it))).map (·.2) = its := by
  induction its with
  | nil => rfl
  | cons it its ih =>
    obtain ⟨q, hf, _, hk⟩ := List.exists_find?_of_mem_map (h it List.mem_cons_self)
    rw [List.filterMap_cons_some (f := fun it => l.find? (fun p => p.2 == it)) hf, List.map_cons,
      ih (fun x hx => h x (List.mem_cons_of_mem _ hx)), hk]

theorem sortWith_ordered (sorter : (Int → Int → Bool) → List Int → List Int) (lt : Int → Int → Bool)
    {s : SetSt} {l : List (Nat × Int)} (hl : s.list = some l) (mo : List Int) :
    sortWith sorter lt s mo =
      { s with list := some ((sorter lt (l.map (·.2))).filterMap (fun it => l.find? (fun p => p.2 == it))) } := by
  unfold sortWith
  simp only [hl, Option.isNone_some, Bool.false_eq_true, if_false]

/-- `mo'` is arbitrary: a sort of an ordered set does not range over the map -/
theorem sortWith_unordered (sorter : (Int → Int → Bool) → List Int → List Int) (lt : Int → Int → Bool)
    {s : SetSt} (hl : s.list = none) (mo mo' : List Int) :
    sortWith sorter lt s mo = sortWith sorter lt (s.forceSetupOrdered mo) mo' := by
  rw [sortWith_ordered sorter lt (s := s.forceSetupOrdered mo) rfl mo']
  unfold sortWith
  simp only [hl, Option.isNone_none, if_true]
  rfl

theorem sortWith_ordered_spec {sorter : (Int → Int → Bool) → List Int → List Int}
    (hperm : ∀ lt xs, (sorter lt xs).Perm xs) (lt : Int → Int → Bool)
    {s : SetSt} (hi : Inv s) {l : List (Nat × Int)} (hl : s.list = some l) (mo : List Int) :
    Inv (sortWith sorter lt s mo) ∧ (sortWith sorter lt s mo).hash = s.hash ∧
      (sortWith sorter lt s mo).list.isSome = true ∧
      members (sortWith sorter lt s mo) = sorter lt (members s) := by
  rw [sortWith_ordered sorter lt hl mo]
  have hpr := reorder_perm (hi.items_nodup l hl) (hperm lt (l.map (·.2)))
  have hms := reorder_map_snd (l := l) (its := sorter lt (l.map (·.2)))
    (fun it h => (hperm lt _).mem_iff.mp h)
  refine ⟨?_, rfl, rfl, ?_⟩
  · exact Inv.of_perm rfl ((hi.perm hl).trans (hpr.map entryOf).symm)
      ((hpr.map (·.2)).nodup_iff.mpr (hi.items_nodup l hl))
      ((hpr.map (·.1)).nodup_iff.mpr (hi.addrs_nodup l hl))
      (fun p hp => hi.addrs_lt l hl p (hpr.mem_iff.mp hp))
  · show List.map _ _ = _
    rw [hms]; unfold members; rw [hl]

theorem sortWith_spec {sorter : (Int → Int → Bool) → List Int → List Int}
    (hperm : ∀ lt xs, (sorter lt xs).Perm xs) (lt : Int → Int → Bool)
    {s : SetSt} (hi : Inv s) {mo : List Int} (hg : GoodOrder s mo) :
    Inv (sortWith sorter lt s mo) ∧ (sortWith sorter lt s mo).hash.map (·.1) = s.hash.map (·.1) ∧
      (sortWith sorter lt s mo).list.isSome = true ∧
      members (sortWith sorter lt s mo) = sorter lt (s.iter mo) := by
  cases hl : s.list with
  | some l =>
    obtain ⟨h1, h2, h3, h4⟩ := sortWith_ordered_spec hperm lt hi hl mo
    exact ⟨h1, by rw [h2], h3, by rw [h4, iter_ordered (hl ▸ rfl)]⟩
  | none =>
    rw [sortWith_unordered sorter lt hl mo mo]
    obtain ⟨h1, h2, h3, h4⟩ := sortWith_ordered_spec hperm lt
      (forceSetupOrdered_inv hi.keys_nodup hg) (s := s.forceSetupOrdered mo) rfl mo
    exact ⟨h1, by rw [h2, forceSetupOrdered_keys], h3,
      by rw [h4, forceSetupOrdered_members, iter_unordered_eq hl]⟩

theorem sorted_strict {lt : Int → Int → Bool} (ht : Total lt) {xs : List Int} (hs : Sorted lt xs)
    (hn : xs.Nodup) : xs.Pairwise (fun a b => lt a b = true) := by
  unfold Sorted at hs
  have := hs.and hn
  refine this.imp ?_
  intro a b ⟨h1, h2⟩
  rcases ht a b h2 with h | h
  · exact h
  · rw [h1] at h; cases h

theorem sorted_unique_of_perm {lt : Int → Int → Bool} (hsw : StrictWeak lt) (ht : Total lt)
    {xs ys : List Int} (hx : Sorted lt xs) (hy : Sorted lt ys) (hn : xs.Nodup) (hp : xs.Perm ys) :
    xs = ys :=
  hp.eq_of_pairwise (le := fun a b => lt a b = true)
    (fun _ _ _ _ hab hba => absurd hba (by rw [hsw.asymm hab]; exact Bool.false_ne_true))
    (sorted_strict ht hx hn) (sorted_strict ht hy (hp.nodup_iff.mp hn))

/-- behind C18 `sortQuick_spec`, `sortMerge_spec` -/
theorem sortWith_full {sorter : (Int → Int → Bool) → List Int → List Int}
    (hperm : ∀ lt xs, (sorter lt xs).Perm xs) {lt : Int → Int → Bool}
    (hsorted : ∀ xs, Sorted lt (sorter lt xs))
    {s : SetSt} (hi : Inv s) {mo : List Int} (hg : GoodOrder s mo) :
    Inv (sortWith sorter lt s mo) ∧ (sortWith sorter lt s mo).list.isSome = true ∧
      (members (sortWith sorter lt s mo)).Perm (members s) ∧
      Sorted lt (members (sortWith sorter lt s mo)) ∧
      (∀ k, (sortWith sorter lt s mo).check k = s.check k) ∧
      (sortWith sorter lt s mo).len = s.len := by
  obtain ⟨h1, h2, h3, h4⟩ := sortWith_spec hperm lt hi hg
  refine ⟨h1, h3, ?_, ?_, check_congr_keys h2, len_congr_keys h2⟩
  · rw [h4]; exact (hperm lt _).trans (iter_perm_members hi hg)
  · rw [h4]; exact hsorted _

/-- behind C18 `order_after_sortQuick`, `order_after_sortMerge` -/
theorem sortWith_then_delete {sorter : (Int → Int → Bool) → List Int → List Int}
    (hperm : ∀ lt xs, (sorter lt xs).Perm xs) {lt : Int → Int → Bool}
    (hsorted : ∀ xs, Sorted lt (sorter lt xs))
    {s : SetSt} (hi : Inv s) {mo : List Int} (hg : GoodOrder s mo) (mo' : List Int) (k : Int) :
    (sortWith sorter lt s mo).iter mo' = members (sortWith sorter lt s mo) ∧
      Sorted lt ((sortWith sorter lt s mo).iter mo') ∧
      ((sortWith sorter lt s mo).deleteCheck k).2 = s.check k ∧
      ((sortWith sorter lt s mo).deleteCheck k).1.iter mo' = ((sortWith sorter lt s mo).iter mo').erase k ∧
      Sorted lt (((sortWith sorter lt s mo).deleteCheck k).1.iter mo') ∧
      (((sortWith sorter lt s mo).deleteCheck k).1.iter mo').Perm ((members s).erase k) := by
  obtain ⟨h1, h2, h3, h4, h5, _⟩ := sortWith_full hperm hsorted hi hg
  generalize sortWith sorter lt s mo = t at h1 h2 h3 h4 h5
  obtain ⟨_, hres, hmem, hord⟩ := deleteCheck_sim h1 k
  have hit' := iter_ordered (s := (t.deleteCheck k).1) (by rw [hord, h2]) mo'
  rw [hit', iter_ordered h2 mo', hmem, hres, h5]
  exact ⟨rfl, h4, rfl, rfl, List.Pairwise.sublist List.erase_sublist h4, h3.erase k⟩

theorem sortWith_unique {sorter1 sorter2 : (Int → Int → Bool) → List Int → List Int}
    (hperm1 : ∀ lt xs, (sorter1 lt xs).Perm xs) (hperm2 : ∀ lt xs, (sorter2 lt xs).Perm xs)
    {lt : Int → Int → Bool} (hsw : StrictWeak lt) (ht : Total lt)
    (hsorted1 : ∀ xs, Sorted lt (sorter1 lt xs)) (hsorted2 : ∀ xs, Sorted lt (sorter2 lt xs))
    {s : SetSt} (hi : Inv s) {mo1 mo2 : List Int} (hg1 : GoodOrder s mo1) (hg2 : GoodOrder s mo2) :
    members (sortWith sorter1 lt s mo1) = members (sortWith sorter2 lt s mo2) := by
  obtain ⟨a1, _, a3, a4, _, _⟩ := sortWith_full hperm1 hsorted1 hi hg1
  obtain ⟨_, _, b3, b4, _, _⟩ := sortWith_full hperm2 hsorted2 hi hg2
  exact sorted_unique_of_perm hsw ht a4 b4 (members_nodup a1) (a3.trans b3.symm)

/-- the states a client can produce; the comparison passed to a sort and the order in which it ranges over the map
    are arbitrary -/
inductive Reachable : SetSt → Prop
  | empty : Reachable {}
  | order {s : SetSt} : Reachable s → s.hash = [] → Reachable s.order
  | add {s : SetSt} (k : Int) : Reachable s → Reachable (s.addCheck k).1
  | delete {s : SetSt} (k : Int) : Reachable s → Reachable (s.deleteCheck k).1
  | addAll {s : SetSt} (ks : List Int) : Reachable s → Reachable (s.addAll ks)
  | sortQuick {s : SetSt} (lt : Int → Int → Bool) (mo : List Int) :
      GoodOrder s mo → Reachable s → Reachable (SetSt.sortQuick lt s mo)
  | sortMerge {s : SetSt} (lt : Int → Int → Bool) (mo : List Int) :
      GoodOrder s mo → Reachable s → Reachable (SetSt.sortMerge lt s mo)

theorem Reachable.inv {s : SetSt} (h : Reachable s) : Inv s := by
  induction h with
  | empty => exact inv_empty
  | order _ he ih => exact inv_order ih he
  | add k _ ih => exact (addCheck_sim ih k).1
  | delete k _ ih => exact (deleteCheck_sim ih k).1
  | addAll ks _ ih => exact (addAll_sim ih ks).1
  | sortQuick lt mo hg _ ih => exact (sortWith_spec sortQuick_perm lt ih hg).1
  | sortMerge lt mo hg _ ih => exact (sortWith_spec (fun lt xs => mergeSort_perm lt _ xs) lt ih hg).1

/-- a concrete reachable state (C18, C18Gen) -/
def demo : SetSt :=
  let s := ((({} : SetSt).addCheck 3).1.addCheck 1).1
  let s := (s.addCheck 3).1
  let s := SetSt.sortQuick (fun a b => a < b) s s.ascKeys
  (s.deleteCheck 1).1

end SetSt

end FunModel.SetModel
