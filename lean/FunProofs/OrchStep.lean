import FunModel.Orch
import FunProofs.ListAux

/-! What the proofs about the four machines of C11 share: the C10 contract of a started unit (`RunsOnce`), the
    `sync.WaitGroup` counter of the units in flight (`Counted`), and how a per-unit count of the places a unit is in
    survives its joining a queue (`placed_push`) or being given a value (`placed_dispatch`). -/

namespace FunModel.Orch

theorem ite_some_eq {α : Type} {p : Prop} [Decidable p] {a b : α} (h : (if p then some a else none) = some b) :
    p ∧ b = a :=
  let ⟨hp, e⟩ := Option.ite_none_right_eq_some.mp h
  ⟨hp, (Option.some.inj e).symm⟩

theorem upd_apply {α : Type} (f : Nat → α) (i j : Nat) (v : α) : upd f i v j = if j = i then v else f j := rfl

/-- `hq`: `i` leaves the head of the queue (it had no value, the sum being at most one), or the queue stays and `i`
    had a value already. -/
theorem placed_dispatch {α : Type} [DecidableEq α] {z t : α} {f : Nat → α} {queue q : List Nat} {i : Nat}
    {r : Nat → Bool} (h : ∀ j, queue.count j + (decide (f j ≠ z)).toNat = (r j).toNat)
    (hq : queue = i :: q ∨ (q = queue ∧ f i ≠ z)) (ht : t ≠ z) (j : Nat) :
    q.count j + (decide (upd f i t j ≠ z)).toNat = (r j).toNat := by
  have hj' := h j
  by_cases hj : j = i
  · subst hj
    rw [upd_same, decide_eq_true ht, Bool.toNat_true]
    rcases hq with rfl | ⟨rfl, hn⟩
    · have hle := Bool.toNat_le (r j)
      rw [List.count_cons_self] at hj'
      omega
    · rwa [decide_eq_true hn, Bool.toNat_true] at hj'
  · rw [upd_other _ _ _ _ hj]
    rcases hq with rfl | ⟨rfl, _⟩
    · rwa [List.count_cons_of_ne fun e => hj e.symm] at hj'
    · exact hj'

/-- `hi`: at `i` the rest of the places falls by one or the right-hand side rises by one. -/
theorem placed_push {queue : List Nat} {rest rest' r r' : Nat → Nat} {i : Nat}
    (h : ∀ j, queue.count j + rest j = r j)
    (hi : rest' i + 1 + r i = rest i + r' i)
    (ho : ∀ j, j ≠ i → rest' j = rest j ∧ r' j = r j) (j : Nat) :
    (queue ++ [i]).count j + rest' j = r' j := by
  have := h j
  rw [List.count_append, List.count_singleton]
  by_cases hj : j = i
  · subst hj; rw [beq_self_eq_true, if_pos rfl]; omega
  · rw [(ho j hj).1, (ho j hj).2, if_neg (by simpa using fun e : i = j => hj e.symm)]; exact this

/-- a unit's function is entered once, when the unit leaves `fresh` -/
def RunsOnce (phase : Nat → Phase) (runs : Nat → Nat) : Prop := ∀ i, runs i = if phase i = .fresh then 0 else 1

namespace RunsOnce
variable {phase : Nat → Phase} {runs : Nat → Nat}

theorem init : RunsOnce (fun _ => .fresh) (fun _ => 0) := fun _ => rfl

theorem le (h : RunsOnce phase runs) (i : Nat) : runs i ≤ 1 := by rw [h i]; split <;> omega

theorem zero_iff (h : RunsOnce phase runs) (i : Nat) : runs i = 0 ↔ phase i = .fresh := by rw [h i]; split <;> simp [*]

theorem one (h : RunsOnce phase runs) {i : Nat} (hp : phase i ≠ .fresh) : runs i = 1 := by rw [h i, if_neg hp]

theorem start (h : RunsOnce phase runs) {i : Nat} (hp : phase i = .fresh) :
    RunsOnce (upd phase i .running) (upd runs i (runs i + 1)) := by
  intro j
  by_cases hj : j = i
  · subst hj; simp [h j, hp]
  · simpa [hj] using h j

theorem finish (h : RunsOnce phase runs) {i : Nat} (hp : phase i = .running) : RunsOnce (upd phase i .finished) runs := by
  intro j
  by_cases hj : j = i
  · subst hj; simp [h j, hp]
  · simpa [hj] using h j

end RunsOnce

/-- `n` is the number of units whose state is `act`ive -/
def Counted {α : Type} (act : α → Bool) (f : Nat → α) (n : Nat) : Prop :=
  ∃ l : List Nat, l.Nodup ∧ (∀ j, j ∈ l ↔ act (f j) = true) ∧ n = l.length

namespace Counted
variable {α : Type} {act : α → Bool} {f : Nat → α}

theorem none (h : ∀ j, act (f j) = false) : Counted act f 0 :=
  ⟨[], List.nodup_nil, fun j => by simp [h j], rfl⟩

theorem zero (h : Counted act f 0) (j : Nat) : act (f j) = false := by
  obtain ⟨l, _, hmem, hlen⟩ := h
  cases hj : act (f j) with
  | false => rfl
  | true => have := (hmem j).mpr hj; rw [List.eq_nil_of_length_eq_zero hlen.symm] at this; cases this

theorem upd {n k : Nat} (h : Counted act f n) (i : Nat) (t : α)
    (hk : k = n + (act t).toNat - (act (f i)).toNat) : Counted act (upd f i t) k := by
  obtain ⟨l, hnd, hmem, rfl⟩ := h
  have hlen : (l.erase i).length + (act (f i)).toNat = l.length := by
    cases hi : act (f i) with
    | true =>
      have hin := (hmem i).mpr hi
      have := List.length_pos_of_mem hin
      rw [List.length_erase_of_mem hin, Bool.toNat_true]; omega
    | false => rw [List.erase_of_not_mem (fun hm => by rw [(hmem i).mp hm] at hi; cases hi)]; rfl
  have hrest : ∀ j, j ≠ i → (j ∈ l.erase i ↔ act (Orch.upd f i t j) = true) := fun j hj => by
    rw [List.mem_erase_of_ne hj, upd_other _ _ _ _ hj]; exact hmem j
  cases ht : act t with
  | true =>
    refine ⟨i :: l.erase i, List.nodup_cons.mpr ⟨hnd.not_mem_erase, hnd.erase i⟩, fun j => ?_, ?_⟩
    · by_cases hj : j = i
      · subst hj; simp [ht]
      · simp [hj, hrest j hj]
    · rw [ht, Bool.toNat_true] at hk; rw [List.length_cons]; omega
  | false =>
    refine ⟨l.erase i, hnd.erase i, fun j => ?_, ?_⟩
    · by_cases hj : j = i
      · subst hj; simp [ht, hnd.not_mem_erase]
      · exact hrest j hj
    · rw [ht, Bool.toNat_false] at hk; omega

end Counted
end FunModel.Orch
