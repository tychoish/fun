import FunProofs.Dll
import FunProofs.ListAux

/-! The run relation of C16: the operations of `dt.List` (without `Swap`, which breaks the invariant) as an `Op`
    type, states reachable by valid operations (`Reachable`, `runOps`), `WF.step` (no operation panics on a
    well-formed heap, and the result is well-formed), and the concrete runs the witnesses of `FunProps/C16.lean`
    evaluate. -/

namespace FunModel.Dll

inductive Op where
  | allocList
  | makeElem (v : Int)
  | lazySetup (l : Nat)
  | pushFront (l : Nat) (v : Int)
  | pushBack (l : Nat) (v : Int)
  | popFront (l : Nat)
  | popBack (l : Nat)
  | elemAppend (e : Nat) (new : Option Nat)
  | elemRemove (e : Nat)
  | elemDrop (e : Nat)
  | elemSet (e : Nat) (v : Int)
  | extend (l src : Nat)
  | copy (l : Nat)
  | popIter (l : Nat) (fromBack : Bool) (fuel : Nat)

/-- the arguments are allocated (and `Extend` is not applied to the list itself) -/
def Op.valid (h : Heap) : Op → Prop
  | .allocList => True
  | .makeElem _ => True
  | .lazySetup l => l < h.nl
  | .pushFront l _ => l < h.nl
  | .pushBack l _ => l < h.nl
  | .popFront l => l < h.nl
  | .popBack l => l < h.nl
  | .elemAppend e new => e < h.nn ∧ (match new with | none => True | some n => n < h.nn)
  | .elemRemove e => e < h.nn
  | .elemDrop e => e < h.nn
  | .elemSet e _ => e < h.nn
  | .extend l src => l < h.nl ∧ src < h.nl ∧ l ≠ src
  | .copy l => l < h.nl
  | .popIter l _ _ => l < h.nl

def Op.run (h : Heap) : Op → Option Heap
  | .allocList => some h.allocList.1
  | .makeElem v => some (h.makeElem v).1
  | .lazySetup l => some (h.lazySetup l)
  | .pushFront l v => h.pushFront l v
  | .pushBack l v => h.pushBack l v
  | .popFront l => (h.popFront l).map (·.1)
  | .popBack l => (h.popBack l).map (·.1)
  | .elemAppend e new => (h.elemAppend e new).map (·.1)
  | .elemRemove e => (h.elemRemove e).map (·.1)
  | .elemDrop e => h.elemDrop e
  | .elemSet e v => some (h.elemSet e v).1
  | .extend l src => h.extend l src
  | .copy l => (h.copy l).map (·.1)
  | .popIter l b fuel => (h.popIterLoop l b fuel []).map (·.1)

inductive Reachable : Heap → Prop where
  | empty : Reachable {}
  | step {h h' : Heap} (op : Op) : Reachable h → op.valid h → op.run h = some h' → Reachable h'

theorem WF.step {h : Heap} {g : Nat → List Nat} (hw : WF h g) (op : Op) (hv : op.valid h) :
    ∃ h' g', op.run h = some h' ∧ WF h' g' := by
  cases op with
  | allocList => exact ⟨_, g, rfl, hw.allocList⟩
  | makeElem v => exact ⟨_, g, rfl, hw.alloc rfl⟩
  | lazySetup l => exact ⟨_, g, rfl, (hw.lazySetup hv).1⟩
  | pushFront l v =>
    obtain ⟨h', n, e1, _, hw', _⟩ := hw.pushFront hv v
    exact ⟨h', _, e1, hw'⟩
  | pushBack l v =>
    obtain ⟨h', n, e1, _, hw', _⟩ := hw.pushBack hv v
    exact ⟨h', _, e1, hw'⟩
  | popFront l =>
    cases hg : g l with
    | nil =>
      obtain ⟨h', z, e1, _, hw', _⟩ := hw.pop_empty hv hg
      exact ⟨h', g, by simp [Op.run, e1], hw'⟩
    | cons x xs =>
      obtain ⟨h', e1, hw', _⟩ := hw.popFront_cons hg
      exact ⟨h', _, by simp [Op.run, e1], hw'⟩
  | popBack l =>
    rcases List.eq_nil_or_concat (g l) with hg | ⟨xs, x, hg⟩
    · obtain ⟨h', z, _, e1, hw', _⟩ := hw.pop_empty hv hg
      exact ⟨h', g, by simp [Op.run, e1], hw'⟩
    · rw [List.concat_eq_append] at hg
      obtain ⟨h', e1, hw', _⟩ := hw.popBack_snoc hg
      exact ⟨h', _, by simp [Op.run, e1], hw'⟩
  | elemAppend e new =>
    obtain ⟨h', g', x, e1, hw', _⟩ := hw.elemAppend_total (e := e) (new := new) fun n hn => by subst hn; exact hv.2
    exact ⟨h', g', by simp [Op.run, e1], hw'⟩
  | elemRemove e =>
    by_cases hm : ∃ l, e ∈ g l
    · obtain ⟨l, hm⟩ := hm
      obtain ⟨h', e1, hw', _⟩ := hw.elemRemove_mem hm
      exact ⟨h', _, by simp [Op.run, e1], hw'⟩
    · exact ⟨h, g, by simp [Op.run, hw.elemRemove_not (fun l hx => hm ⟨l, hx⟩)], hw⟩
  | elemDrop e =>
    by_cases hm : ∃ l, e ∈ g l
    · obtain ⟨l, hm⟩ := hm
      obtain ⟨h', e1, hw', _⟩ := hw.elemDrop_mem hm
      exact ⟨h', _, e1, hw'⟩
    · exact ⟨h, g, hw.elemDrop_not (fun l hx => hm ⟨l, hx⟩), hw⟩
  | elemSet e v =>
    by_cases hr : ∃ l, (h.hdr l).root = some e
    · obtain ⟨l, hr⟩ := hr
      have := Heap.elemSet_root (hw.root_list hr) hr v
      exact ⟨h, g, by simp [Op.run, this], hw⟩
    · obtain ⟨h', e1, hw', _⟩ := hw.elemSet_nonroot (e := e) (fun l hx => hr ⟨l, hx⟩) v
      exact ⟨_, g, by simp [Op.run, e1], hw'⟩
  | extend l src =>
    obtain ⟨h', e1, hw', _⟩ := hw.extend hv.1 hv.2.1 hv.2.2
    exact ⟨h', _, e1, hw'⟩
  | copy l =>
    obtain ⟨h', ns, e1, hw', _⟩ := hw.copy hv
    exact ⟨h', _, by simp [Op.run, e1], hw'⟩
  | popIter l b fuel =>
    obtain ⟨h', e1, hw', _⟩ := hw.popIter b fuel (acc := []) hv
    exact ⟨h', _, by simp [Op.run, e1], hw'⟩

theorem Reachable.wf {h : Heap} (hr : Reachable h) : ∃ g, WF h g := by
  induction hr with
  | empty => exact ⟨_, WF.empty⟩
  | step op _ hv hrun ih =>
    obtain ⟨g, hw⟩ := ih
    obtain ⟨h'', g', e1, hw'⟩ := hw.step op hv
    rw [hrun] at e1; cases e1
    exact ⟨g', hw'⟩

instance (h : Heap) (op : Op) : Decidable (op.valid h) := by
  cases op with
  | elemAppend e new => cases new <;> (unfold Op.valid; infer_instance)
  | _ => unfold Op.valid; infer_instance

/-- `none` if an argument is not allocated or an operation panics -/
def runOps : List Op → Heap → Option Heap
  | [], h => some h
  | op :: ops, h => if op.valid h then (op.run h).bind (runOps ops) else none

/-- a run is a fold of the checked step, so what `List.foldlM_option_*` say of folds holds of runs -/
theorem runOps_eq_foldlM (ops : List Op) (h : Heap) :
    runOps ops h = ops.foldlM (fun h op => if op.valid h then op.run h else none) h := by
  induction ops generalizing h with
  | nil => rfl
  | cons op ops ih =>
    by_cases hv : op.valid h
    · simp only [runOps, hv, if_true, List.foldlM_cons]; exact congrArg _ (funext ih)
    · simp [runOps, hv]

def demo4 : Option Heap := do
  let h := ({} : Heap).allocList.1
  let h ← h.pushBack 0 1
  let h ← h.pushBack 0 2
  let h ← h.pushBack 0 3
  h.pushBack 0 4

def demoSwap : Option (Heap × Bool) := do
  let h ← demo4
  h.elemSwap 1 (some 4)

/-- a run touching every operation, three lists -/
def demoOps : List Op :=
  [.allocList, .allocList, .pushBack 0 10, .pushBack 0 20, .pushFront 1 30, .makeElem 40,
   .elemAppend 4 (some 5), .extend 1 0, .popFront 1, .copy 1, .elemDrop 1, .elemSet 2 7, .elemRemove 3,
   .popIter 2 true 1, .popBack 0, .lazySetup 0]

end FunModel.Dll

/-! The sample heap of the sorting `example`s, of the hand-written model (`C17Ptr`) and of the generated code
    (`C17Gen`) alike. -/
namespace FunProofs.SortPtr
open FunModel.Dll

/-- the list 3,-1,2,-1,0: elements 1..5 of list 0 -/
def demo5 : Option Heap := do
  let h := ({} : Heap).allocList.1
  let h ← h.pushBack 0 3
  let h ← h.pushBack 0 (-1)
  let h ← h.pushBack 0 2
  let h ← h.pushBack 0 (-1)
  h.pushBack 0 0

/-- what the driver prints for a list: items along the forward walk, along the backward walk, `Len` -/
def observe (h : Heap) (l : Nat) : List Int × List Int × Int :=
  let h := h.lazySetup l
  ((h.walkFwd l 100).1.map (fun a => (h.node a).item),
   (h.walkBwd l 100).1.map (fun a => (h.node a).item), (h.hdr l).length)

end FunProofs.SortPtr
