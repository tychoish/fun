import FunGen.ErrShapes
import FunProofs.Err

/-! Lemmas for the T-gen tie of C12 (FunProps/C12Gen.lean). The interpreters of FunModel/ErrShapes.lean, run with any
    dispatch that agrees with the model's precedence (`pushArmOf`, `unwindArmOf`) on the dynamic types that can exist
    in Go, compute `Err.push` and `Err.unwind`: they only ask about the types of the mapping table and about nil,
    which are valid. The standard library's `errors.Is` / `errors.As` loop over the cell chain `ofItems xs`. -/

namespace FunProofs.GenTieErr
open FunModel FunModel.ErrShapes FunGen.ErrShapes

/-- all dynamic types = all values of the nine capability bits, which the kernel can enumerate -/
theorem forall_dyn {P : Dyn → Prop} (h : ∀ a b c d e f g h i, P ⟨a, b, c, d, e, f, g, h, i⟩) (d : Dyn) : P d :=
  h ..

theorem ofErr_valid (e : Err) : (Dyn.ofErr e).valid = true := by
  cases e <;> rfl

mutual
theorem runPush_model {sel : Dyn → PushArm} (h : ∀ d, d.valid = true → sel d = pushArmOf d) (acc : List Err) :
    (e : Err) → runPush sel acc e = e.push acc
  | .stack cs => by
      rw [runPush, h Dyn.stack rfl, runPushAll_model h acc cs]
      simp [Err.push, pushStep, opens, pushArmOf, Dyn.stack]
  | .unwinder id cs | .multi id cs => by
      rw [runPush, h _ (ofErr_valid _), runPushAll_model h acc cs]
      simp [Err.push, pushStep, opens, pushArmOf, Dyn.ofErr]
  | .leaf _ | .typed _ _ | .wrap _ _ => by
      rw [runPush, h _ (ofErr_valid _)]
      simp [Err.push, pushStep, pushArmOf, Dyn.ofErr]
theorem runPushAll_model {sel : Dyn → PushArm} (h : ∀ d, d.valid = true → sel d = pushArmOf d) (acc : List Err) :
    (cs : ErrList) → runPushAll sel acc cs = cs.pushAll acc
  | .nil => rfl
  | .cons e r => by
      simp [runPushAll, ErrList.pushAll, runPush_model h acc e, runPushAll_model h _ r]
  | .skip r => by
      rw [runPushAll, h Dyn.nil rfl, runPushAll_model h acc r]
      simp [ErrList.pushAll, pushArmOf, Dyn.nil]
end

theorem items_tailCells (xs : List Err) : items (tailCells xs) = xs := by
  induction xs with
  | nil => rfl
  | cons x r ih => simp [tailCells, items, ih]

theorem ofItems_nil : ofItems [] = [{ count := 0, err := none }] := rfl
theorem ofItems_cons (x : Err) (r : List Err) :
    ofItems (x :: r) = { count := ((r.length + 1 : Nat) : Int), err := some x } :: tailCells r := rfl

theorem items_ofItems (xs : List Err) : items (ofItems xs) = xs := by
  cases xs with
  | nil => rfl
  | cons x r => simp [ofItems_cons, items, items_tailCells]

theorem ok_nilptr : stackOk [] = some true := rfl

theorem runUnwind_model {sel : Dyn → UnwindArm} (h : ∀ d, d.valid = true → sel d = unwindArmOf d) :
    (e : Err) → (out : List Err) → runUnwind sel out e = out ++ e.unwind
  | .wrap id inner, out => by
      rw [runUnwind, h _ (ofErr_valid _), runUnwind_model h inner]
      simp [unwindStep, unwindArmOf, Dyn.ofErr, Err.unwind]
  | .stack cs, out => by
      rw [runUnwind, h Dyn.stack rfl]
      simp [unwindStep, unwindArmOf, Dyn.stack, Err.unwind, many]
  | .leaf _, out | .typed _ _, out | .multi _ _, out | .unwinder _ _, out => by
      rw [runUnwind, h _ (ofErr_valid _)]
      simp [unwindStep, unwindArmOf, Dyn.ofErr, Err.unwind, many]

theorem stackIs_cons (c : Cell) (rest : Ptr) (t : Nat) : stackIs (c :: rest) t = some (isOpt c.err t) := rfl
theorem stackAs_cons (c : Cell) (rest : Ptr) (ty : Nat) : stackAs (c :: rest) ty = some (asOpt c.err ty) := rfl

theorem stackUnwrap_cons (c : Cell) (rest : Ptr) :
    stackUnwrap (c :: rest) = some (match rest with
      | [] => StackRet.nil
      | c' :: _ => if c'.err.isNone then StackRet.nil else StackRet.node rest) := by
  cases rest with
  | nil => rfl
  | cons c' r' => cases h : c'.err <;> simp [stackUnwrap, ldNext, ldErr, ptrIsNil, errIsNil, orP, bind, Option.bind, h]

/-- the standard library's loop on a head cell `c` followed by the cells of the items `r`; the cell that ends the
    chain holds no error, so `Unwrap` stops there -/
theorem is_chain (t : Nat) : (r : List Err) → (c : Cell) → (fuel : Nat) → r.length < fuel →
    errorsIsStack stackIs stackUnwrap fuel (c :: tailCells r) t = some (isOpt c.err t || r.any (fun x => x.is t))
  | [], c, fuel + 1, _ => by
      cases hc : isOpt c.err t <;> simp [errorsIsStack, tailCells, stackIs_cons, stackUnwrap_cons, hc]
  | y :: r, c, fuel + 1, h => by
      have ih := is_chain t r { count := 0, err := some y } fuel (by simpa using h)
      cases hc : isOpt c.err t <;> simp [errorsIsStack, tailCells, stackIs_cons, stackUnwrap_cons, hc, ih]

theorem as_chain (ty : Nat) : (r : List Err) → (c : Cell) → (fuel : Nat) → r.length < fuel →
    errorsAsStack stackAs stackUnwrap fuel (c :: tailCells r) ty =
      some ((asOpt c.err ty).or (r.findSome? (fun x => x.as ty)))
  | [], c, fuel + 1, _ => by
      cases hc : asOpt c.err ty <;> simp [errorsAsStack, tailCells, stackAs_cons, stackUnwrap_cons, hc]
  | y :: r, c, fuel + 1, h => by
      have ih := as_chain ty r { count := 0, err := some y } fuel (by simpa using h)
      cases hc : asOpt c.err ty <;>
        simp [errorsAsStack, tailCells, stackAs_cons, stackUnwrap_cons, hc, ih, findSome?_cons_or]

end FunProofs.GenTieErr
