import FunGen.SetOps
import FunProofs.SetModel

/-! The T-gen tie of C18 (`FunProps/C18Gen.lean`): what tools/go2lean (setops.go) regenerates
    from `dt/set.go` into `FunGen/SetOps.lean` computes what the hand-written model `FunModel/SetModel.lean`
    computes; the vocabulary of whole runs. -/
namespace FunProofs.GenTieSet
open FunModel.SetModel FunModel.SetModel.SetSt FunModel.SetPrim FunGen.SetOps

/-- `Inv.addrs_lt` alone: what makes `NewElement`'s result detached, so that `Back().Append` accepts it -/
def Fresh (s : SetSt) : Prop := ∀ l, s.list = some l → ∀ p, p ∈ l → p.1 < s.nextId

theorem mapCheck_eq (s : SetSt) (k : Int) : mapCheck s k = s.check k := by
  unfold mapCheck SetSt.check SetSt.lookup
  rw [Option.isSome_map, Bool.eq_iff_iff, List.any_eq_true, List.find?_isSome]

theorem mapLoad_eq (s : SetSt) (k : Int) :
    mapLoad s k = match s.lookup k with | some e => (e, true) | none => (none, false) := by
  unfold mapLoad SetSt.lookup
  cases s.hash.find? (fun p => p.1 == k) <;> rfl

theorem mapLen_eq (s : SetSt) : mapLen s = s.len := rfl

theorem mapRange_eq (s : SetSt) (mo : List Int) : mapRange s mo = mo.filter s.check :=
  congrArg (mo.filter ·) (funext (mapCheck_eq s))

theorem any_addr_false {l : List (Nat × Int)} {n : Nat} (h : ∀ p, p ∈ l → p.1 < n) :
    l.any (fun p => p.1 == n) = false := by
  rw [List.any_eq_false]
  intro p hp
  have := h p hp
  simp only [beq_iff_eq]; omega

theorem filter_ne_of_any_false {α β : Type} [BEq β] (f : α → β) {l : List α} {a : β}
    (h : l.any (fun p => f p == a) = false) : l.filter (fun p => f p != a) = l := by
  simpa [List.filter_eq_self, bne] using h

theorem filter_key_of_lookup_none {s : SetSt} {k : Int} (h : s.lookup k = none) :
    s.hash.filter (fun p => p.1 != k) = s.hash := by
  apply filter_ne_of_any_false (fun p : Int × Option Nat => p.1)
  rw [show s.hash.any (fun p => p.1 == k) = s.check k from mapCheck_eq s k]
  unfold SetSt.check; rw [h]; rfl

theorem AddCheck_tie {s : SetSt} (hf : Fresh s) (k : Int) : Set_AddCheck s k = some (s.addCheck k) := by
  unfold Set_AddCheck SetSt.addCheck
  rw [mapCheck_eq]
  cases hc : s.check k with
  | true => simp
  | false =>
    have hany : s.hash.any (fun p => p.1 == k) = false := (mapCheck_eq s k).trans hc
    cases hl : s.list with
    | none => simp [listIsNil, hl, mapSetDefault, mapStore, hany]
    | some l =>
      have := any_addr_false (hf l hl)
      simp [listIsNil, hl, newElement, listBackAppend, mapStore, hany, this, Elem.ptr]

/-- the elements `forceSetupOrdered` allocates for the keys `ks` from address `n` on -/
def elemsFrom (n : Nat) (ks : List Int) : List (Nat × Int) := ks.zipIdx.map (fun (k, i) => (n + i, k))

theorem elemsFrom_length (n : Nat) (ks : List Int) : (elemsFrom n ks).length = ks.length := by
  unfold elemsFrom; simp

theorem mkElems_find_none {n i : Nat} {ks : List Int} {k : Int} (h : k ∉ ks) :
    (mkElems n ks i).find? (fun e => e.2 == k) = none :=
  List.find?_eq_none.mpr fun e he hek =>
    h (mkElems_map_snd n ks i ▸ List.mem_map.mpr ⟨e, he, beq_iff_eq.mp hek⟩)

/-- the state after one pass of the loop body of `forceSetupOrdered` for the key `k` -/
def fsoStep (t : SetSt) (l : List (Nat × Int)) (k : Int) : SetSt :=
  { hash := t.hash.map (fun p => if p.1 == k then (k, some t.nextId) else p),
    list := some (l ++ [(t.nextId, k)]), nextId := t.nextId + 1 }

/-- a loop with body `fsoStep` computes the model's batch definition; `n` = the allocation counter when the loop
    starts, `i` = the passes made -/
theorem fso_fold (f : SetSt → Int → Option SetSt)
    (hf : ∀ (t : SetSt) (l : List (Nat × Int)) (k : Int), t.list = some l → (∀ p, p ∈ l → p.1 < t.nextId) →
      t.check k = true → f t k = some (fsoStep t l k)) (n : Nat) (ks : List Int) :
    ∀ (t : SetSt) (l : List (Nat × Int)) (i : Nat), t.list = some l → t.nextId = n + i →
      (∀ p, p ∈ l → p.1 < t.nextId) → ks.Nodup → (∀ k, k ∈ ks → t.check k = true) →
      ks.foldlM f t =
        some { hash := t.hash.map (repoint (mkElems n ks i)),
               list := some (l ++ mkElems n ks i), nextId := n + i + ks.length } := by
  induction ks with
  | nil =>
    intro t l i hl hn _ _ _
    rw [List.map_id'' (fun p => rfl : ∀ p, repoint (mkElems n [] i) p = p), mkElems_nil, List.append_nil,
      ← hl, ← hn]
    rfl
  | cons k ks ih =>
    intro t l i hl hn hlt hnd hpres
    have hnd' := List.nodup_cons.mp hnd
    rw [List.foldlM_cons, hf t l k hl hlt (hpres k List.mem_cons_self)]
    simp only [Option.bind_eq_bind, Option.bind_some]
    have hkeys : (fsoStep t l k).hash.map (·.1) = t.hash.map (·.1) := by
      simp only [fsoStep, List.map_map]
      apply List.map_congr_left
      intro p _
      by_cases e : p.1 = k <;> simp [e]
    have hpres' : ∀ k', k' ∈ ks → (fsoStep t l k).check k' = true := fun k' hk' =>
      (check_congr_keys hkeys k').trans (hpres k' (List.mem_cons_of_mem _ hk'))
    rw [ih (fsoStep t l k) (l ++ [(t.nextId, k)]) (i + 1) rfl (by show t.nextId + 1 = _; omega)
      (addrs_lt_concat hlt k) hnd'.2 hpres']
    have hhash : (fsoStep t l k).hash.map (repoint (mkElems n ks (i + 1))) =
        t.hash.map (repoint (mkElems n (k :: ks) i)) := by
      simp only [fsoStep, List.map_map, mkElems_cons, hn]
      apply List.map_congr_left
      intro p _
      by_cases e : p.1 = k
      · simp [repoint, e, mkElems_find_none (n := n) (i := i + 1) hnd'.1]
      · simp [repoint, e, Ne.symm e]
    rw [hhash, mkElems_cons, hn, List.append_assoc, List.singleton_append, List.length_cons]
    congr 2
    omega

theorem forceSetupOrdered_tie {s : SetSt} (hl : s.list = none) {mo : List Int} (hn : (mo.filter s.check).Nodup) :
    Set_forceSetupOrdered s mo = some (s.forceSetupOrdered mo) := by
  unfold Set_forceSetupOrdered
  have h1 : listIsNil s = true := by unfold listIsNil; rw [hl]; rfl
  have hr : mapRange (listNew s) mo = mo.filter s.check := by
    rw [mapRange_eq]; rfl
  simp only [h1, Bool.not_true, Bool.false_eq_true, ↓reduceIte, hr]
  rw [fso_fold _ _ s.nextId (mo.filter s.check) (listNew s) [] 0 rfl rfl (fun p hp => by cases hp) hn
    (fun k hk => (List.mem_filter.mp hk).2)]
  · rfl
  · -- the generated loop body is `fsoStep`
    intro t l k hl hlt hk
    have hany : t.hash.any (fun p => p.1 == k) = true := (mapCheck_eq t k).trans hk
    have hfr := any_addr_false hlt
    simp [newElement, listBackAppend, hl, hfr, mapStore, hany, Elem.ptr, fsoStep]

theorem listSortWith_ordered (sorter : (Int → Int → Bool) → List Int → List Int) (lt : Int → Int → Bool)
    {s : SetSt} (hl : s.list.isSome) (mo : List Int) :
    listSortWith sorter s lt = some (SetSt.sortWith sorter lt s mo) := by
  unfold SetSt.sortWith listSortWith
  obtain ⟨l, hl⟩ := Option.isSome_iff_exists.mp hl
  simp only [hl, Option.isNone_some, Bool.false_eq_true, ↓reduceIte]

theorem listSortWith_unordered (sorter : (Int → Int → Bool) → List Int → List Int) (lt : Int → Int → Bool)
    {s : SetSt} (hl : s.list = none) (mo : List Int) :
    listSortWith sorter (s.forceSetupOrdered mo) lt = some (SetSt.sortWith sorter lt s mo) := by
  rw [SetSt.sortWith_unordered sorter lt hl mo mo]
  exact listSortWith_ordered sorter lt rfl mo

/-- the body the generated `SortQuick` and `SortMerge` share -/
theorem sortWith_tie (sorter : (Int → Int → Bool) → List Int → List Int) (lt : Int → Int → Bool)
    (s : SetSt) (mo : List Int) (hn : s.list = none → (mo.filter s.check).Nodup) :
    (do let s ← (if listIsNil s then (do
            let s ← Set_forceSetupOrdered s mo
            pure s) else pure s)
        let s ← listSortWith sorter s lt
        pure s) = some (SetSt.sortWith sorter lt s mo) := by
  cases hl : s.list with
  | none => simp [listIsNil, hl, forceSetupOrdered_tie hl (hn hl), listSortWith_unordered sorter lt hl mo]
  | some l => simp [listIsNil, hl, listSortWith_ordered sorter lt (s := s) (by rw [hl]; rfl) mo]

theorem append_fold (f : List Int → Int → Option (List Int)) (hf : ∀ out k, f out k = some (out ++ [k]))
    (xs : List Int) : ∀ out : List Int, xs.foldlM f out = some (out ++ xs) := by
  induction xs <;> simp_all

/-- `iter.Observe(s.Add)`; `f` = the generated `Add`, which agrees with the model's under `Inv` (`C18Gen.gen_Add`) -/
theorem observe_add (f : SetSt → Int → Option SetSt)
    (hf : ∀ s k, FunModel.SetModel.Inv s → f s k = some (s.addCheck k).1) (ks : List Int) :
    ∀ {s : SetSt}, FunModel.SetModel.Inv s →
    iterObserve f ks s = some (s.addAll ks) := by
  induction ks with
  | nil => intro s _; rfl
  | cons k t ih =>
    intro s hi
    unfold iterObserve
    rw [List.foldlM_cons, hf s k hi]
    exact ih (SetSt.addCheck_sim hi k).1

/-- the shape of both loops of `Equal`; `none` = fell through to the code after the loop -/
theorem iterLoop_all {α : Type} (body : α → Option (Option Bool)) (good : α → Bool)
    (hb : ∀ x, body x = some (if good x then none else some false)) (xs : List α) :
    iterLoop xs body = some (if xs.all good then none else some false) := by
  induction xs with
  | nil => simp [iterLoop]
  | cons x t ih =>
    unfold iterLoop
    rw [hb x, List.all_cons]
    cases hgx : good x with
    | false => simp
    | true => simp only [↓reduceIte, Bool.true_and]; exact ih

theorem zip_all_eq {a b : List Int} (h : a.length = b.length) :
    (List.zip a b).all (fun p => p.1 == p.2) = (a == b) := by
  induction a generalizing b with
  | nil =>
    cases b with
    | nil => rfl
    | cons y b => cases h
  | cons x a ih =>
    cases b with
    | nil => cases h
    | cons y b =>
      simp only [List.zip_cons_cons, List.all_cons, List.length_cons, Nat.add_right_cancel_iff] at h ⊢
      rw [ih h]
      rfl

/-- `Equal` tests the keys in the order its range visits them, the model's `equal` the entries of `hash` -/
theorem all_filter_check {s o : SetSt} {mo : List Int} (hg : s.GoodOrder mo) :
    (mo.filter s.check).all o.check = s.hash.all (fun p => o.check p.1) := by
  rw [Bool.eq_iff_iff, List.all_eq_true, List.all_eq_true]
  constructor
  · intro h p hp
    have hk : p.1 ∈ s.hash.map (·.1) := List.mem_map.mpr ⟨p, hp, rfl⟩
    exact h p.1 ((SetSt.mem_filter_check hg p.1).mpr hk)
  · intro h k hk
    obtain ⟨p, hp, rfl⟩ := List.mem_map.mp ((SetSt.mem_filter_check hg k).mp hk)
    exact h p hp

theorem list_length_of_inv {s : SetSt} (hi : Inv s) {l : List (Nat × Int)} (hl : s.list = some l) :
    (l.map (·.2)).length = s.len := by
  have := SetSt.len_eq_members hi
  unfold SetSt.members at this
  rw [hl] at this
  exact this.symm

/-- a call of one of the state-writing methods -/
inductive Op where
  | add (k : Int)
  | del (k : Int)
  | order
  | sortQuick (lt : Int → Int → Bool) (mo : List Int)
  | sortMerge (lt : Int → Int → Bool) (mo : List Int)
  | populate (ks : List Int)

/-- the call through the generated functions (`none` = panic) -/
def Op.gen (s : SetSt) : Op → Option SetSt
  | .add k => (Set_AddCheck s k).map (·.1)
  | .del k => (Set_DeleteCheck s k).map (·.1)
  | .order => Set_Order s
  | .sortQuick lt mo => Set_SortQuick s lt mo
  | .sortMerge lt mo => Set_SortMerge s lt mo
  | .populate ks => Set_Populate s ks

def Op.model (s : SetSt) : Op → SetSt
  | .add k => (s.addCheck k).1
  | .del k => (s.deleteCheck k).1
  | .order => s.order
  | .sortQuick lt mo => SetSt.sortQuick lt s mo
  | .sortMerge lt mo => SetSt.sortMerge lt s mo
  | .populate ks => s.addAll ks

/-- what the caller has to respect: `Order()` panics on an unordered set with elements; `mo` is an order in which
    the map can be ranged over -/
def Op.ok (s : SetSt) : Op → Prop
  | .order => s.list.isSome ∨ s.hash = []
  | .sortQuick _ mo => s.GoodOrder mo
  | .sortMerge _ mo => s.GoodOrder mo
  | _ => True

def runGen (ops : List Op) (s : SetSt) : Option SetSt := ops.foldlM Op.gen s
def runModel (ops : List Op) (s : SetSt) : SetSt := ops.foldl Op.model s

def Admissible : List Op → SetSt → Prop
  | [], _ => True
  | op :: rest, s => op.ok s ∧ Admissible rest (op.model s)

theorem order_reachable {s : SetSt} (hr : Reachable s) (h : s.list.isSome ∨ s.hash = []) : Reachable s.order := by
  cases hl : s.list with
  | some l =>
    have : s.order = s := by unfold SetSt.order; simp [hl]
    rw [this]; exact hr
  | none =>
    rcases h with h | h
    · rw [hl] at h; cases h
    · exact .order hr h

end FunProofs.GenTieSet
