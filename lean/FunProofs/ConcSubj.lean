import FunProofs.ConcStep
import FunProofs.ListAux

/-! The small-step machine `FunModel.Conc` seen from the *subject*: runs that carry the log of executed
    segments (`Reach'`), the bookkeeping invariant `RInv` of such a log, and induction over the segments
    of a run (`Reach'.induction`): nothing but `sub.start` / `sub.resume` changes the subject state.
    C05 and C20 are stated over `Reach'`. `Reach'.reach` forgets the log (`Conc.Reach` is defined in
    FunProofs/ConcStep.lean). FunProofs/Conc.lean, which this module does not import, has an `initSys`, an
    `Ev` (of `ReachT`) and a `runActs` of its own; a module that opens both namespaces has to qualify them. -/
namespace FunModel.ConcSubj
open FunModel.Conc
variable {σ Op : Type}

/-- the initial system of `runCase`; the same term as `Conc.initSys` -/
def initSys (init : σ) (programs : List (List Op)) : Sys σ Op :=
  { subj := init, ths := programs.map (fun p => { ops := p, st := if p.isEmpty then .done else .idle }) }

/-- what happened in one action, as far as the subject is concerned -/
inductive Ev (σ Op : Type) where
  | seg (t pc : Nat) (op : Op) (first : Bool) (cancelled : Bool) (pre : σ) (out : SegOut σ)
  | env (a : Act)

def evOf (sub : Subject σ Op) (s : Sys σ Op) : Act → Ev σ Op
  | .start t =>
    match s.ths[t]? with
    | some th =>
      match th.ops[th.pc]? with
      | some op => .seg t th.pc op true false s.subj (sub.start s.subj t op)
      | none => .env (.start t)
    | none => .env (.start t)
  | .resume t =>
    match s.ths[t]? with
    | some th =>
      match th.ops[th.pc]? with
      | some op => .seg t th.pc op false th.cancelled s.subj (sub.resume s.subj t op th.cancelled)
      | none => .env (.resume t)
    | none => .env (.resume t)
  | .cancel t => .env (.cancel t)
  | .fire t => .env (.fire t)

inductive Reach' (sub : Subject σ Op) (s0 : Sys σ Op) : List (Ev σ Op) → Sys σ Op → Prop where
  | init : Reach' sub s0 [] s0
  | step {log s a s' obs} : Reach' sub s0 log s → a ∈ enabled s true → step sub s a = some (s', obs) →
      Reach' sub s0 (log ++ [evOf sub s a]) s'

theorem initSys_wf (init : σ) (programs : List (List Op)) : (initSys init programs).WF :=
  .of_none_parked rfl fun _ _ h c hc => by rcases initThs_st h with e | e <;> rw [e] at hc <;> cases hc

theorem Reach'.reach {sub : Subject σ Op} {s0 s : Sys σ Op} {log : List (Ev σ Op)} (h : Reach' sub s0 log s) :
    Reach sub s0 s := by
  induction h with
  | init => exact .init
  | step _ hen hs ih => exact .step ih hen hs

theorem Reach'.wf {sub : Subject σ Op} {s0 s : Sys σ Op} {log : List (Ev σ Op)} (h : Reach' sub s0 log s)
    (h0 : s0.WF) : s.WF :=
  h.reach.wf h0

-- `Conc.mem_enabled_cancel` (as an implication) and `Conc.modTh_subj` / `Conc.modTh_parked` again: inside
-- `ConcSubj` the short names mean these
theorem mem_enabled_cancel {s : Sys σ Op} {b : Bool} {t : Nat} (h : Act.cancel t ∈ enabled s b) :
    ∃ th, s.ths[t]? = some th ∧ (th.st = .woken ∨ ∃ c, th.st = .parked c) ∧ th.cancelled = false :=
  (Conc.mem_enabled_cancel.1 h).2

@[simp] theorem modTh_subj (s : Sys σ Op) (i : Nat) (f : Th Op → Th Op) : (modTh s i f).subj = s.subj := rfl
@[simp] theorem modTh_parked (s : Sys σ Op) (i : Nat) (f : Th Op → Th Op) : (modTh s i f).parked = s.parked := rfl

/-- `a` differs from `s` only by wake-ups of threads that are in a condition queue of `s` and by
    helper bookkeeping -/
structure Quiet (s a : Sys σ Op) : Prop where
  subj : a.subj = s.subj
  len : a.ths.length = s.ths.length
  th : ∀ i th, s.ths[i]? = some th → ∃ th', a.ths[i]? = some th' ∧ th'.ops = th.ops ∧ th'.pc = th.pc ∧
        th'.cancelled = th.cancelled ∧ (th'.st = th.st ∨ (th'.st = .woken ∧ ∃ c, (i, c) ∈ s.parked))
  parked : ∀ p ∈ a.parked, p ∈ s.parked ∧
        ∀ th th', s.ths[p.1]? = some th → a.ths[p.1]? = some th' → th'.st = th.st

theorem Quiet.wake {s a : Sys σ Op} (h : Quiet s a) (w c : Nat) (hw : (w, c) ∈ s.parked) :
    Quiet s (Conc.wake a w) := by
  refine ⟨h.subj, by simp [Conc.wake, h.len], ?_, ?_⟩
  · intro j th hj
    obtain ⟨th', h1, h2, h3, h4, h5⟩ := h.th j th hj
    rw [wake_get, h1]
    by_cases hjw : j = w
    · subst hjw; exact ⟨th'.wake, by simp, h2, h3, h4, Or.inr ⟨rfl, c, hw⟩⟩
    · exact ⟨th', by simp [hjw], h2, h3, h4, h5⟩
  · intro p hp
    rw [wake_parked, List.mem_filter, bne_iff_ne] at hp
    obtain ⟨h1, h2⟩ := h.parked p hp.1
    refine ⟨h1, fun th th' hs ha => h2 th th' hs ?_⟩
    rwa [wake_get, if_neg hp.2] at ha

theorem Quiet.signal {s a : Sys σ Op} (h : Quiet s a) (c : Nat) : Quiet s (Conc.signal a c).1 := by
  unfold Conc.signal
  cases hf : a.parked.find? (fun p => p.2 == c) with
  | none => exact h
  | some p => exact h.wake p.1 p.2 (h.parked p (List.mem_of_find?_eq_some hf)).1

theorem Quiet.foldl_wake {s : Sys σ Op} (ws : List Nat) (hws : ∀ w ∈ ws, ∃ c, (w, c) ∈ s.parked) :
    ∀ a : Sys σ Op, Quiet s a → Quiet s (ws.foldl Conc.wake a) := by
  induction ws with
  | nil => intro a h; exact h
  | cons w rest ih =>
    intro a h
    obtain ⟨c, hc⟩ := hws w (List.mem_cons_self)
    exact ih (fun w' hw' => hws w' (List.mem_cons_of_mem _ hw')) _ (h.wake w c hc)

theorem Quiet.broadcast {s a : Sys σ Op} (h : Quiet s a) (c : Nat) : Quiet s (Conc.broadcast a c).1 := by
  unfold Conc.broadcast
  apply Quiet.foldl_wake _ _ _ h
  intro w hw
  simp only [List.mem_map, List.mem_filter] at hw
  obtain ⟨p, ⟨hp, _⟩, rfl⟩ := hw
  exact ⟨p.2, (h.parked p hp).1⟩

def ParkedOK (s : Sys σ Op) : Prop := ∀ p ∈ s.parked, ∃ th, s.ths[p.1]? = some th ∧ th.st = .parked p.2

theorem parkedOK_of_wf {s : Sys σ Op} (h : s.WF) : ParkedOK s := fun p hp => (h.parked_iff p.1 p.2).1 hp

/-- what an action may do to a thread that is not the acting one: wake it (`Conc.ThWake`, which the proofs
    below use, says it of the whole record) -/
def OtherSame (th th' : Th Op) : Prop :=
  th'.ops = th.ops ∧ th'.pc = th.pc ∧ th'.cancelled = th.cancelled ∧
    (th'.st = th.st ∨ (th'.st = .woken ∧ ∃ c, th.st = .parked c))

theorem OtherSame.rfl' (th : Th Op) : OtherSame th th := ⟨rfl, rfl, rfl, Or.inl rfl⟩

/-- the segment of `op` that thread `t` runs in subject state `s` (`first`: the invocation; otherwise a
    re-check after a wake-up with context flag `c`) -/
def segOut (sub : Subject σ Op) (s : σ) (t : Nat) (op : Op) (first c : Bool) : SegOut σ :=
  if first then sub.start s t op else sub.resume s t op c

/-- `step_seg` and `step_env` of FunProofs/ConcStep.lean in the shape `RInv.step` and `Reach'.induction`
    take apart. `helpers` is left open: nothing here speaks of helper goroutines. -/
inductive StepInfo (sub : Subject σ Op) (s : Sys σ Op) (a : Act) (s' : Sys σ Op) : Prop where
  | seg (t : Nat) (th : Th Op) (op : Op) (first : Bool) (o : SegOut σ) (helpers : List Helper)
      (hth : s.ths[t]? = some th)
      (hop : th.ops[th.pc]? = some op)
      (hst : th.st = if first then .idle else .woken)
      (ho : o = segOut sub s.subj t op first (if first then false else th.cancelled))
      (hev : evOf sub s a = .seg t th.pc op first (if first then false else th.cancelled) s.subj o)
      (hsubj : s'.subj = o.st)
      (hth' : s'.ths[t]? =
        some (finTh o.fin { th with cancelled := if first then false else th.cancelled, helpers := helpers }))
      (hoth : ∀ i thi, i ≠ t → s.ths[i]? = some thi → ∃ thi', s'.ths[i]? = some thi' ∧ ThWake thi thi')
  | env
      (hev : evOf sub s a = .env a)
      (hsubj : s'.subj = s.subj)
      (hths : ∀ i thi, s.ths[i]? = some thi → ∃ thi', s'.ths[i]? = some thi' ∧ EnvTh a i thi thi')

theorem step_info {sub : Subject σ Op} {s s' : Sys σ Op} {a : Act} {obs : String} (hwf : s.WF)
    (hen : a ∈ enabled s true) (h : step sub s a = some (s', obs)) : StepInfo sub s a s' := by
  rcases a.seg_or_env with ⟨t, ha⟩ | ⟨t, ha⟩
  · obtain ⟨th0, op, o, hseg, r⟩ := step_seg hwf hen h ha
    cases hseg with
    | @start th op hth hst hop =>
      exact .seg t th op true (sub.start s.subj t op) _ hth hop hst rfl (by simp [evOf, hth, hop]) r.subj r.self r.other
    | resume hth hst hop =>
      exact .seg t th0 op false (sub.resume s.subj t op th0.cancelled) _ hth hop hst rfl (by simp [evOf, hth, hop])
        r.subj r.self r.other
  · obtain ⟨hsubj, hths⟩ := step_env hwf hen h ha
    exact .env (by rcases ha with rfl | rfl <;> rfl) hsubj fun i => (hths i).2

/-- the returning segment of thread `t` recorded by an event: (program counter, operation) -/
def Ev.retOf (t : Nat) : Ev σ Op → Option (Nat × Op)
  | .seg t' pc op _ _ _ o => if t' = t then (match o.fin with | .ret _ => some (pc, op) | .park _ => none) else none
  | .env _ => none

def Ev.isStartOf (t : Nat) : Ev σ Op → Prop
  | .seg t' _ _ first _ _ _ => t' = t ∧ first = true
  | .env _ => False

def Ev.thread : Ev σ Op → Option Nat
  | .seg t _ _ _ _ _ _ => some t
  | .env _ => none

/-- operations of thread `t` that have returned, in the order of the log -/
def retOps (log : List (Ev σ Op)) (t : Nat) : List Op := (log.filterMap (Ev.retOf t)).map (·.2)
def retPcs (log : List (Ev σ Op)) (t : Nat) : List Nat := (log.filterMap (Ev.retOf t)).map (·.1)

/-- how the log of a run from `initSys i programs` and the threads' records fit together: an operation
    instance is (thread, program counter), and the log holds its segments in order, the invocation first -/
structure RInv (programs : List (List Op)) (log : List (Ev σ Op)) (s : Sys σ Op) : Prop where
  parkedOK : ParkedOK s
  len : s.ths.length = programs.length
  ops : ∀ (t : Nat) (th : Th Op), s.ths[t]? = some th → programs[t]? = some th.ops
  /-- `pc` counts the returned operations: they are the first `pc` operations of the program, in order -/
  rops : ∀ (t : Nat) (th : Th Op), s.ths[t]? = some th → retOps log t = th.ops.take th.pc
  /-- … and each returned once, at the program counters `0, …, pc - 1` -/
  rpcs : ∀ (t : Nat) (th : Th Op), s.ths[t]? = some th → retPcs log t = List.range th.pc
  /-- a thread is parked or woken only inside its current operation: the operation's first segment is in
      the log and some segment of it parked -/
  inflight : ∀ (t : Nat) (th : Th Op), s.ths[t]? = some th → (th.st = .woken ∨ ∃ c, th.st = .parked c) →
    ∃ op, th.ops[th.pc]? = some op ∧ (∃ c pre out, Ev.seg t th.pc op true c pre out ∈ log) ∧
      (∃ first c pre out cnd, Ev.seg t th.pc op first c pre out ∈ log ∧ out.fin = .park cnd)
  /-- the context flag is raised only by a `cancel` action after the invocation of the current operation -/
  cancelled : ∀ (t : Nat) (th : Th Op), s.ths[t]? = some th → th.cancelled = true →
    ∃ l1 l2, log = l1 ++ [Ev.env (.cancel t)] ++ l2 ∧ ∀ ev ∈ l2, ¬ ev.isStartOf t
  segs : ∀ t pc op first c pre out, Ev.seg t pc op first c pre out ∈ log → ∃ p, programs[t]? = some p ∧ p[pc]? = some op
  /-- the segments of a thread in the log belong to operations it has returned from, or to its current
      operation if it is inside one (parked or woken) -/
  fresh : ∀ (t : Nat) (th : Th Op), s.ths[t]? = some th → ∀ pc op first c pre out, Ev.seg t pc op first c pre out ∈ log →
    pc < th.pc ∨ (pc = th.pc ∧ (th.st = .woken ∨ ∃ cnd, th.st = .parked cnd))

/-- what `RInv` says of one thread `t` with record `th` -/
structure ThInv (programs : List (List Op)) (log : List (Ev σ Op)) (t : Nat) (th : Th Op) : Prop where
  ops : programs[t]? = some th.ops
  rops : retOps log t = th.ops.take th.pc
  rpcs : retPcs log t = List.range th.pc
  inflight : (th.st = .woken ∨ ∃ c, th.st = .parked c) →
    ∃ op, th.ops[th.pc]? = some op ∧ (∃ c pre out, Ev.seg t th.pc op true c pre out ∈ log) ∧
      (∃ first c pre out cnd, Ev.seg t th.pc op first c pre out ∈ log ∧ out.fin = .park cnd)
  cancelled : th.cancelled = true →
    ∃ l1 l2, log = l1 ++ [Ev.env (.cancel t)] ++ l2 ∧ ∀ ev ∈ l2, ¬ ev.isStartOf t
  fresh : ∀ pc op first c pre out, Ev.seg t pc op first c pre out ∈ log →
    pc < th.pc ∨ (pc = th.pc ∧ (th.st = .woken ∨ ∃ cnd, th.st = .parked cnd))

theorem RInv.thInv {programs : List (List Op)} {log : List (Ev σ Op)} {s : Sys σ Op} (hI : RInv programs log s)
    {t : Nat} {th : Th Op} (h : s.ths[t]? = some th) : ThInv programs log t th :=
  ⟨hI.ops t th h, hI.rops t th h, hI.rpcs t th h, hI.inflight t th h, hI.cancelled t th h, hI.fresh t th h⟩

theorem RInv.of_thInv {programs : List (List Op)} {log : List (Ev σ Op)} {s : Sys σ Op} (hG : ParkedOK s)
    (hlen : s.ths.length = programs.length)
    (hth : ∀ (t : Nat) (th : Th Op), s.ths[t]? = some th → ThInv programs log t th)
    (hsegs : ∀ t pc op first c pre out, Ev.seg t pc op first c pre out ∈ log →
      ∃ p, programs[t]? = some p ∧ p[pc]? = some op) : RInv programs log s :=
  ⟨hG, hlen, fun t th h => (hth t th h).ops, fun t th h => (hth t th h).rops, fun t th h => (hth t th h).rpcs,
   fun t th h => (hth t th h).inflight, fun t th h => (hth t th h).cancelled, hsegs, fun t th h => (hth t th h).fresh⟩

theorem RInv.init (i : σ) (programs : List (List Op)) : RInv programs ([] : List (Ev σ Op)) (initSys i programs) := by
  refine .of_thInv (parkedOK_of_wf (initSys_wf i programs)) (by simp [initSys]) ?_ (fun _ _ _ _ _ _ _ h => by cases h)
  intro t th h
  obtain ⟨p, h1, rfl⟩ := initThs_get h
  refine ⟨h1, rfl, rfl, fun hst => ?_, fun hc => (by cases hc), fun _ _ _ _ _ _ h => (by cases h)⟩
  rcases initThs_st h with e | e <;> rw [e] at hst <;> simp at hst

theorem retOps_snoc (log : List (Ev σ Op)) (ev : Ev σ Op) (t : Nat) :
    retOps (log ++ [ev]) t = retOps log t ++ (Ev.retOf t ev).toList.map (·.2) := by
  rw [retOps, List.filterMap_snoc, List.map_append]; rfl

theorem retPcs_snoc (log : List (Ev σ Op)) (ev : Ev σ Op) (t : Nat) :
    retPcs (log ++ [ev]) t = retPcs log t ++ (Ev.retOf t ev).toList.map (·.1) := by
  rw [retPcs, List.filterMap_snoc, List.map_append]; rfl

theorem cancelled_snoc {log : List (Ev σ Op)} {t : Nat} {ev : Ev σ Op} (hev : ¬ ev.isStartOf t)
    (h : ∃ l1 l2, log = l1 ++ [Ev.env (.cancel t)] ++ l2 ∧ ∀ ev ∈ l2, ¬ ev.isStartOf t) :
    ∃ l1 l2, log ++ [ev] = l1 ++ [Ev.env (.cancel t)] ++ l2 ∧ ∀ ev ∈ l2, ¬ ev.isStartOf t := by
  obtain ⟨l1, l2, e1, e2⟩ := h
  refine ⟨l1, l2 ++ [ev], by simp [e1], fun ev' hev' => ?_⟩
  rcases List.mem_append.1 hev' with h' | h'
  · exact e2 ev' h'
  · rw [List.mem_singleton.1 h']; exact hev

/-- an event that is not a segment of thread `i` leaves what `RInv` says of `i` untouched, whatever
    wake-up or cancellation happens to `i` meanwhile -/
theorem ThInv.frame {programs : List (List Op)} {log : List (Ev σ Op)} {i : Nat} {th th' : Th Op}
    (h : ThInv programs log i th) {ev : Ev σ Op} (hev : ev.thread ≠ some i) (hops : th'.ops = th.ops)
    (hpc : th'.pc = th.pc) (hst : th'.st = th.st ∨ (th'.st = .woken ∧ ∃ c, th.st = .parked c))
    (hcan : th'.cancelled = th.cancelled ∨ ev = .env (.cancel i)) : ThInv programs (log ++ [ev]) i th' := by
  have hret : Ev.retOf i ev = none := by
    cases ev with
    | env a => rfl
    | seg t' pc op f c pre o => exact if_neg fun e => hev (congrArg some e)
  have hmem : ∀ {pc op f c pre out}, Ev.seg i pc op f c pre out ∈ log ++ [ev] → Ev.seg i pc op f c pre out ∈ log := by
    intro pc op f c pre out hm
    rcases List.mem_append.1 hm with hm | hm
    · exact hm
    · rw [← List.mem_singleton.1 hm] at hev; exact absurd rfl hev
  refine ⟨hops ▸ h.ops, ?_, ?_, ?_, ?_, ?_⟩
  · rw [retOps_snoc, hret, hops, hpc, ← h.rops]; simp
  · rw [retPcs_snoc, hret, hpc, ← h.rpcs]; simp
  · intro hw
    obtain ⟨op, e1, ⟨c, pre, out, e2⟩, ⟨f, c3, pre3, out3, cnd, e3, e4⟩⟩ := h.inflight ((waiting_iff_of_wake hst).1 hw)
    rw [hops, hpc]
    exact ⟨op, e1, ⟨c, pre, out, List.mem_append_left _ e2⟩, ⟨f, c3, pre3, out3, cnd, List.mem_append_left _ e3, e4⟩⟩
  · intro hc
    rcases hcan with hcan | rfl
    · refine cancelled_snoc ?_ (h.cancelled (hcan ▸ hc))
      cases ev with
      | env a => exact id
      | seg t' pc op f c pre o => exact fun e => hev (congrArg some e.1)
    · exact ⟨log, [], by simp, by simp⟩
  · intro pc op f c pre out hm
    rw [hpc]
    rcases h.fresh _ _ _ _ _ _ (hmem hm) with h1 | ⟨h1, h2⟩
    · exact Or.inl h1
    · refine Or.inr ⟨h1, ?_⟩
      rcases hst with e | ⟨e, _⟩
      · rw [e]; exact h2
      · exact Or.inl e

theorem ThInv.seg {programs : List (List Op)} {log : List (Ev σ Op)} {t : Nat} {th : Th Op} {op : Op}
    {first : Bool} {pre : σ} {o : SegOut σ} {hs : List Helper} (h : ThInv programs log t th)
    (hop : th.ops[th.pc]? = some op) (hst : th.st = if first then .idle else .woken) :
    ThInv programs (log ++ [.seg t th.pc op first (if first then false else th.cancelled) pre o]) t
      (finTh o.fin { th with cancelled := if first then false else th.cancelled, helpers := hs }) := by
  refine ⟨by rw [finTh_ops]; exact h.ops, ?_, ?_, ?_, ?_, ?_⟩
  · -- a returning segment logs `(pc, op)` and moves `pc` on: `take (pc + 1) = take pc ++ [op]`; a parking one logs nothing
    rw [retOps_snoc, h.rops, finTh_ops]
    cases hf : o.fin <;> simp [Ev.retOf, hf, finTh, List.take_add_one, hop]
  · rw [retPcs_snoc, h.rpcs]
    cases hf : o.fin <;> simp [Ev.retOf, hf, finTh, List.range_succ]
  · intro hw
    obtain ⟨c, hf⟩ := finTh_waiting_iff.1 hw
    rw [hf]
    refine ⟨op, hop, ?_, first, _, pre, o, c, List.mem_append_right _ (List.mem_singleton_self _), hf⟩
    cases first with
    | true => exact ⟨_, pre, o, List.mem_append_right _ (List.mem_singleton_self _)⟩
    | false =>
      obtain ⟨op2, e1, ⟨c2, pre2, out2, e2⟩, -⟩ := h.inflight (Or.inl hst)
      rw [hop] at e1; cases e1
      exact ⟨c2, pre2, out2, List.mem_append_left _ e2⟩
  · rw [finTh_cancelled]
    intro hc
    cases first with
    | true => cases hc
    | false => exact cancelled_snoc (fun e => by cases e.2) (h.cancelled hc)
  · intro pc2 op2 first2 c2 pre2 out2 hmem
    have hold : pc2 ≤ th.pc := by
      rcases List.mem_append.1 hmem with hmem | hmem
      · rcases h.fresh _ _ _ _ _ _ hmem with h1 | ⟨h1, _⟩ <;> omega
      · cases List.mem_singleton.1 hmem; exact Nat.le_refl _
    cases o.fin with
    | ret r => exact Or.inl (Nat.lt_succ_of_le hold)
    | park cnd => exact (Nat.lt_or_eq_of_le hold).imp_right fun e => ⟨e, Or.inr ⟨cnd, rfl⟩⟩

theorem RInv.step {sub : Subject σ Op} {programs : List (List Op)} {log : List (Ev σ Op)} {s s' : Sys σ Op}
    {a : Act} {obs : String} (hI : RInv programs log s) (hwf : s.WF) (hen : a ∈ enabled s true)
    (h : step sub s a = some (s', obs)) : RInv programs (log ++ [evOf sub s a]) s' := by
  have hlen' := step_length hwf hen h
  have hback : ∀ {i : Nat} {thi' : Th Op}, s'.ths[i]? = some thi' → ∃ thi, s.ths[i]? = some thi :=
    fun hi => ⟨_, List.getElem?_eq_getElem (hlen' ▸ (List.getElem?_eq_some_iff.1 hi).1)⟩
  refine .of_thInv (parkedOK_of_wf (step_wf hwf hen h)) (hlen'.trans hI.len) ?_ ?_
  · intro i thi' hi
    obtain ⟨thi, hthi⟩ := hback hi
    cases step_info hwf hen h with
    | seg t th op first o hs hth hop hst ho hev hsubj hth' hoth =>
      rw [hev]
      by_cases hne : i = t
      · subst hne; rw [hth'] at hi; cases hi
        exact (hI.thInv hth).seg hop hst
      · obtain ⟨thi2, g1, g2⟩ := hoth i thi hne hthi
        rw [hi] at g1; cases g1
        exact (hI.thInv hthi).frame (fun e => hne (Option.some.inj e).symm) g2.ops g2.pc g2.st (Or.inl g2.cancelled)
    | env hev hsubj hths =>
      rw [hev]
      obtain ⟨thi2, g1, g2, g3, g4, g5⟩ := hths i thi hthi
      rw [hi] at g1; cases g1
      exact (hI.thInv hthi).frame (fun e => by cases e) g2 g3 g4 (g5.imp_right fun e => congrArg Ev.env e.1)
  · intro t2 pc2 op2 first2 c2 pre2 out2 hmem
    rcases List.mem_append.1 hmem with hmem | hmem
    · exact hI.segs _ _ _ _ _ _ _ hmem
    · cases step_info hwf hen h with
      | seg t th op first o hs hth hop hst ho hev hsubj hth' hoth =>
        rw [hev] at hmem; cases List.mem_singleton.1 hmem
        exact ⟨th.ops, hI.ops _ th hth, hop⟩
      | env hev hsubj hths => rw [hev] at hmem; cases List.mem_singleton.1 hmem

theorem Reach'.rinv {sub : Subject σ Op} {i : σ} {programs : List (List Op)} {log : List (Ev σ Op)} {s : Sys σ Op}
    (h : Reach' sub (initSys i programs) log s) : RInv programs log s := by
  induction h with
  | init => exact RInv.init i programs
  | step hr hen hs ih => exact ih.step (hr.wf (initSys_wf i programs)) hen hs

def CanPark (sub : Subject σ Op) (op : Op) : Prop :=
  ∃ s t first c cnd, (segOut sub s t op first c).fin = .park cnd

/-- only an operation that can park is ever parked or woken, hence resumed -/
theorem Reach'.canPark {sub : Subject σ Op} {i : σ} {programs : List (List Op)} {log : List (Ev σ Op)} {s : Sys σ Op}
    (h : Reach' sub (initSys i programs) log s) : WaitingIn (CanPark sub) s := by
  refine h.reach.waitingIn (initSys_wf i programs) (fun u th hth hst => ?_) fun s _ t _ op _ hseg c hc => ?_
  · rcases initThs_st hth with e | e <;> rw [e] at hst <;> simp at hst
  · cases hseg with
    | start _ _ _ => exact ⟨_, t, true, false, c, hc⟩
    | resume _ _ _ => exact ⟨_, t, false, _, c, hc⟩

/-- **Induction over the segments of a run.** The subject state of a run from an initial system is
    changed by nothing but the segments `sub.start` (with a live context) and `sub.resume`; a `resume`
    segment only ever runs for an operation that can park. -/
theorem Reach'.induction {sub : Subject σ Op} {i : σ} {programs : List (List Op)}
    (I : List (Ev σ Op) → σ → Prop) (h0 : I [] i)
    (hseg : ∀ log s t pc op first c, I log s → (first = true → c = false) → (first = false → CanPark sub op) →
      I (log ++ [.seg t pc op first c s (segOut sub s t op first c)]) (segOut sub s t op first c).st)
    (henv : ∀ log s a, I log s → I (log ++ [.env a]) s)
    {log : List (Ev σ Op)} {s : Sys σ Op} (h : Reach' sub (initSys i programs) log s) : I log s.subj := by
  induction h with
  | init => exact h0
  | @step log s a s' obs hr hen hs ih =>
    cases step_info (hr.wf (initSys_wf i programs)) hen hs with
    | seg t th op first o hs hth hop hst ho hev hsubj hth' hoth =>
      rw [hev, hsubj, ho]
      apply hseg _ _ _ _ _ _ _ ih
      · intro hf; simp [hf]
      · intro hf
        subst hf
        obtain ⟨op2, e1, hp⟩ := hr.canPark t th hth (Or.inl hst)
        rw [hop] at e1; cases e1
        exact hp
    | env hev hsubj hths =>
      rw [hev, hsubj]
      exact henv _ _ _ ih

theorem Reach'.prefix {sub : Subject σ Op} {s0 s : Sys σ Op} {l1 l2 : List (Ev σ Op)}
    (h : Reach' sub s0 (l1 ++ l2) s) : ∃ s1, Reach' sub s0 l1 s1 := by
  generalize hl : l1 ++ l2 = log at h
  induction h generalizing l2 with
  | init =>
    have : l1 = [] := (List.append_eq_nil_iff.1 hl).1
    subst this; exact ⟨_, Reach'.init⟩
  | @step log s a s' obs hr hen hs ih =>
    rcases List.eq_nil_or_concat l2 with rfl | ⟨l2', e, rfl⟩
    · rw [List.append_nil] at hl; subst hl
      exact ⟨_, Reach'.step hr hen hs⟩
    · rw [List.concat_eq_append, ← List.append_assoc] at hl
      have := List.append_inj' hl rfl
      exact ih this.1

theorem Reach'.snoc_inv {sub : Subject σ Op} {s0 s : Sys σ Op} {l : List (Ev σ Op)} {ev : Ev σ Op}
    (h : Reach' sub s0 (l ++ [ev]) s) :
    ∃ s1 a obs, Reach' sub s0 l s1 ∧ a ∈ enabled s1 true ∧ Conc.step sub s1 a = some (s, obs) ∧ ev = evOf sub s1 a := by
  generalize hl : l ++ [ev] = log at h
  cases h with
  | init => simp at hl
  | @step log' s1 a s' obs hr hen hs =>
    have := List.append_inj' hl rfl
    obtain ⟨e1, e2⟩ := this
    subst e1
    simp only [List.cons.injEq, and_true] at e2
    exact ⟨s1, a, obs, hr, hen, hs, e2⟩

theorem Reach'.split {sub : Subject σ Op} {s0 s : Sys σ Op} {l1 l2 : List (Ev σ Op)} {ev : Ev σ Op}
    (h : Reach' sub s0 (l1 ++ ev :: l2) s) :
    ∃ s1 a s2 obs, Reach' sub s0 l1 s1 ∧ a ∈ enabled s1 true ∧ Conc.step sub s1 a = some (s2, obs) ∧ ev = evOf sub s1 a := by
  have : l1 ++ ev :: l2 = (l1 ++ [ev]) ++ l2 := by simp
  rw [this] at h
  obtain ⟨s2, h2⟩ := h.prefix
  obtain ⟨s1, a, obs, g1, g2, g3, g4⟩ := h2.snoc_inv
  exact ⟨s1, a, s2, obs, g1, g2, g3, g4⟩

theorem Reach'.at_seg {sub : Subject σ Op} {i : σ} {programs : List (List Op)} {s : Sys σ Op}
    {l1 l2 : List (Ev σ Op)} {t pc : Nat} {op : Op} {first c : Bool} {pre : σ} {out : SegOut σ}
    (h : Reach' sub (initSys i programs) (l1 ++ Ev.seg t pc op first c pre out :: l2) s) :
    ∃ s1 th, RInv programs l1 s1 ∧ s1.ths[t]? = some th ∧ th.pc = pc ∧ th.ops[pc]? = some op ∧
      th.st = (if first then .idle else .woken) ∧ c = (if first then false else th.cancelled) := by
  obtain ⟨s1, a, s2, obs, hr, hen, hs, hev⟩ := h.split
  cases step_info (hr.wf (initSys_wf i programs)) hen hs with
  | seg t' th op' first' o hs hth hop hst ho hev' hsubj hth' hoth =>
    rw [hev'] at hev; cases hev
    exact ⟨s1, th, hr.rinv, hth, rfl, hop, hst, rfl⟩
  | env hev' hsubj hths => rw [hev'] at hev; cases hev

/-- Every segment of an operation instance (thread `t`, program counter `pc`) is its invocation segment or
    is preceded in the log by it. (A linearization point is one of the instance's segments, so it does not
    come before the invocation: C05 `lin_point_within_operation`.) -/
theorem Reach'.invocation_before {sub : Subject σ Op} {i : σ} {programs : List (List Op)} {s : Sys σ Op}
    {l1 l2 : List (Ev σ Op)} {t pc : Nat} {op : Op} {first c : Bool} {pre : σ} {out : SegOut σ}
    (h : Reach' sub (initSys i programs) (l1 ++ Ev.seg t pc op first c pre out :: l2) s) :
    first = true ∨ ∃ c' pre' out', Ev.seg t pc op true c' pre' out' ∈ l1 := by
  obtain ⟨s1, th, hI, hth, rfl, hop, hst, -⟩ := h.at_seg
  cases first with
  | true => exact Or.inl rfl
  | false =>
    obtain ⟨op2, e1, e2, -⟩ := hI.inflight t th hth (Or.inl hst)
    rw [hop] at e1; cases e1
    exact Or.inr e2

/-- an operation's invocation is the first thing that happens in it -/
theorem Reach'.invocation_first {sub : Subject σ Op} {i : σ} {programs : List (List Op)} {s : Sys σ Op}
    {l1 l2 : List (Ev σ Op)} {t pc : Nat} {op : Op} {c : Bool} {pre : σ} {out : SegOut σ}
    (h : Reach' sub (initSys i programs) (l1 ++ Ev.seg t pc op true c pre out :: l2) s) :
    ∀ pc' op' f' c' pre' out', Ev.seg t pc' op' f' c' pre' out' ∈ l1 → pc' < pc := by
  obtain ⟨s1, th, hI, hth, rfl, hop, hst, -⟩ := h.at_seg
  intro pc' op2 f' c' pre' out' hmem
  rcases hI.fresh t th hth _ _ _ _ _ _ hmem with h1 | ⟨_, h2⟩
  · exact h1
  · rw [show th.st = .idle from hst] at h2
    rcases h2 with h2 | ⟨_, h2⟩ <;> cases h2

theorem Reach'.cancel_before {sub : Subject σ Op} {i : σ} {programs : List (List Op)} {s : Sys σ Op}
    {l1 l2 : List (Ev σ Op)} {t pc : Nat} {op : Op} {first : Bool} {pre : σ} {out : SegOut σ}
    (h : Reach' sub (initSys i programs) (l1 ++ Ev.seg t pc op first true pre out :: l2) s) :
    first = false ∧ ∃ l1a l1b, l1 = l1a ++ [Ev.env (.cancel t)] ++ l1b ∧ ∀ ev ∈ l1b, ¬ ev.isStartOf t := by
  obtain ⟨s1, th, hI, hth, -, -, -, hc⟩ := h.at_seg
  cases first with
  | true => cases hc
  | false => exact ⟨rfl, hI.cancelled t th hth hc.symm⟩

theorem Reach'.trans {sub : Subject σ Op} {s0 s1 s2 : Sys σ Op} {l1 l2 : List (Ev σ Op)}
    (h1 : Reach' sub s0 l1 s1) (h2 : Reach' sub s1 l2 s2) : Reach' sub s0 (l1 ++ l2) s2 := by
  induction h2 with
  | init => simpa using h1
  | step _ hen hs ih => rw [← List.append_assoc]; exact Reach'.step ih hen hs

/-- run a list of actions, each of which must be enabled (for the non-vacuity examples) -/
def runActs (sub : Subject σ Op) (s : Sys σ Op) : List Act → Option (Sys σ Op × List (Ev σ Op))
  | [] => some (s, [])
  | a :: rest =>
    if a ∈ enabled s true then
      match step sub s a with
      | some (s', _) =>
        match runActs sub s' rest with
        | some (s'', l) => some (s'', evOf sub s a :: l)
        | none => none
      | none => none
    else none

theorem runActs_reach {sub : Subject σ Op} {acts : List Act} : ∀ {s s' : Sys σ Op} {log : List (Ev σ Op)},
    runActs sub s acts = some (s', log) → Reach' sub s log s' := by
  induction acts with
  | nil => intro s s' log h; cases h; exact .init
  | cons a rest ih =>
    intro s s' log h
    unfold runActs at h
    split at h
    · rename_i hen
      split at h
      · rename_i s1 obs hs
        split at h
        · rename_i s2 l hr
          cases h
          exact (Reach'.step .init hen hs).trans (ih hr)
        · cases h
      · cases h
    · cases h

theorem runActs_witness {sub : Subject σ Op} {s : Sys σ Op} {acts : List Act} (chk : Sys σ Op → List (Ev σ Op) → Bool)
    (h : (match runActs sub s acts with | some (s', log) => chk s' log | none => false) = true) :
    ∃ log s', Reach' sub s log s' ∧ chk s' log = true := by
  cases hr : runActs sub s acts with
  | none => simp [hr] at h
  | some p =>
    obtain ⟨s', log⟩ := p
    simp only [hr] at h
    exact ⟨log, s', runActs_reach hr, h⟩

/-- the system `runCase` ends in -/
def runCaseSys (sub : Subject σ Op) (init : σ) (programs : List (List Op)) (choices : List Nat) : Sys σ Op :=
  (drain sub (runChoices sub (initSys init programs) choices []).1 200
    (runChoices sub (initSys init programs) choices []).2).1

/-- every case the driver runs (choice list, then the fixed drain policy) is a `Reach'` run -/
theorem runCase_reach (sub : Subject σ Op) (init : σ) (programs : List (List Op)) (choices : List Nat) :
    ∃ log, Reach' sub (initSys init programs) log (runCaseSys sub init programs choices) := by
  have hR : ∀ {s a s' obs}, (∃ log, Reach' sub (initSys init programs) log s) → a ∈ enabled s true →
      step sub s a = some (s', obs) → ∃ log, Reach' sub (initSys init programs) log s' :=
    fun ⟨_, hr⟩ hen hs => ⟨_, hr.step hen hs⟩
  exact drain_closed hR _ (runChoices_closed hR _ ⟨[], .init⟩ _) _

end FunModel.ConcSubj
