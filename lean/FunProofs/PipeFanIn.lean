import FunModel.Pipe
import FunProofs.ListAux

/-! The FanIn(n) process model (C01/C04), laid out as `PipeFeeder`: `Step`, the invariants (`Good`), `Quiet`. -/
namespace FunModel.Pipe.FanIn

variable {c : Cfg} {input : List Nat} {s s' : St} {a : Act}

inductive Step (c : Cfg) (s : St) : Act → St → Prop
  | close : 0 < s.closeBudget →
      Step c s .close { s with closed := true, envStopped := true, closeBudget := s.closeBudget - 1 }
  | cancel : 0 < s.cancelBudget →
      Step c s .cancel { s with ucancel := true, envStopped := true, cancelBudget := s.cancelBudget - 1 }
  | cStartDone : s.cons = .idle → s.wdone = true → Step c s .cStart { s with cons := .done }
  | cStartPark : s.cons = .idle → s.wdone = false → Step c s .cStart { s with cons := .parked, started := true }
  | cRecv {x rest} : s.cons = .parked → s.pipe = x :: rest →
      Step c s .cRecv { s with cons := .idle, pipe := rest, got := s.got ++ [x] }
  | cEof : s.cons = .parked → s.pipe = [] → s.pclosed = true → Step c s .cEof { s with cons := .done, closed := true }
  | cCtx : s.cons = .parked → s.wdone = true → Step c s .cCtx { s with cons := .done, closed := true }
  | pReadOwn {i p x xs} : s.prods[i]? = some p → s.started = true → p.exited = false → p.held = none →
      ¬ (c.srcChecksCtx = true ∧ s.wdone2 = true) → p.src = x :: xs →
      Step c s (.pRead i) { s with prods := s.prods.set i { p with src := xs, held := some x } }
  | pReadShared {i p x xs} : s.prods[i]? = some p → s.started = true → p.exited = false → p.held = none →
      ¬ (c.srcChecksCtx = true ∧ s.wdone2 = true) → p.src = [] → s.shared = x :: xs →
      Step c s (.pRead i) { s with prods := s.prods.set i { p with held := some x }, shared := xs }
  | pEof {i p} : s.prods[i]? = some p → s.started = true → p.exited = false → p.held = none → p.src = [] →
      s.shared = [] → Step c s (.pEof i) { s with prods := s.prods.set i { p with exited := true } }
  | pSend {i p x} : s.prods[i]? = some p → p.held = some x → s.started = true → p.exited = false →
      s.pclosed = false → s.pipe.length < c.cap →
      Step c s (.pSend i) { s with prods := s.prods.set i { p with held := none }, pipe := s.pipe ++ [x] }
  | pHandoff {i p x} : s.prods[i]? = some p → p.held = some x → s.started = true → p.exited = false →
      s.pclosed = false → s.cons = .parked → s.pipe = [] →
      Step c s (.pHandoff i) { s with prods := s.prods.set i { p with held := none }, cons := .idle, got := s.got ++ [x] }
  | pCtx {i p} : s.prods[i]? = some p → s.started = true → p.exited = false → s.wdone2 = true →
      Step c s (.pCtx i) { s with prods := s.prods.set i { p with held := none, exited := true },
                                  dropped := s.dropped ++ p.held.toList }
  | pSendClosed {i p x} : s.prods[i]? = some p → p.held = some x → s.started = true → p.exited = false →
      s.pclosed = true →
      Step c s (.pSendClosed i) { s with prods := s.prods.set i { p with held := none, exited := true },
                                         dropped := s.dropped ++ [x] }
  | kCancel : s.started = true → s.kst = .waiting → s.allProdsExited = true ∨ c.closerCtx = true ∧ s.wdone = true →
      Step c s .kCancel { s with wcancel := true, kst := .cancelled }
  | kClose : s.kst = .cancelled → Step c s .kClose { s with pclosed := true, kst := .exited }

theorem step_sound (hs : step c s a = some s') : Step c s a s' := by
  cases a <;> simp only [step] at hs <;> (repeat' (split at hs <;> try cases hs))
  all_goals (constructor <;> first | assumption | simp_all [St.wdone])

theorem step_complete (hs : Step c s a s') : step c s a = some s' := by
  cases hs <;> simp_all [step, St.wdone]

theorem stuck_step {p : Act → Prop} (hq : ∀ a, p a → step c s a = none) (hs : Step c s a s') (ha : p a) : False := by
  simpa [hq _ ha] using step_complete hs

def Conserved (input : List Nat) (s : St) : Prop := ∀ a, s.items.count a = input.count a

/-- holds in every run, stopped from outside or not -/
structure Inv (c : Cfg) (s : St) : Prop where
  kst_pclosed : s.kst = .exited → s.pclosed = true
  pclosed_kst : c.invalid = false → s.pclosed = true → s.kst = .exited
  /-- rejected options: the constructor closed the pipe; nothing is ever delivered -/
  invalid_closed : c.invalid = true → s.pclosed = true ∧ s.got = [] ∧ s.pipe = []
  kst_wcancel : s.kst ≠ .waiting ↔ s.wcancel = true
  notstarted : s.started = false → s.kst = .waiting ∧ s.cons ≠ .parked
  done_wdone : s.cons = .done → s.wdone = true
  exited_clear : ∀ (j : Nat) (p : Prod), s.prods[j]? = some p → p.exited = true → p.held = none

/-- while nothing stopped the run from outside -/
structure Clean (c : Cfg) (input : List Nat) (s : St) : Prop where
  dropped : s.dropped = []
  ucancel : s.ucancel = false
  exited_src : ∀ (j : Nat) (p : Prod), s.prods[j]? = some p → p.exited = true → p.src = [] ∧ s.shared = []
  /-- the closer cancels `wctx2` only because the wait-group drained -/
  wcancel : s.wcancel = true → ∀ (j : Nat) (p : Prod), s.prods[j]? = some p → p.exited = true
  /-- the iterator is closed only by its own consumer, at io.EOF -/
  closed : s.closed = true → s.cons = .done ∧ s.pipe = [] ∧ s.kst = .exited

theorem allProdsExited_iff (s : St) : s.allProdsExited = true ↔ ∀ (j : Nat) (p : Prod), s.prods[j]? = some p → p.exited = true := by
  simp only [St.allProdsExited, List.all_eq_true, List.mem_iff_getElem?, forall_exists_index]
  exact forall_comm

theorem inv_step (h : Inv c s) (hs : Step c s a s') : Inv c s' := by
  cases hs with
  | close | cancel => exact { h with done_wdone := fun _ => by simp [St.wdone] }
  | cStartDone _ hw => exact { h with notstarted := by have := h.notstarted; simp_all, done_wdone := fun _ => hw }
  | cStartPark => exact { h with notstarted := nofun, done_wdone := nofun }
  | cRecv =>
    exact { h with invalid_closed := by have := h.invalid_closed; simp_all
                   notstarted := by have := h.notstarted; simp_all
                   done_wdone := nofun }
  | cEof | cCtx =>
    exact { h with notstarted := by have := h.notstarted; simp_all, done_wdone := fun _ => by simp [St.wdone] }
  | pReadOwn _ _ he | pReadShared _ _ he =>
    exact { h with exited_clear := List.forall_getElem?_set_imp _ (by simp [he]) h.exited_clear }
  | pEof _ _ _ hh =>
    exact { h with exited_clear := List.forall_getElem?_set_imp _ (fun _ => hh) h.exited_clear }
  | pSend =>
    exact { h with invalid_closed := by have := h.invalid_closed; simp_all
                   exited_clear := List.forall_getElem?_set_imp _ (fun _ => rfl) h.exited_clear }
  | pHandoff _ _ hst =>
    exact { h with invalid_closed := by have := h.invalid_closed; simp_all
                   notstarted := by simp [hst]
                   done_wdone := nofun
                   exited_clear := List.forall_getElem?_set_imp _ (fun _ => rfl) h.exited_clear }
  | pCtx | pSendClosed => exact { h with exited_clear := List.forall_getElem?_set_imp _ (fun _ => rfl) h.exited_clear }
  | kCancel hst hk =>
    exact { h with kst_pclosed := nofun
                   pclosed_kst := fun hv hp => by simp [h.pclosed_kst hv hp] at hk
                   kst_wcancel := by simp
                   notstarted := by simp [hst] }
  | kClose =>
    exact { h with kst_pclosed := fun _ => rfl
                   pclosed_kst := fun _ _ => rfl
                   invalid_closed := fun hv => ⟨rfl, (h.invalid_closed hv).2⟩
                   kst_wcancel := by have := h.kst_wcancel; simp_all
                   notstarted := by have := h.notstarted; simp_all }

theorem conserved_step (h : Conserved input s) (hs : Step c s a s') : Conserved input s' := by
  intro b
  have hb := h b
  simp only [St.items, List.count_append, List.count_flatMap] at hb ⊢
  cases hs with
  | cRecv _ hp => simp only [hp, List.count_cons, List.count_nil, List.count_append] at hb ⊢; omega
  | pReadOwn hp | pReadShared hp | pEof hp | pSend hp | pHandoff hp | pCtx hp | pSendClosed hp =>
    -- the two sums over the producers, as the others' plus producer `i`'s share: old in `hb`, new in the goal
    simp only [← List.sum_map_eraseIdx _ hp] at hb
    simp only [List.sum_map_set_eq_eraseIdx _ _ hp]
    simp [List.count_cons, *] at hb ⊢; omega
  | _ => exact hb

theorem Step.envStopped (hs : Step c s a s') (he : s'.envStopped = false) : s.envStopped = false := by
  cases hs with
  | close | cancel => cases he
  | _ => exact he

/-- only the closer makes `wctx2` done, after the last producer left (Close of the output comes after the closer exited) -/
theorem Clean.allProdsExited (h : Clean c input s) (hi : Inv c s)
    (hw : s.wdone2 = true) : ∀ (j : Nat) (p : Prod), s.prods[j]? = some p → p.exited = true := by
  refine h.wcancel ?_
  cases hcl : s.closed with
  | true => exact hi.kst_wcancel.mp (by simp [(h.closed hcl).2.2])
  | false => simpa [St.wdone2, hcl, h.ucancel] using hw

theorem clean_step (hv : c.invalid = false) (hi : Inv c s) (h : s.envStopped = false → Clean c input s)
    (hs : Step c s a s') : s'.envStopped = false → Clean c input s' := by
  intro he'
  have h := h (hs.envStopped he')
  have hall := h.allProdsExited hi
  cases hs with
  | close | cancel => cases he'
  | cStartDone hc | cRecv hc =>
    exact { h with closed := fun (hcl : s.closed = true) => by simp [(h.closed hcl).1] at hc }
  | cStartPark _ hw => exact { h with closed := fun (hcl : s.closed = true) => by simp [St.wdone, hcl] at hw }
  | cEof _ hp hpc => exact { h with closed := fun _ => ⟨rfl, hp, hi.pclosed_kst hv hpc⟩ }
  | cCtx =>
    exact { h with closed := fun _ => by have := h.closed; have := h.ucancel; simp_all [St.wdone] }
  | pReadOwn hp _ he =>
    exact { h with exited_src := List.forall_getElem?_set_imp _ (by simp [he]) h.exited_src
                   wcancel := fun hwc => by simp [h.wcancel hwc _ _ hp] at he }
  | pReadShared hp _ he _ _ _ hsh =>
    exact { h with exited_src := List.forall_getElem?_set_imp _ (by simp [he]) fun j q hj hq => by
                     simp [(h.exited_src j q hj hq).2] at hsh
                   wcancel := fun hwc => by simp [h.wcancel hwc _ _ hp] at he }
  | pEof _ _ _ _ hsrc hsh =>
    exact { h with exited_src := List.forall_getElem?_set_imp _ (fun _ => ⟨hsrc, hsh⟩) h.exited_src
                   wcancel := fun hwc => List.forall_getElem?_set_imp _ rfl (h.wcancel hwc) }
  | pSend hp _ _ he hpc | pHandoff hp _ _ he hpc =>
    exact { h with exited_src := List.forall_getElem?_set_imp _ (by simp [he]) h.exited_src
                   wcancel := fun hwc => by simp [h.wcancel hwc _ _ hp] at he
                   closed := fun (hcl : s.closed = true) => by simp [hi.kst_pclosed (h.closed hcl).2.2] at hpc }
  | pCtx hp _ he hw => simp [hall hw _ _ hp] at he
  | pSendClosed hp _ _ he hpc =>
    simp [hall (by simp [St.wdone2, hi.kst_wcancel.mp (by simp [hi.pclosed_kst hv hpc])]) _ _ hp] at he
  | kCancel _ hk hwhy =>
    exact { h with wcancel := fun _ => hwhy.elim (allProdsExited_iff s).mp fun ⟨_, hw⟩ => by
                     have hcl : s.closed = true := by simpa [St.wdone, h.ucancel] using hw
                     simp [(h.closed hcl).2.2] at hk
                   closed := fun (hcl : s.closed = true) => by simp [(h.closed hcl).2.2] at hk }
  | kClose hk => exact { h with closed := fun (hcl : s.closed = true) => by simp [(h.closed hcl).2.2] at hk }

/-- single producer: exact order in *every* run (also aborted ones). The second clause keeps `dropped` in its place:
    the producer gives up an item only as it exits, so once something was dropped nothing moves past it. -/
def Order1 (input : List Nat) (s : St) : Prop :=
  s.prods.length = 1 →
    s.got ++ s.pipe ++ s.prods.flatMap (fun p => p.held.toList) ++ s.dropped ++ s.prods.flatMap (·.src) ++ s.shared = input ∧
    (s.dropped ≠ [] → ∀ (j : Nat) (p : Prod), s.prods[j]? = some p → p.exited = true)

theorem prods_length_step (hs : Step c s a s') : s'.prods.length = s.prods.length := by
  cases hs <;> simp

theorem order1_step (ho : Order1 input s) (hs : Step c s a s') : Order1 input s' := by
  intro hlen
  rw [prods_length_step hs] at hlen
  obtain ⟨o1, o2⟩ := ho hlen
  -- nothing was given up while the producer is still there; and the acting producer is the only one
  -- (`eq_singleton_of_getElem?`), so the two `flatMap`s are its `held` and its `src`
  have hd : ∀ {i : Nat} {p : Prod}, s.prods[i]? = some p → p.exited = false → s.dropped = [] := fun hp he =>
    Classical.byContradiction fun hne => by simp [o2 hne _ _ hp] at he
  cases hs with
  | cRecv _ hp => exact ⟨by simpa [hp] using o1, o2⟩
  | pReadOwn hp _ he | pReadShared hp _ he | pSend hp _ _ he | pHandoff hp _ _ he =>
    obtain ⟨hl, rfl⟩ := List.eq_singleton_of_getElem? (Nat.le_of_eq hlen) hp
    have := hd hp he
    exact ⟨by simpa [hl, *] using o1, fun hne => absurd this hne⟩
  | pEof hp _ he | pCtx hp _ he | pSendClosed hp _ _ he =>
    obtain ⟨hl, rfl⟩ := List.eq_singleton_of_getElem? (Nat.le_of_eq hlen) hp
    have := hd hp he
    exact ⟨by simpa [hl, *] using o1, fun _ j r hj => by cases j <;> simp [hl] at hj; exact hj ▸ rfl⟩
  | _ => exact ⟨o1, o2⟩

structure Good (c : Cfg) (input : List Nat) (s : St) : Prop where
  inv : Inv c s
  conserved : Conserved input s
  clean : c.invalid = false → s.envStopped = false → Clean c input s
  order1 : Order1 input s

theorem good_init (c : Cfg) (privs : List (List Nat)) (shared : List Nat) (k1 k2 : Nat) :
    Good c (privs.flatten ++ shared) (init c privs shared k1 k2) where
  inv := by constructor <;> cases hv : c.invalid <;> simp [init, St.wdone, hv]
  conserved := fun a => by simp [init, St.items, List.flatMap_map, List.count_eq_zero]
  clean := fun hv _ => by constructor <;> simp [init, hv]
  order1 := fun hl => by
    match privs with
    | [l] => simp [init]
    | [] => simp [init] at hl
    | _ :: _ :: _ => simp [init] at hl

theorem good_step (h : Good c input s) (hs : step c s a = some s') : Good c input s' :=
  have hs := step_sound hs
  ⟨inv_step h.inv hs, conserved_step h.conserved hs, fun hv => clean_step hv h.inv (h.clean hv) hs,
   order1_step h.order1 hs⟩

theorem reachable_good {privs : List (List Nat)} {shared : List Nat} {k1 k2 : Nat}
    (h : Reachable c privs shared k1 k2 s) : Good c (privs.flatten ++ shared) s :=
  List.foldlM_option_reach_induction _ (good_init c privs shared k1 k2) (fun _ _ _ _ => good_step) h

theorem reachable_prods_length {privs : List (List Nat)} {shared : List Nat} {k1 k2 : Nat}
    (h : Reachable c privs shared k1 k2 s) : s.prods.length = privs.length :=
  List.foldlM_option_reach_induction (fun s => s.prods.length = privs.length) (by simp [init])
    (fun _ _ _ _ h hs => (prods_length_step (step_sound hs)).trans h) h

/-- the weights are the Feeder's (`Feeder.measure_step`), a producer's share being `Prod.weight` -/
theorem measure_step (hs : Step c s a s') : measure s' < measure s := by
  cases hs with
  | pReadOwn hp | pReadShared hp | pEof hp | pSend hp | pHandoff hp | pCtx hp | pSendClosed hp =>
    simp only [measure, ← List.sum_map_eraseIdx _ hp, List.sum_map_set_eq_eraseIdx _ _ hp]
    simp [Prod.weight, CState.rank, *] <;> omega
  | _ => simp [measure, CState.rank, KState.rank, *] <;> omega

theorem nostop_step (hs : Step c s a s') (h : s.envStopped = false ∧ s.closeBudget = 0 ∧ s.cancelBudget = 0) :
    s'.envStopped = false ∧ s'.closeBudget = 0 ∧ s'.cancelBudget = 0 := by
  cases hs with
  | close | cancel => omega
  | _ => exact h

theorem run_nostop {c : Cfg} (as : List Act) : ∀ {s s' : St},
    s.envStopped = false ∧ s.closeBudget = 0 ∧ s.cancelBudget = 0 → run c s as = some s' →
    s'.envStopped = false ∧ s'.closeBudget = 0 ∧ s'.cancelBudget = 0 :=
  List.foldlM_option_inv _ (fun _ _ _ h hs => nostop_step (step_sound hs) h) as

theorem wdone2_of_wdone (h : s.wdone = true) : s.wdone2 = true := by
  unfold St.wdone2; unfold St.wdone at h; rw [h]; rfl

/-- `pclosed` in a terminal state: the consumer's last ReadOne returned io.EOF (`outcome`'s `eof`) -/
theorem terminal_clean (h : Good c input s) (hn : 0 < s.prods.length)
    (hv : c.invalid = false) (hclean : s.envStopped = false) (ht : s.terminal = true) :
    s.items = s.got ∧ s.pclosed = true := by
  have hi := h.inv
  have hc := h.clean hv hclean
  simp only [St.terminal, Bool.and_eq_true, decide_eq_true_eq] at ht
  obtain ⟨_, hpipe, hk⟩ := hc.closed (by simpa [St.wdone, hc.ucancel] using hi.done_wdone ht.2)
  have hex := hc.wcancel (hi.kst_wcancel.mp (by simp [hk]))
  obtain ⟨p0, hp0⟩ : ∃ p, s.prods[0]? = some p := ⟨s.prods[0], List.getElem?_eq_getElem hn⟩
  have hheld : s.prods.flatMap (fun p => p.held.toList) = [] := List.flatMap_eq_nil_iff.mpr fun p hp => by
    obtain ⟨j, hj⟩ := List.getElem?_of_mem hp
    simp [hi.exited_clear j p hj (hex j p hj)]
  have hsrc : s.prods.flatMap (·.src) = [] := List.flatMap_eq_nil_iff.mpr fun p hp => by
    obtain ⟨j, hj⟩ := List.getElem?_of_mem hp
    exact (hc.exited_src j p hj (hex j p hj)).1
  exact ⟨by simp [St.items, hpipe, hc.dropped, (hc.exited_src 0 p0 hp0 (hex 0 p0 hp0)).2, hheld, hsrc], hi.kst_pclosed hk⟩

theorem leaked_eq_zero_iff : (outcome c s).leaked = 0 ↔ s.allExited = true := by
  cases hs : s.started <;> cases hk : decide (s.kst = .exited) <;>
    simp_all [outcome, St.allExited, St.allProdsExited, List.filter_eq_nil_iff]

/-- No goroutine can move: what each of them is then waiting for. -/
structure Quiet (c : Cfg) (s : St) : Prop where
  /-- a live producer waits for the consumer, blocked sending into the full pipe -/
  prod : s.started = true → ∀ (i : Nat) (p : Prod), s.prods[i]? = some p → p.exited = false →
    s.wdone2 = false ∧ (s.cons = .parked → s.pipe ≠ [])
  /-- the closer waits for the producers -/
  closer : s.started = true → s.kst = .exited ∨ s.kst = .waiting ∧ s.allProdsExited = false

theorem quiet_of_stuck (hq : ∀ a, a.isGoroutine = true → step c s a = none) : Quiet c s where
  prod hst i p hp hpe := by
    cases hw : s.wdone2 with
    | true => exact (stuck_step hq (.pCtx hp hst hpe hw) rfl).elim
    | false =>
      have hw' : ¬ (c.srcChecksCtx = true ∧ s.wdone2 = true) := by simp [hw]
      cases hh : p.held with
      | none =>
        cases hsrc : p.src with
        | cons x xs => exact (stuck_step hq (.pReadOwn hp hst hpe hh hw' hsrc) rfl).elim
        | nil =>
          cases hsh : s.shared with
          | cons x xs => exact (stuck_step hq (.pReadShared hp hst hpe hh hw' hsrc hsh) rfl).elim
          | nil => exact (stuck_step hq (.pEof hp hst hpe hh hsrc hsh) rfl).elim
      | some x =>
        cases hpc : s.pclosed with
        | true => exact (stuck_step hq (.pSendClosed hp hh hst hpe hpc) rfl).elim
        | false => exact ⟨rfl, fun hc hpi => stuck_step hq (.pHandoff hp hh hst hpe hpc hc hpi) rfl⟩
  closer hst := by
    cases hk : s.kst with
    | exited => exact .inl rfl
    | cancelled => exact (stuck_step hq (.kClose hk) rfl).elim
    | waiting => exact .inr ⟨rfl, Bool.eq_false_iff.mpr fun hall => stuck_step hq (.kCancel hst hk (.inl hall)) rfl⟩

theorem Quiet.allExited (q : Quiet c s)
    (hex : s.started = true → ∀ (i : Nat) (p : Prod), s.prods[i]? = some p → p.exited = true) : s.allExited = true := by
  cases hst : s.started with
  | false => simp [St.allExited, hst]
  | true =>
    have hall := (allProdsExited_iff s).mpr (hex hst)
    have hk : s.kst = .exited := (q.closer hst).resolve_right fun hk => by simp [hall] at hk
    simp [St.allExited, hall, hk]

/-- once `wctx2` is done, for whatever reason, no goroutine needs the consumer to make progress -/
theorem Quiet.allExited_of_wdone2 (q : Quiet c s) (hw : s.wdone2 = true) : s.allExited = true :=
  q.allExited fun hst i p hp => Bool.not_eq_false _ ▸ fun hpe => by
    have := (q.prod hst i p hp hpe).1; simp [hw] at this

theorem stuck_allExited (hw : s.wdone2 = true) (hq : ∀ a, a.isGoroutine = true → step c s a = none) :
    s.allExited = true :=
  (quiet_of_stuck hq).allExited_of_wdone2 hw

theorem stuck_terminal (h : Inv c s) (hmax : ∀ a, a.isEnv = false → step c s a = none) : s.terminal = true := by
  have q : Quiet c s := quiet_of_stuck fun a ha => hmax a (by cases a <;> first | rfl | cases ha)
  cases hc : s.cons with
  | idle =>
    cases hw : s.wdone with
    | true => exact (stuck_step hmax (.cStartDone hc hw) rfl).elim
    | false => exact (stuck_step hmax (.cStartPark hc hw) rfl).elim
  | done =>
    simp [St.terminal, hc, q.allExited_of_wdone2 (wdone2_of_wdone (h.done_wdone hc))]
  | parked =>
    -- a parked consumer finds the pipe empty (so no producer is waiting for it) and open (so the closer has not left)
    have hst : s.started = true := Bool.not_eq_false _ ▸ fun hst => (h.notstarted hst).2 hc
    cases hpi : s.pipe with
    | cons y ys => exact (stuck_step hmax (.cRecv hc hpi) rfl).elim
    | nil =>
      have hall := q.allExited fun _ i p hp => Bool.not_eq_false _ ▸ fun hpe => (q.prod hst i p hp hpe).2 hc hpi
      have hk : s.kst = .exited := by simp [St.allExited, hst] at hall; exact hall.2
      exact (stuck_step hmax (.cEof hc hpi (h.kst_pclosed hk)) rfl).elim

theorem no_deadlock_stopped (hw : s.wdone2 = true) (hne : s.allExited = false) :
    ∃ a, a.isGoroutine = true ∧ (step c s a).isSome = true :=
  List.exists_enabled_of_stuck (stuck_allExited hw) hne

theorem no_deadlock_internal (h : Inv c s) (hnt : s.terminal = false) :
    ∃ a, a.isEnv = false ∧ (step c s a).isSome = true :=
  List.exists_enabled_of_stuck (stuck_terminal h) hnt

end FunModel.Pipe.FanIn
