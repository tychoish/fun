import FunProofs.OrchStep

/-! C11, orchestrator: the inductive invariant of the orchestrator machine (code with the fix:
    `legacyWaitFor = false`); a service that was handed over is in exactly one place, the queue or its task (`placed`). -/

namespace FunModel.Orch.Orc

/-- the task's goroutine holds the orchestrator's WaitGroup -/
def Task.active : Task → Bool
  | .toStart => true
  | .awaiting _ => true
  | _ => false

structure Inv (s : St) : Prop where
  once : RunsOnce s.phase s.runs
  placed : ∀ i, s.queue.count i + (decide (s.task i ≠ .none)).toNat = (decide (s.addSt i ≠ .none)).toNat
  -- `over_…`: once the loop is over, the context has ended and only services handed over after that are still queued
  over_cancelled : s.orch = .draining ∨ s.orch = .returned → s.cancelled = true
  over_queue : s.orch = .draining ∨ s.orch = .returned → ∀ i ∈ s.queue, s.addSt i = .late
  act : Counted Task.active s.task s.wg
  done_fin : ∀ i, s.task i = .done → s.phase i = .finished ∧ Entry.wait i true ∈ s.coll
  ret_done : s.orch = .returned → ∀ i, s.task i ≠ .none → s.task i = .done
  ret_snap : s.orch = .returned → ∀ i, s.task i = .done → s.retAtW i = true
  byOrch_task : ∀ i, s.byOrch i = true → s.task i ≠ .none

theorem inv_init : Inv init := by
  refine ⟨RunsOnce.init, ?_, ?_, ?_, Counted.none fun _ => rfl, ?_, ?_, ?_, ?_⟩ <;> simp [init]

theorem Inv.queued {s : St} (hi : Inv s) {i : Nat} (h : i ∈ s.queue) : s.task i = .none ∧ s.addSt i ≠ .none := by
  have := hi.placed i
  have h1 := List.one_le_count_iff.mpr h
  have h2 := Bool.toNat_le (decide (s.addSt i ≠ .none))
  constructor
  · exact Decidable.byContradiction fun ht => by rw [decide_eq_true ht, Bool.toNat_true] at this; omega
  · intro hn; rw [decide_eq_false (not_not_intro hn), Bool.toNat_false] at this; omega

theorem Inv.handed_where {s : St} (hi : Inv s) (i : Nat) (hl : s.addSt i ≠ .none) : i ∈ s.queue ∨ s.task i ≠ .none := by
  have := hi.placed i
  by_cases ht : s.task i = .none
  · rw [decide_eq_true hl, decide_eq_false (not_not_intro ht)] at this
    exact Or.inl (List.one_le_count_iff.mp (Nat.le_of_eq this.symm))
  · exact Or.inr ht

/-- a task that is `done` is not affected, its service has finished (`hold`) -/
theorem Inv.setPhase {s : St} (hi : Inv s) {i : Nat} {p : Phase} {runs : Nat → Nat} (hold : s.phase i ≠ .finished)
    (honce : RunsOnce (upd s.phase i p) runs) : Inv { s with phase := upd s.phase i p, runs := runs } := by
  refine { hi with once := honce, done_fin := fun j hd => ?_ }
  have hj : j ≠ i := fun e => hold (e ▸ (hi.done_fin j hd).1)
  simpa [hj] using hi.done_fin j hd

theorem Inv.setTask {s : St} (hi : Inv s) {i k : Nat} {t : Task} {q d : List Nat} {coll : List Entry}
    (hq : s.queue = i :: q ∨ (q = s.queue ∧ s.task i ≠ .none)) (hnr : s.orch ≠ .returned) (ht : t ≠ .none)
    (hk : k = s.wg + t.active.toNat - (s.task i).active.toNat) (hcoll : ∀ e ∈ s.coll, e ∈ coll)
    (hdone : t = .done → s.phase i = .finished ∧ Entry.wait i true ∈ coll) :
    Inv { s with queue := q, task := upd s.task i t, dispatched := d, wg := k, coll := coll } := by
  refine { hi with
           placed := placed_dispatch hi.placed hq ht, over_queue := fun ho j hj => hi.over_queue ho j ?_,
           act := hi.act.upd i t hk,
           done_fin := fun j hd => ?_, ret_done := fun h => absurd h hnr,
           ret_snap := fun h => absurd h hnr, byOrch_task := fun j hb => ?_ }
  · rcases hq with hq | ⟨rfl, _⟩
    · rw [hq]; exact List.mem_cons_of_mem _ hj
    · exact hj
  · by_cases hji : j = i
    · subst hji; exact hdone (by simpa using hd)
    · have := hi.done_fin j (by simpa [hji] using hd)
      exact ⟨this.1, hcoll _ this.2⟩
  · by_cases hji : j = i
    · subst hji; simpa using ht
    · simpa [hji] using hi.byOrch_task j hb

theorem Inv.active_live {s : St} (hi : Inv s) {i : Nat} (ha : (s.task i).active = true) :
    s.task i ≠ .none ∧ s.orch ≠ .returned := by
  have hn : s.task i ≠ .none := fun e => by rw [e] at ha; cases ha
  refine ⟨hn, fun hr => ?_⟩
  rw [hi.ret_done hr i hn] at ha; cases ha

theorem Inv.idle_done {s : St} (hi : Inv s) (hw : s.wg = 0) {j : Nat} (hj : s.task j ≠ .none) : s.task j = .done := by
  have hact := hi.act
  rw [hw] at hact
  have := hact.zero j
  cases ht : s.task j <;> simp_all [Task.active]

theorem inv_step {c : Cfg} (hfix : c.legacyWaitFor = false) {s s' : St} {a : Act} (hi : Inv s)
    (h : step c s a = some s') : Inv s' := by
  cases a with
  | add i =>
    obtain ⟨hn, rfl⟩ := ite_some_eq h
    have hnew : (if s.cancelled then AddSt.late else .live) ≠ .none := by split <;> simp
    refine { hi with placed := placed_push hi.placed (by simp [hn, hnew]) fun j hj => ⟨rfl, by simp only [upd_other _ _ _ _ hj]⟩,
                     over_queue := fun ho j hj => ?_ }
    rcases List.mem_append.mp hj with hj | hj
    · have hji : j ≠ i := fun e => (hi.queued hj).2 (e ▸ hn)
      simpa [hji] using hi.over_queue ho j hj
    · cases List.mem_singleton.mp hj; simp [hi.over_cancelled ho]
  | startOrch =>
    obtain ⟨ho, rfl⟩ := ite_some_eq h
    exact { hi with over_cancelled := nofun, over_queue := nofun, ret_done := nofun, ret_snap := nofun }
  | cancel => cases h; exact { hi with over_cancelled := fun _ => rfl }
  | extStart i =>
    obtain ⟨hf, rfl⟩ := ite_some_eq h
    exact hi.setPhase (by simp [hf]) (hi.once.start hf)
  | release i | endOwn i => cases h; exact { hi with }
  | svcReturn i =>
    obtain ⟨⟨hr, _, _⟩, rfl⟩ := ite_some_eq h
    exact hi.setPhase (by simp [hr]) (hi.once.finish hr)
  | loopTake =>
    dsimp only [step] at h
    split at h
    · rename_i i q ho hq
      have hnr : s.orch ≠ .returned := by simp [ho]
      have htn := (hi.queued (i := i) (by simp [hq])).1
      split at h <;> rename_i hp <;> cases h
      · exact hi.setTask (.inl hq) hnr (by simp) (by simp [htn, Task.active]) (fun _ he => he) (by simp)
      · exact hi.setTask (.inl hq) hnr (by simp) (by simp [htn, Task.active])
          (fun _ he => List.mem_cons_of_mem _ he) (fun _ => ⟨hp, by simp⟩)
      · exact hi.setTask (.inl hq) hnr (by simp) (by simp [htn, Task.active]) (fun _ he => he) (by simp)
    · cases h
  | loopExit =>
    obtain ⟨⟨ho, hq, hc⟩, rfl⟩ := ite_some_eq h
    exact { hi with over_cancelled := fun _ => hc, over_queue := (by intro _ j hj; rw [hq] at hj; cases hj),
                    ret_done := nofun, ret_snap := nofun }
  | taskStart i =>
    obtain ⟨ht, h⟩ := Option.ite_none_right_eq_some.mp h
    obtain ⟨hn, hnr⟩ := hi.active_live (i := i) (by simp [ht, Task.active])
    split at h <;> rename_i hp <;> cases h
    · have h1 := hi.setPhase (i := i) (by simp [hp]) (hi.once.start hp)
      have h2 := h1.setTask (t := .awaiting false) (q := s.queue) (d := s.dispatched) (k := s.wg) (coll := s.coll)
        (.inr ⟨rfl, hn⟩) hnr (by simp) (by simp [ht, Task.active]) (fun _ he => he) (by simp)
      refine { h2 with byOrch_task := fun j hb => ?_ }
      by_cases hji : j = i
      · subst hji; simp
      · simpa [hji] using hi.byOrch_task j (by simpa [hji] using hb)
    all_goals
      exact hi.setTask (.inr ⟨rfl, hn⟩) hnr (by simp) (by simp [ht, Task.active])
        (fun _ he => List.mem_cons_of_mem _ he) (by simp)
  | taskCollect i =>
    -- with the fix `ss.Wait()` returns only when the service has finished
    dsimp only [step] at h
    split at h
    · rename_i v ht
      obtain ⟨hn, hnr⟩ := hi.active_live (i := i) (by simp [ht, Task.active])
      by_cases hp : s.phase i = .finished
      · rw [if_pos hp] at h; cases h
        exact hi.setTask (.inr ⟨rfl, hn⟩) hnr (by simp) (by simp [ht, Task.active])
          (fun _ he => List.mem_cons_of_mem _ he) (fun _ => ⟨hp, by simp⟩)
      · simp [hp, hfix] at h
    · cases h
  | orchReturn =>
    obtain ⟨⟨ho, hw⟩, rfl⟩ := ite_some_eq h
    exact { hi with over_cancelled := fun _ => hi.over_cancelled (Or.inl ho),
                    over_queue := fun _ => hi.over_queue (Or.inl ho), ret_done := fun _ _ hj => hi.idle_done hw hj,
                    ret_snap := fun _ j hd => by simp [(hi.done_fin j hd).1] }

theorem reachable_inv {c : Cfg} (hfix : c.legacyWaitFor = false) {s : St} (h : Reachable c s) : Inv s :=
  List.foldlM_option_reach_induction Inv inv_init (fun _ _ _ _ => inv_step hfix) h

end FunModel.Orch.Orc
