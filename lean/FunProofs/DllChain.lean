import FunModel.Dll
import FunProofs.PtrCommon

/-! `Chain h a xs b`: `next` from `a` visits `xs` and then `b`, and `prev` leads back. A list is such a chain from its
    sentinel to itself; a splice acts at the start of the cycle read from the element it touches (`chain_rotate`), and a
    traversal lists the chain. With the list functions by which the ghost sequences change (`insertAfter`, `erase`). -/

namespace FunModel.Dll

/-- last element of `a :: xs`: `FunProofs.Ptr.lastD` (`lastOr_eq_lastD`) under the name the C16 statements use -/
def lastOr (a : Nat) : List Nat → Nat
  | [] => a
  | x :: xs => lastOr x xs

@[simp] theorem lastOr_nil (a : Nat) : lastOr a [] = a := rfl
@[simp] theorem lastOr_cons (a x : Nat) (xs : List Nat) : lastOr a (x :: xs) = lastOr x xs := rfl
theorem lastOr_eq_lastD (a : Nat) (l : List Nat) : lastOr a l = FunProofs.Ptr.lastD a l := by
  induction l generalizing a with
  | nil => rfl
  | cons x xs ih => exact ih x
@[simp] theorem lastOr_snoc (a b : Nat) (xs : List Nat) : lastOr a (xs ++ [b]) = b := by
  rw [lastOr_eq_lastD]; exact FunProofs.Ptr.lastD_snoc a b xs
theorem lastOr_mem (a : Nat) (xs : List Nat) : lastOr a xs = a ∨ lastOr a xs ∈ xs := by
  rw [lastOr_eq_lastD]; exact FunProofs.Ptr.lastD_mem a xs

def Chain (h : Heap) : Nat → List Nat → Nat → Prop
  | a, [], b => (h.node a).next = some b ∧ (h.node b).prev = some a
  | a, x :: xs, b => ((h.node a).next = some x ∧ (h.node x).prev = some a) ∧ Chain h x xs b

@[simp] theorem chain_nil {h : Heap} {a b : Nat} :
    Chain h a [] b ↔ (h.node a).next = some b ∧ (h.node b).prev = some a := Iff.rfl
@[simp] theorem chain_cons {h : Heap} {a x b : Nat} {xs : List Nat} :
    Chain h a (x :: xs) b ↔ ((h.node a).next = some x ∧ (h.node x).prev = some a) ∧ Chain h x xs b := Iff.rfl

theorem chain_append {h : Heap} {xs ys : List Nat} {a y b : Nat} :
    Chain h a (xs ++ y :: ys) b ↔ Chain h a xs y ∧ Chain h y ys b := by
  induction xs generalizing a with
  | nil => simp
  | cons x xs ih => simp [ih, and_assoc]

theorem chain_snoc {h : Heap} {xs : List Nat} {a y b : Nat} :
    Chain h a (xs ++ [y]) b ↔ Chain h a xs y ∧ ((h.node y).next = some b ∧ (h.node b).prev = some y) := by
  rw [chain_append]; simp

theorem chain_rotate {h : Heap} {pre post : List Nat} {r e : Nat} :
    Chain h r (pre ++ e :: post) r ↔ Chain h e (post ++ r :: pre) e := by
  rw [chain_append, chain_append]; exact And.comm

theorem Chain.frame {h h' : Heap} {xs : List Nat} {a b : Nat} (hc : Chain h a xs b)
    (hn : ∀ c, c = a ∨ c ∈ xs → (h'.node c).next = (h.node c).next)
    (hp : ∀ c, c ∈ xs ∨ c = b → (h'.node c).prev = (h.node c).prev) : Chain h' a xs b := by
  induction xs generalizing a with
  | nil =>
    simp only [chain_nil] at hc ⊢
    rw [hn a (Or.inl rfl), hp b (Or.inr rfl)]; exact hc
  | cons x xs ih =>
    simp only [chain_cons] at hc ⊢
    refine ⟨⟨?_, ?_⟩, ih hc.2 ?_ ?_⟩
    · rw [hn a (Or.inl rfl)]; exact hc.1.1
    · rw [hp x (Or.inl (by simp))]; exact hc.1.2
    · intro c hcx; apply hn; rcases hcx with rfl | hcx <;> simp [*]
    · intro c hcx; apply hp; rcases hcx with hcx | rfl <;> simp [*]

theorem Chain.next_first {h : Heap} {xs : List Nat} {a b : Nat} (hc : Chain h a xs b) :
    (h.node a).next = some (xs.headD b) := by
  cases xs with
  | nil => exact hc.1
  | cons x xs => exact hc.1.1

theorem Chain.prev_last {h : Heap} {xs : List Nat} {a b : Nat} (hc : Chain h a xs b) :
    (h.node b).prev = some (lastOr a xs) := by
  induction xs generalizing a with
  | nil => exact hc.2
  | cons x xs ih => simpa using ih hc.2

theorem Chain.next_last {h : Heap} {xs : List Nat} {a b : Nat} (hc : Chain h a xs b) :
    (h.node (lastOr a xs)).next = some b := by
  induction xs generalizing a with
  | nil => exact hc.1
  | cons x xs ih => exact ih hc.2

theorem Chain.next_mid {h : Heap} {pre post : List Nat} {a e b : Nat} (hc : Chain h a (pre ++ e :: post) b) :
    (h.node e).next = some (post.headD b) := (chain_append.1 hc).2.next_first

theorem Chain.prev_mid {h : Heap} {pre post : List Nat} {a e b : Nat} (hc : Chain h a (pre ++ e :: post) b) :
    (h.node e).prev = some (lastOr a pre) := (chain_append.1 hc).1.prev_last

/-- inserting `new` right after the start `e` of a cycle. The splice enters only through what it does to `next`
    and `prev` (`hnext`, `hprev`: the shape of `appendResult_next` / `appendResult_prev`), so the deque's splice
    (FunProofs/DequePtr.lean) is served by the same lemma -/
theorem cycle_insert {h h' : Heap} {e new n : Nat} {ys : List Nat} (hc : Chain h e ys e)
    (hnd : (e :: ys).Nodup) (hnew : new ∉ e :: ys)
    (hn : (h.node e).next = some n)
    (hnext : ∀ c, (h'.node c).next =
      if c = e then some new else if c = new then some n else (h.node c).next)
    (hprev : ∀ c, (h'.node c).prev =
      if c = n then some new else if c = new then some e else (h.node c).prev) :
    Chain h' e (new :: ys) e := by
  obtain ⟨hey, hnd⟩ := List.nodup_cons.1 hnd
  obtain ⟨hne, hny⟩ : new ≠ e ∧ new ∉ ys := not_or.1 fun hx => hnew (List.mem_cons.2 hx)
  have hh := hc.next_first
  rw [hn, Option.some.injEq] at hh
  subst hh
  have hys : ∀ c, c ∈ ys → c ≠ e ∧ c ≠ new := fun c hc =>
    ⟨ne_of_mem_of_not_mem hc hey, ne_of_mem_of_not_mem hc hny⟩
  cases ys with
  | nil => simp [hnext, hprev, hne]
  | cons y ys =>
    have hy := hys y (List.mem_cons_self ..)
    refine ⟨?_, ?_, hc.2.frame ?_ ?_⟩
    · simp [hnext, hprev, hy.2.symm]
    · simp [hnext, hprev, hne]
    · intro c hcx
      have := hys c (by simpa using hcx)
      simp [hnext, this]
    · intro c hcx
      rw [List.nodup_cons] at hnd
      rcases hcx with hcx | rfl
      · simp [hprev, (hys c (List.mem_cons_of_mem _ hcx)).2, ne_of_mem_of_not_mem hcx hnd.1]
      · simp [hprev, hy.1.symm, hne.symm]

/-- removing the start `e` of a cycle (`hnext`, `hprev`: the shape of `removeResult_next` / `removeResult_prev`);
    what is left is read from `y` -/
theorem cycle_remove {h h' : Heap} {e y p : Nat} {ys : List Nat} (hc : Chain h e (y :: ys) e)
    (hnd : (y :: ys).Nodup)
    (hp : (h.node e).prev = some p)
    (hnext : ∀ c, (h'.node c).next = if c = p then some y else (h.node c).next)
    (hprev : ∀ c, (h'.node c).prev = if c = y then some p else (h.node c).prev) :
    Chain h' y ys y := by
  have hh := hc.prev_last
  rw [hp, Option.some.injEq, lastOr_cons] at hh
  rcases List.eq_nil_or_concat ys with rfl | ⟨L, b, rfl⟩
  · subst hh
    simp [hnext, hprev]
  · rw [List.concat_eq_append] at hc hnd hh ⊢
    rw [lastOr_snoc] at hh
    subst hh
    simp only [List.nodup_cons, List.nodup_append, List.mem_append, List.mem_singleton, not_or] at hnd
    obtain ⟨⟨hyL, hyp⟩, -, -, hLp⟩ := hnd
    rw [chain_cons, chain_snoc] at hc
    rw [chain_snoc]
    refine ⟨hc.2.1.frame ?_ ?_, by simp [hnext], by simp [hprev]⟩
    · intro c hcx
      rw [hnext, if_neg]
      rcases hcx with rfl | hcx
      · exact hyp
      · exact hLp c hcx p rfl
    · intro c hcx
      rw [hprev, if_neg]
      rcases hcx with hcx | rfl
      · exact fun e => hyL (e ▸ hcx)
      · exact Ne.symm hyp

theorem cycle_perm (r e : Nat) (pre post : List Nat) :
    (r :: (pre ++ e :: post)).Perm (e :: (post ++ r :: pre)) :=
  (List.perm_middle (l₁ := r :: pre)).trans (List.perm_append_comm.cons e)

/-- the two splices at an element in the middle of the cycle of `r`: read the cycle from that
    element, act at its start, and read it from `r` again -/
theorem chain_insert_mid {h h' : Heap} {pre post : List Nat} {r a new n : Nat}
    (hc : Chain h r (pre ++ a :: post) r) (hnd : (r :: (pre ++ a :: post)).Nodup)
    (hnew : new ∉ r :: (pre ++ a :: post)) (hn : (h.node a).next = some n)
    (hnext : ∀ c, (h'.node c).next =
      if c = a then some new else if c = new then some n else (h.node c).next)
    (hprev : ∀ c, (h'.node c).prev =
      if c = n then some new else if c = new then some a else (h.node c).prev) :
    Chain h' r (pre ++ a :: new :: post) r :=
  have hp := cycle_perm r a pre post
  chain_rotate.2 (cycle_insert (chain_rotate.1 hc) (hp.nodup_iff.1 hnd) (fun hm => hnew (hp.mem_iff.2 hm))
    hn hnext hprev)

theorem chain_remove_mid {h h' : Heap} {pre post : List Nat} {r e p : Nat}
    (hc : Chain h r (pre ++ e :: post) r) (hnd : (r :: (pre ++ e :: post)).Nodup)
    (hp : (h.node e).prev = some p)
    (hnext : ∀ c, (h'.node c).next = if c = p then some (post.headD r) else (h.node c).next)
    (hprev : ∀ c, (h'.node c).prev = if c = post.headD r then some p else (h.node c).prev) :
    Chain h' r (pre ++ post) r := by
  have hnd' := (List.nodup_cons.1 ((cycle_perm r e pre post).nodup_iff.1 hnd)).2
  rw [chain_rotate] at hc
  cases post with
  | nil => simpa using cycle_remove hc hnd' hp hnext hprev
  | cons y post' => exact chain_rotate.2 (cycle_remove hc hnd' hp hnext hprev)

/-- inserting `new` at a split of the cycle of `r`, between the last element before the split and the first
    after it (`r` itself where there is none): the inverse of `chain_remove_mid` -/
theorem chain_insert_split {h h' : Heap} {pre post : List Nat} {r new : Nat}
    (hc : Chain h r (pre ++ post) r) (hnd : (r :: (pre ++ post)).Nodup) (hnew : new ∉ r :: (pre ++ post))
    (hnext : ∀ c, (h'.node c).next =
      if c = lastOr r pre then some new else if c = new then some (post.headD r) else (h.node c).next)
    (hprev : ∀ c, (h'.node c).prev =
      if c = post.headD r then some new else if c = new then some (lastOr r pre) else (h.node c).prev) :
    Chain h' r (pre ++ new :: post) r := by
  rcases List.eq_nil_or_concat pre with rfl | ⟨L, a, rfl⟩
  · exact cycle_insert hc hnd hnew hc.next_first hnext hprev
  · simp only [List.concat_eq_append, List.append_assoc, List.singleton_append, lastOr_snoc] at *
    exact chain_insert_mid hc hnd hnew hc.next_mid hnext hprev

def insertAfter (e n : Nat) : List Nat → List Nat
  | [] => []
  | x :: xs => if x = e then x :: n :: xs else x :: insertAfter e n xs

theorem insertAfter_split {e n : Nat} {pre post : List Nat} (h : e ∉ pre) :
    insertAfter e n (pre ++ e :: post) = pre ++ e :: n :: post := by
  induction pre with
  | nil => simp [insertAfter]
  | cons x xs ih =>
    simp only [List.mem_cons, not_or] at h
    simp [insertAfter, Ne.symm h.1, ih h.2]

theorem not_mem_of_nodup_split {e : Nat} {pre post : List Nat} (h : (pre ++ e :: post).Nodup) : e ∉ pre :=
  fun hx => (List.nodup_append.1 h).2.2 e hx e (List.mem_cons_self ..) rfl

theorem insertAfter_last {a n : Nat} {xs : List Nat} (hx : xs ≠ []) (hnd : xs.Nodup) :
    insertAfter (lastOr a xs) n xs = xs ++ [n] := by
  rcases List.eq_nil_or_concat xs with rfl | ⟨L, b, rfl⟩
  · exact absurd rfl hx
  · simp only [List.concat_eq_append] at *
    rw [lastOr_snoc, insertAfter_split (not_mem_of_nodup_split hnd)]
    simp

theorem erase_split {e : Nat} {pre post : List Nat} (h : e ∉ pre) :
    (pre ++ e :: post).erase e = pre ++ post := by
  rw [List.erase_append_right _ h, List.erase_cons_head]

theorem Chain.walk_next {h : Heap} {xs : List Nat} {a b : Nat} (hc : Chain h a xs b)
    (hok : ∀ x, x ∈ xs → (h.node x).ok = true) (hb : (h.node b).ok = false) {fuel : Nat}
    (hf : xs.length < fuel) : h.walk Node.next fuel (h.node a).next = (xs, "end") := by
  induction xs generalizing a fuel with
  | nil =>
    cases fuel with
    | zero => cases hf
    | succ f => simp [Heap.walk, hc.1, hb]
  | cons x xs ih =>
    cases fuel with
    | zero => cases hf
    | succ f =>
      have hx : (h.node x).ok = true := hok x (by simp)
      have := ih hc.2 (fun y hy => hok y (by simp [hy])) (fuel := f) (by simpa using hf)
      simp [Heap.walk, hc.1.1, hx, this]

theorem Chain.walk_prev {h : Heap} {ys : List Nat} {a b : Nat} (hc : Chain h a ys.reverse b)
    (hok : ∀ x, x ∈ ys → (h.node x).ok = true) (ha : (h.node a).ok = false) {fuel : Nat}
    (hf : ys.length < fuel) : h.walk Node.prev fuel (h.node b).prev = (ys, "end") := by
  induction ys generalizing b fuel with
  | nil =>
    cases fuel with
    | zero => cases hf
    | succ f => simp at hc; simp [Heap.walk, hc.2, ha]
  | cons y ys ih =>
    cases fuel with
    | zero => cases hf
    | succ f =>
      rw [List.reverse_cons, chain_snoc] at hc
      have hy : (h.node y).ok = true := hok y (by simp)
      have := ih hc.1 (fun z hz => hok z (by simp [hz])) (fuel := f) (by simpa using hf)
      simp [Heap.walk, hc.2.2, hy, this]

end FunModel.Dll
