import FunModel.Queue
import FunGen.SegsQueue

/-! T-gen tie of the *control structure* of `pubsub.Queue` (C05/C07), vocabulary: which operations
    tools/go2lean (segs.go → lean/FunGen/SegsQueue.lean) regenerates from pubsub/queue.go, which of them have
    a `cond.Wait()`, and the generated room test. The tie itself is FunProps/C05Segs.lean. -/
namespace FunProofs.GenTieSegsQueue
open FunModel.Conc FunModel.Queue

/-- `q.tracker.cap() > q.tracker.len()` is the model's `hasRoom` -/
theorem capGt_hasRoom (tr : Tracker) : FunGen.SegsQueue.capGt tr.cap tr.len = tr.hasRoom := by
  unfold FunGen.SegsQueue.capGt Tracker.hasRoom
  cases tr.cap <;> simp

def regenerated : Op → Bool
  | .recv | .next _ => false
  | _ => true

def blocking : Op → Bool
  | .badd _ | .wait => true
  | _ => false

end FunProofs.GenTieSegsQueue
