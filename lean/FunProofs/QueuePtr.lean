import FunGen.QueuePtr
import FunProofs.PtrCommon
import FunProofs.QueueSeq

/-! Pointer level of `pubsub.Queue` (C05, C20): the representation invariant `R` relates a heap (the chain
    `front → … → back` of queue.go) to a state of the list-level model FunModel/Queue.lean; the *generated*
    link updates of `doAdd` and `popFront` (FunGen/QueuePtr.lean) refine the model's list operations. -/
namespace FunProofs.QueuePtr
open FunModel.QueuePtr FunModel.Queue FunModel.Conc FunModel.ConcSubj FunProofs.Ptr

section simp
variable (h : Heap) (a : Nat) (v : Option Nat) (x : Int)
@[simp] theorem setLink_link (i : Nat) : (h.setLink a v).link i = if i = a then v else h.link i := rfl
@[simp] theorem setLink_item : (h.setLink a v).item = h.item := rfl
@[simp] theorem setLink_front : (h.setLink a v).front = h.front := rfl
@[simp] theorem setLink_back : (h.setLink a v).back = h.back := rfl
@[simp] theorem setLink_nn : (h.setLink a v).nn = h.nn := rfl
@[simp] theorem setFront_link : (h.setFront v).link = h.link := rfl
@[simp] theorem setFront_item : (h.setFront v).item = h.item := rfl
@[simp] theorem setFront_front : (h.setFront v).front = v := rfl
@[simp] theorem setFront_back : (h.setFront v).back = h.back := rfl
@[simp] theorem setFront_nn : (h.setFront v).nn = h.nn := rfl
@[simp] theorem setBack_link : (h.setBack v).link = h.link := rfl
@[simp] theorem setBack_item : (h.setBack v).item = h.item := rfl
@[simp] theorem setBack_front : (h.setBack v).front = h.front := rfl
@[simp] theorem setBack_back : (h.setBack v).back = v := rfl
@[simp] theorem setBack_nn : (h.setBack v).nn = h.nn := rfl
@[simp] theorem alloc_link (i : Nat) : (h.alloc x).1.link i = if i = h.nn then none else h.link i := rfl
@[simp] theorem alloc_item (i : Nat) : (h.alloc x).1.item i = if i = h.nn then x else h.item i := rfl
@[simp] theorem alloc_front : (h.alloc x).1.front = h.front := rfl
@[simp] theorem alloc_back : (h.alloc x).1.back = h.back := rfl
@[simp] theorem alloc_nn : (h.alloc x).1.nn = h.nn + 1 := rfl
@[simp] theorem alloc_snd : (h.alloc x).2 = h.nn := rfl
end simp

def Path (h : Heap) : Nat → List Nat → Prop
  | a, [] => h.link a = none
  | a, x :: xs => h.link a = some x ∧ Path h x xs

@[simp] theorem path_nil {h : Heap} {a : Nat} : Path h a [] ↔ h.link a = none := Iff.rfl
@[simp] theorem path_cons {h : Heap} {a x : Nat} {xs : List Nat} :
    Path h a (x :: xs) ↔ h.link a = some x ∧ Path h x xs := Iff.rfl

theorem Path.link_head {h : Heap} {a : Nat} {xs : List Nat} (hp : Path h a xs) : h.link a = xs.head? := by
  cases xs with
  | nil => exact hp
  | cons x xs => exact hp.1

theorem Path.frame {h h' : Heap} {a : Nat} {xs : List Nat} (hp : Path h a xs)
    (hf : ∀ c, c = a ∨ c ∈ xs → h'.link c = h.link c) : Path h' a xs := by
  induction xs generalizing a with
  | nil => simp only [path_nil] at hp ⊢; rw [hf a (Or.inl rfl)]; exact hp
  | cons x xs ih =>
    simp only [path_cons] at hp ⊢
    refine ⟨by rw [hf a (Or.inl rfl)]; exact hp.1, ih hp.2 ?_⟩
    intro c hc; apply hf; rcases hc with rfl | hc <;> simp [*]

theorem Path.link_last {h : Heap} {a : Nat} {xs : List Nat} (hp : Path h a xs) : h.link (lastD a xs) = none := by
  induction xs generalizing a with
  | nil => exact hp
  | cons x xs ih => exact ih hp.2

theorem Path.snoc {h h' : Heap} {a e : Nat} {xs : List Nat} (hp : Path h a xs)
    (hn : (a :: xs).Nodup) (he : e ∉ a :: xs) (hfe : h.link e = none)
    (hl : ∀ c, h'.link c = if c = lastD a xs then some e else h.link c) : Path h' a (xs ++ [e]) := by
  induction xs generalizing a with
  | nil => exact ⟨(hl a).trans (if_pos rfl), (hl e).trans ((if_neg fun h : e = a => he (h ▸ List.mem_cons_self)).trans hfe)⟩
  | cons x xs ih =>
    have hax : a ≠ lastD x xs := fun e1 => List.cons_ne_nil x xs (lastD_eq_self hn e1.symm)
    refine ⟨(hl a).trans ((if_neg hax).trans hp.1), ih hp.2 (List.nodup_cons.1 hn).2 ?_ hl⟩
    exact fun hm => he (List.mem_cons_of_mem _ hm)

theorem Path.unlink {h h' : Heap} {a x : Nat} {xs : List Nat} (hp : Path h a (x :: xs))
    (ha : a ∉ xs) (hl : ∀ c, h'.link c = if c = a then h.link x else h.link c) : Path h' a xs := by
  cases xs with
  | nil => exact (hl a).trans ((if_pos rfl).trans hp.2)
  | cons y ys =>
    refine ⟨(hl a).trans ((if_pos rfl).trans hp.2.1), hp.2.2.frame fun c hc => (hl c).trans (if_neg ?_)⟩
    rintro rfl
    exact ha (hc.elim (· ▸ List.mem_cons_self) (List.mem_cons_of_mem _))

theorem walk_path {h : Heap} {a : Nat} {xs : List Nat} (hp : Path h a xs) :
    ∀ fuel, xs.length ≤ fuel → h.walk fuel (h.link a) = xs := by
  induction xs generalizing a with
  | nil =>
    intro fuel _
    rw [path_nil] at hp; rw [hp]
    cases fuel <;> rfl
  | cons x xs ih =>
    intro fuel hf
    cases fuel with
    | zero => simp at hf
    | succ f =>
      rw [path_cons] at hp
      rw [hp.1]
      simp only [Heap.walk]
      rw [ih hp.2 f (by simpa using hf)]

def ids (s : St) : List Nat := s.q.map (·.1)

/-- the heap `h` represents the entry structure of the model state `s`: entry identities are addresses, 0 is
    the sentinel, and the allocator hands out the model's identities (`nn`) -/
structure R (h : Heap) (s : St) : Prop where
  front : h.front = some 0
  back : h.back = some s.back
  path : Path h 0 (ids s)
  nodup : (0 :: ids s).Nodup
  lt : ∀ x ∈ ids s, x < h.nn
  nn : h.nn = s.nextId
  pos : 0 < h.nn
  fresh : ∀ c, h.nn ≤ c → h.link c = none
  /-- the `link` field of *every* entry, linked or already removed, is what the model's `linkOf` says
      (this is what the iterators of C20 follow) -/
  links : ∀ c, h.link c = s.linkOf c
  items : ∀ p ∈ s.q, h.item p.1 = p.2
  vals : ∀ c, c ≠ 0 → c < h.nn → h.item c = s.valOf c

def abs (h : Heap) : List (Nat × Int) :=
  (h.walk h.nn (h.front.bind h.link)).map (fun e => (e, h.item e))

theorem back_eq_lastD (s : St) : s.back = lastD 0 (ids s) := by
  rw [lastD_eq_getLast?, ids, List.getLast?_map, St.back]
  cases s.q.getLast? <;> rfl

variable {h : Heap} {s : St}

theorem R.back_zero_iff (hr : R h s) : s.back = 0 ↔ s.q = [] := by
  constructor
  · intro hb
    rw [back_eq_lastD] at hb
    have := lastD_eq_self hr.nodup hb
    simpa [ids] using this
  · intro hq; simp [St.back, hq]

theorem R.cells (hr : R h s) : Cells h.nn h.item s.q s.vals := ⟨hr.nodup, hr.lt, hr.pos, hr.items, hr.vals⟩

theorem R.abs_eq (hr : R h s) : abs h = s.q := by
  unfold abs
  rw [hr.front, Option.bind_some, walk_path hr.path _ (Nat.le_of_lt hr.cells.length_lt)]
  exact hr.cells.read

theorem R.back_front_iff (hr : R h s) : h.back = h.front ↔ s.q = [] := by
  rw [hr.back, hr.front, ← hr.back_zero_iff]; simp

theorem R.congr {h : Heap} {s s' : St} (hr : R h s) (hq : s'.q = s.q) (hl : s'.links = s.links)
    (hv : s'.vals = s.vals) (hid : s'.nextId = s.nextId) : R h s' := by
  have hc : Cells h.nn h.item s'.q s'.vals := hq ▸ hv ▸ hr.cells
  have hids : ids s' = ids s := by simp [ids, hq]
  exact ⟨hr.front, by rw [back_congr hq]; exact hr.back, by rw [hids]; exact hr.path, hc.nodup, hc.lt,
    by rw [hid]; exact hr.nn, hr.pos, hr.fresh, fun c => by rw [linkOf_congr hq hl]; exact hr.links c, hc.items, hc.vals⟩

theorem init_link (c : Nat) : Heap.init.link c = none := by
  simp [Heap.init, Heap.alloc, Heap.setFront, Heap.setBack]

theorem R.init {s : St} (hq : s.q = []) (hl : s.links = []) (hid : s.nextId = 1) :
    R Heap.init s := by
  refine ⟨rfl, by simp [St.back, hq]; rfl, by simp [ids, hq]; rfl, by simp [ids, hq], by simp [ids, hq],
    by rw [hid]; rfl, by decide, ?_, ?_, by simp [hq], ?_⟩
  · intro c _; exact init_link c
  · intro c
    rw [init_link]
    simp [St.linkOf, hq, hl]
  · intro c h0 h1
    have : Heap.init.nn = 1 := rfl
    omega

/-- the heap the generated `doAdd` leaves on its main branch when `back = b` (`gen_doAdd_ok`):
    `e := &entry{item: v}; q.back.link = e; q.back = e` with `e = h.nn` -/
def addResult (h : Heap) (b : Nat) (v : Int) : Heap := (((h.alloc v).1).setLink b (some h.nn)).setBack (some h.nn)

theorem heap_ext {h1 h2 : Heap} (hl : ∀ c, h1.link c = h2.link c) (hi : ∀ c, h1.item c = h2.item c)
    (hf : h1.front = h2.front) (hb : h1.back = h2.back) (hn : h1.nn = h2.nn) : h1 = h2 := by
  cases h1; cases h2
  simp only at hl hi hf hb hn
  subst hf hb hn
  have e1 := funext hl
  have e2 := funext hi
  subst e1 e2
  rfl

theorem gen_doAdd_ok {h : Heap} {b : Nat} (hb : h.back = some b) (v : Int) :
    FunGen.QueuePtr.doAdd h false false v = some (addResult h b v, 2, none) := by
  simp [FunGen.QueuePtr.doAdd, addResult, hb]
  -- `simp` closes the goal when the source assigns in the order of `addResult`; the next line is for any
  -- other order of the independent assignments (same in `gen_popFront_ok`)
  try (apply heap_ext <;> (try intro c) <;> simp <;> grind)

theorem gen_doAdd_refused (h : Heap) (c2 : Bool) (v : Int) :
    FunGen.QueuePtr.doAdd h true c2 v = some (h, 0, none) ∧ FunGen.QueuePtr.doAdd h false true v = some (h, 1, none) := by
  constructor <;> simp [FunGen.QueuePtr.doAdd]

theorem R.added {h : Heap} {s s' : St} (hr : R h s) (v : Int)
    (hq : s'.q = s.q ++ [(s.nextId, v)]) (hv : s'.vals = (s.nextId, v) :: s.vals) (hid : s'.nextId = s.nextId + 1)
    (hl : s'.links = if s.back = 0 then s.links else (s.back, s.nextId) :: s.links) :
    R (addResult h s.back v) s' := by
  have hnn := hr.nn
  have hids : ids s' = ids s ++ [h.nn] := by simp [ids, hq, hnn]
  have hb' : s'.back = h.nn := by rw [back_eq_lastD, hids, lastD_snoc]
  have hblt : s.back < h.nn := hr.cells.lt_nn (back_eq_lastD s ▸ lastD_mem 0 (ids s))
  have hc : Cells (h.nn + 1) (addResult h s.back v).item s'.q s'.vals := by
    rw [hq, hv, ← hnn]
    exact hr.cells.alloc (List.perm_append_singleton _ _) fun c => rfl
  -- the one link that changes is that of the old `back` (the new cell's was nil already)
  have hlink : ∀ c, (addResult h s.back v).link c = if c = s.back then some h.nn else h.link c := by
    intro c
    simp only [addResult, setBack_link, setLink_link, alloc_link]
    split
    · rfl
    · split
      · rw [‹c = h.nn›]; exact (hr.fresh _ (Nat.le_refl _)).symm
      · rfl
  refine ⟨?_, ?_, ?_, hc.nodup, hc.lt, ?_, hc.pos, ?_, ?_, hc.items, hc.vals⟩
  · simpa [addResult] using hr.front
  · simp [addResult, hb']
  · rw [hids]
    exact hr.path.snoc hr.nodup hr.cells.fresh (hr.fresh _ (Nat.le_refl _)) (back_eq_lastD s ▸ hlink)
  · simp [addResult, hid, hnn]
  · intro c hc
    simp only [addResult, setBack_nn, setLink_nn, alloc_nn] at hc
    rw [hlink, if_neg (by omega)]
    exact hr.fresh c (by omega)
  · intro c
    rw [hlink, linkOf_added hq hl hr.back_zero_iff.1 c, hr.links c, hnn]

/-- the heap the generated `popFront` leaves when the first entry is `e` and `front` is the sentinel 0
    (`gen_popFront_ok`): `q.front.link = e.link; if e == q.back { q.back = q.front }` -/
def popResult (h : Heap) (e : Nat) : Heap :=
  let h1 := h.setLink 0 (h.link e)
  if some e = h.back then h1.setBack h.front else h1

theorem gen_popFront_ok {h : Heap} {e : Nat} (hf : h.front = some 0) (he : h.link 0 = some e) :
    FunGen.QueuePtr.popFront h = some (popResult h e, 0, some (h.item e)) := by
  unfold popResult
  by_cases hb : h.back = some e
  · simp [FunGen.QueuePtr.popFront, hf, he, hb]
    try (apply heap_ext <;> (try intro c) <;> simp <;> grind)
  · have hb' : ¬ some e = h.back := fun x => hb x.symm
    simp [FunGen.QueuePtr.popFront, hf, he, hb']
    try (apply heap_ext <;> (try intro c) <;> simp <;> grind)

/-- on an empty queue `popFront` dereferences nil (`e.link` with `e == nil`) -/
theorem gen_popFront_empty {h : Heap} (hf : h.front = some 0) (he : h.link 0 = none) :
    FunGen.QueuePtr.popFront h = none := by
  simp [FunGen.QueuePtr.popFront, hf, he]

theorem R.popped {h : Heap} {s s' : St} (hr : R h s) {p : Nat × Int} {rest : List (Nat × Int)}
    (hs : s.q = p :: rest) (hq : s'.q = rest) (hl : s'.links = s.links) (hv : s'.vals = s.vals)
    (hid : s'.nextId = s.nextId) : R (popResult h p.1) s' := by
  have hids : ids s = p.1 :: ids s' := by simp [ids, hs, hq]
  have hpath := hr.path
  have hnd := hr.nodup
  rw [hids] at hpath hnd
  have h0r : 0 ∉ ids s' := by intro e; simp [e] at hnd
  -- the link structure after the update, whichever way the test on `back` goes
  have hlink : ∀ c, (popResult h p.1).link c = if c = 0 then h.link p.1 else h.link c := by
    intro c; unfold popResult; split <;> simp
  have hitem : (popResult h p.1).item = h.item := by unfold popResult; split <;> simp
  have hnn' : (popResult h p.1).nn = h.nn := by unfold popResult; split <;> simp
  have hfront : (popResult h p.1).front = h.front := by unfold popResult; split <;> simp
  have hc : Cells (popResult h p.1).nn (popResult h p.1).item s'.q s'.vals := by
    rw [hnn', hitem, hv]
    exact hr.cells.forget (by rw [hs, hq]; exact (List.sublist_cons_self ..).map _) fun t ht =>
      hs ▸ List.mem_cons_of_mem _ (hq ▸ ht)
  refine ⟨by rw [hfront]; exact hr.front, ?_, ?_, hc.nodup, hc.lt, ?_, hc.pos, ?_, ?_, hc.items, hc.vals⟩
  · have hb := hr.back
    rw [back_eq_lastD, hids, lastD_cons] at hb
    unfold popResult
    by_cases hlast : some p.1 = h.back
    · rw [if_pos hlast]
      rw [hb] at hlast
      have hnil : ids s' = [] := lastD_eq_self (List.nodup_cons.1 hnd).2 (Option.some.inj hlast).symm
      simp only [setBack_back, hr.front, back_eq_lastD, hnil, lastD_nil]
    · rw [if_neg hlast]
      simp only [setLink_back, hb]
      rw [back_eq_lastD]
      have hne : ids s' ≠ [] := by
        intro e; rw [e] at hb; exact hlast (by rw [hb]; rfl)
      rw [lastD_eq_of_ne_nil p.1 hne 0]
  · exact hpath.unlink h0r hlink
  · rw [hnn', hid]; exact hr.nn
  · intro c hc
    rw [hnn'] at hc
    have : c ≠ 0 := by have := hr.pos; omega
    rw [hlink, if_neg this]; exact hr.fresh c hc
  · intro c
    rw [hlink]
    by_cases hc0 : c = 0
    · subst hc0
      rw [if_pos rfl, hpath.2.link_head]
      simp [St.linkOf, ids]
    · rw [if_neg hc0, linkOf_congr_pos hl hc0]; exact hr.links c

/-- what one segment does to the heap: nothing, or one call of the generated `doAdd` (any guard values,
    any `return` reached) or `popFront` that does not dereference nil -/
inductive PStep (h : Heap) : Heap → Prop where
  | none : PStep h h
  | add (v : Int) (h' : Heap) (c1 c2 : Bool) (k : Nat) (hg : FunGen.QueuePtr.doAdd h c1 c2 v = some (h', k, none)) : PStep h h'
  | pop (v : Int) (h' : Heap) (hg : FunGen.QueuePtr.popFront h = some (h', 0, some v)) : PStep h h'

inductive PReach : Heap → Prop where
  | init : PReach Heap.init
  | step {h h' : Heap} : PReach h → PStep h h' → PReach h'

theorem R.effect {h : Heap} {s : St} (hr : R h s) {op : Op} {o : SegOut St} (he : QEffect s op o) :
    ∃ h', PStep h h' ∧ R h' o.st := by
  cases he with
  | same hq hl hv hid _ _ => exact ⟨h, .none, hr.congr hq hl hv hid⟩
  | added v _ _ hq hv hid hl _ =>
    exact ⟨_, .add v _ false false 2 (gen_doAdd_ok hr.back v), hr.added v hq hv hid hl⟩
  | popped p rest _ hs hq _ hl hv hid _ =>
    have hp : h.link 0 = some p.1 := by rw [hr.path.link_head]; simp [ids, hs]
    exact ⟨_, .pop _ _ (gen_popFront_ok hr.front hp), hr.popped hs hq hl hv hid⟩

theorem R.seg (hS : SInv s) (hr : R h s) {t : Nat} {op : Op} {first c : Bool} {o : SegOut St}
    (hs : IsSeg s t op first c o) : ∃ h', PStep h h' ∧ R h' o.st := by
  cases hn : op.isNext with
  | true =>
    obtain ⟨k, rfl⟩ := Op.eq_next_of_isNext hn
    obtain ⟨_, _, f3, f4, f5, f6⟩ := hs.next_frame
    exact ⟨h, .none, hr.congr f3 f4 f5 f6⟩
  | false => exact hr.effect (seg_effect hS hs hn)

/-- the popped entry keeps its own `link` (the iterator of C20 may still stand on it) -/
theorem popFront_keeps_link (hr : R h s) {e : Nat} (he : h.link 0 = some e) :
    (popResult h e).link e = h.link e := by
  have he0 : e ≠ 0 := by
    rintro rfl
    exact (List.nodup_cons.1 hr.nodup).1 (List.mem_of_head? (hr.path.link_head.symm.trans he))
  unfold popResult; split <;> simp [he0]

theorem popFront_rep (hr : R h s) {e : Nat} {x : Int} {rest : List (Nat × Int)} (hq : s.q = (e, x) :: rest) :
    FunGen.QueuePtr.popFront h = some (popResult h e, 0, some x) ∧ R (popResult h e) (popFront s).1 ∧
      (popFront s).1.q = rest ∧ (popFront s).2.1 = x ∧ (popResult h e).link e = h.link e := by
  have hp : h.link 0 = some e := by rw [hr.path.link_head]; simp [ids, hq]
  have hpop : popFront s = ({ s with q := rest, tracker := s.tracker.remove }, x, [.broadcast 1]) := by
    simp [popFront, hq]
  refine ⟨?_, ?_, by rw [hpop], by rw [hpop], popFront_keeps_link hr hp⟩
  · rw [gen_popFront_ok hr.front hp, hr.items (e, x) (by rw [hq]; exact List.mem_cons_self)]
  · rw [hpop]; exact hr.popped (p := (e, x)) hq rfl rfl rfl rfl

/-- the representation invariant of the heap: a nil-terminated duplicate-free chain from the sentinel
    `front` to `back` (some model state is represented) -/
def Inv (h : Heap) : Prop := ∃ s, R h s

theorem Inv.init : Inv Heap.init ∧ abs Heap.init = [] := by
  have hr : R Heap.init mkUnlimited := R.init rfl rfl rfl
  exact ⟨⟨_, hr⟩, hr.abs_eq⟩

theorem Inv.popFront {h : Heap} (hi : Inv h) {e : Nat} {x : Int} {rest : List (Nat × Int)} (ha : abs h = (e, x) :: rest) :
    ∃ h', FunGen.QueuePtr.popFront h = some (h', 0, some x) ∧ Inv h' ∧ abs h' = rest ∧
      (h'.back = h'.front ↔ rest = []) ∧ h'.link e = h.link e := by
  obtain ⟨s, hr⟩ := hi
  rw [hr.abs_eq] at ha
  obtain ⟨hg, hr', hq', -, hl⟩ := popFront_rep hr ha
  exact ⟨_, hg, ⟨_, hr'⟩, by rw [hr'.abs_eq, hq'], by rw [hr'.back_front_iff, hq'], hl⟩

theorem run_rep {q0 : St} (h0 : InitQ q0) {programs : List (List Op)} {log : List (Ev St Op)} {s : Sys St Op}
    (h : Reach' subject (initSys q0 programs) log s) : ∃ hp, PReach hp ∧ R hp s.subj := by
  refine (run_induction h0 (fun _ x => ∃ hp, PReach hp ∧ R hp x) ?_ ?_ (fun _ hI => hI) h).2
  · obtain ⟨e1, _, e3, _, e5, _, _⟩ := h0.empty
    exact ⟨Heap.init, .init, R.init e1 e3 e5⟩
  · intro log x t op first c o pc hS ⟨hp, hreach, hr⟩ hseg
    obtain ⟨h', hst, hr'⟩ := hr.seg hS hseg
    exact ⟨h', .step hreach hst, hr'⟩

end FunProofs.QueuePtr
