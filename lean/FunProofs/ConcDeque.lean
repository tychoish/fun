import FunProofs.Conc

/-! What is particular to a subject whose waiters signal before they wait (the Deque, D28): runs by internal
    actions only (`ReachInt`), quiescence up to ping-pong (`QuiescentPP`), and the FIFO fact about the
    segment "Signal c; Wait on c" — it wakes the thread standing first in the queue of `c`, so that everybody
    else parked on `c` moves up (`queuePos`). -/

namespace FunModel.Conc
variable {σ Op : Type}

inductive ReachInt (sub : Subject σ Op) (s : Sys σ Op) : Sys σ Op → Prop
  | refl : ReachInt sub s s
  | step {s1 s2 : Sys σ Op} {a : Act} {obs : String} : ReachInt sub s s1 → a ∈ enabled s1 false → a.internal = true →
      FunModel.Conc.step sub s1 a = some (s2, obs) → ReachInt sub s s2

theorem ReachInt.reach {sub : Subject σ Op} {s0 s s' : Sys σ Op} (h0 : Reach sub s0 s) (h : ReachInt sub s s') :
    Reach sub s0 s' := by
  induction h with
  | refl => exact h0
  | step _ hen _ hs ih => exact .step ih (enabled_false_sub hen) hs

theorem ReachInt.trans {sub : Subject σ Op} {s s1 s2 : Sys σ Op} (h1 : ReachInt sub s s1) (h2 : ReachInt sub s1 s2) :
    ReachInt sub s s2 := by
  induction h2 with
  | refl => exact h1
  | step _ hen hi hs ih => exact .step ih hen hi hs

def RePark (sub : Subject σ Op) (s : Sys σ Op) (a : Act) : Prop :=
  ∃ (t : Nat) (s' : Sys σ Op) (obs : String) (th : Th Op) (c : Nat), a = .resume t ∧ step sub s a = some (s', obs) ∧
    s'.subj = s.subj ∧ s'.ths[t]? = some th ∧ th.st = .parked c

/-- quiescent up to ping-pong: whatever internal actions are taken from here on, the only ones
    ever enabled are resumptions that park again without changing the subject -/
def QuiescentPP (sub : Subject σ Op) (s : Sys σ Op) : Prop :=
  ∀ s', ReachInt sub s s' → ∀ a ∈ enabled s' false, a.internal = true → RePark sub s' a

theorem Quiescent.pp {sub : Subject σ Op} {s : Sys σ Op} (q : Quiescent s) : QuiescentPP sub s := by
  have key : ∀ s', ReachInt sub s s' → s' = s := by
    intro s' h
    induction h with
    | refl => rfl
    | step _ hen hi _ ih => subst ih; rw [q _ hen] at hi; cases hi
  intro s' h a hen hi
  rw [key s' h] at hen
  rw [q a hen] at hi; cases hi

theorem QuiescentPP.step {sub : Subject σ Op} {s s' : Sys σ Op} (q : QuiescentPP sub s) (h : ReachInt sub s s') :
    QuiescentPP sub s' :=
  fun s'' h' a hen hi => q s'' (h.trans h') a hen hi

/-- the parked list after the segment "Signal c; Wait on c" of thread `u` -/
theorem repark_parked {sub : Subject σ Op} {s s' : Sys σ Op} {u : Nat} {obs : String} {th : Th Op} {op : Op} {c : Nat}
    (hth : s.ths[u]? = some th) (hop : th.ops[th.pc]? = some op)
    (ho : sub.resume s.subj u op th.cancelled = { st := s.subj, sigs := [.signal c], fin := .park c })
    (hs : step sub s (.resume u) = some (s', obs)) :
    s'.parked = (match s.parked.find? (fun p => p.2 == c) with
      | some p => s.parked.filter (fun q => q.1 != p.1)
      | none => s.parked) ++ [(u, c)] := by
  simp only [step, hth, hop, Option.bind_eq_bind, Option.bind_some, ho, pure, Option.some.injEq, Prod.mk.injEq] at hs
  rw [← hs.1]
  simp only [applySeg, List.foldl_cons, List.foldl_nil, applySig, signal]
  cases hf : s.parked.find? (fun p => p.2 == c) with
  | none => simp [modTh]
  | some p => simp [modTh, wake]

/-- how many threads have been parked longer than `u` -/
def queuePos (s : Sys σ Op) (u : Nat) : Nat := (s.parked.takeWhile (fun q => q.1 != u)).length

/-- FIFO: when a `Signal` on `c` wakes the first thread parked on `c` and that is not `u`, parked on `c`
    too, then `u` stays parked and one thread fewer stands before it, whoever (`back`) parks behind it -/
theorem ahead_wake_first {l : List (Nat × Nat)} {u c : Nat} {p : Nat × Nat} (back : List (Nat × Nat))
    (hnd : l.Pairwise (fun p q => p.1 ≠ q.1)) (hf : l.find? (fun q => q.2 == c) = some p)
    (hu : (u, c) ∈ l) (hpu : p.1 ≠ u) :
    (u, c) ∈ l.filter (fun q => q.1 != p.1) ∧
    ((l.filter (fun q => q.1 != p.1) ++ back).takeWhile (fun q => q.1 != u)).length <
      (l.takeWhile (fun q => q.1 != u)).length := by
  obtain ⟨hp, as, bs, rfl, has⟩ := List.find?_eq_some_iff_append.1 hf
  -- `(u, c)` stands after `p`: `l = as ++ p :: b1 ++ (u, c) :: b2`, all entries of different threads
  have hub : (u, c) ∈ bs := by
    rcases List.mem_append.1 hu with h | h
    · have := has _ h; simp at this
    · exact (List.mem_cons.1 h).resolve_left (fun e => hpu (e ▸ rfl))
  obtain ⟨b1, b2, rfl⟩ := List.append_of_mem hub
  obtain ⟨_, hpb, hab⟩ := List.pairwise_append.1 hnd
  obtain ⟨hp', hbb⟩ := List.pairwise_cons.1 hpb
  obtain ⟨_, _, hb1u⟩ := List.pairwise_append.1 hbb
  have e1 : (as ++ p :: (b1 ++ (u, c) :: b2)).filter (fun q => q.1 != p.1) = as ++ (b1 ++ (u, c) :: b2) := by
    rw [List.filter_append, List.filter_cons_of_neg (by simp), List.filter_eq_self.2, List.filter_eq_self.2]
    · intro b hb; simpa using Ne.symm (hp' b hb)
    · intro a ha; simpa using hab a ha p List.mem_cons_self
  have hau : ∀ a ∈ as, (a.1 != u) = true := fun a ha => by
    simpa using hab a ha (u, c) (List.mem_cons_of_mem _ (List.mem_append_right _ List.mem_cons_self))
  have hbu : ∀ b ∈ b1, (b.1 != u) = true := fun b hb => by simpa using hb1u b hb (u, c) List.mem_cons_self
  refine ⟨by rw [e1]; simp, ?_⟩
  -- before: `as ++ p :: b1` stand before `u`; afterwards `as ++ b1`
  rw [e1, List.append_assoc, List.takeWhile_append_of_pos hau, List.takeWhile_append_of_pos hau,
    List.takeWhile_cons_of_pos (by simpa using hpu), List.append_assoc, List.takeWhile_append_of_pos hbu,
    List.takeWhile_append_of_pos hbu]
  simp

/-- the ping-pong step seen from a thread `u` parked on `c`: when a woken thread `v` signals `c` and
    parks on it again, the signal wakes `u`, or `u` stays parked and moves up in the queue -/
theorem repark_other {sub : Subject σ Op} {s s' : Sys σ Op} {u v : Nat} {obs : String} {th thv : Th Op} {op : Op}
    {c : Nat} (hwf : s.WF) (hthv : s.ths[v]? = some thv) (hwk : thv.st = .woken) (hop : thv.ops[thv.pc]? = some op)
    (ho : sub.resume s.subj v op thv.cancelled = { st := s.subj, sigs := [.signal c], fin := .park c })
    (hs : step sub s (.resume v) = some (s', obs)) (hth : s.ths[u]? = some th) (hst : th.st = .parked c) :
    s'.ths[u]? = some th.wake ∨ (s'.ths[u]? = some th ∧ queuePos s' u < queuePos s u) := by
  have hen : Act.resume v ∈ enabled s true := mem_enabled_resume.2 ⟨thv, hthv, hwk⟩
  obtain ⟨thx, opx, hthx, _, hopx, r⟩ := step_resume_rel hwf hen hs
  rw [hthv] at hthx; cases hthx
  have huv : u ≠ v := by
    intro e; subst e; rw [hth] at hthv; cases hthv; rw [hst] at hwk; cases hwk
  have hparked' := repark_parked hthv hop ho hs
  have hmem : (u, c) ∈ s.parked := (hwf.parked_iff u c).2 ⟨th, hth, hst⟩
  obtain ⟨thu', hthu', hwake⟩ := r.other u th huv hth
  cases hf : s.parked.find? (fun p => p.2 == c) with
  | none => exact absurd (List.find?_eq_none.1 hf _ hmem) (by simp)
  | some p =>
    rw [hf] at hparked'
    simp only at hparked'
    by_cases hpu : p.1 = u
    · -- `u` is the first one parked on `c`: it has left the parked list
      left
      rcases hwake with h | ⟨_, h⟩
      · exfalso; subst h
        have hx := (r.wf.parked_iff u c).2 ⟨thu', hthu', hst⟩
        rw [hparked', List.mem_append, List.mem_filter] at hx
        rcases hx with ⟨_, hx⟩ | hx
        · simp [hpu] at hx
        · simp at hx; exact huv hx
      · exact h ▸ hthu'
    · right
      obtain ⟨hin, hlt⟩ := ahead_wake_first [(v, c)] hwf.once hf hmem hpu
      obtain ⟨th'', hth'', hst''⟩ := (r.wf.parked_iff u c).1 (by rw [hparked']; exact List.mem_append_left _ hin)
      have hsame := r.parked_inv huv hth'' hst''
      rw [hth] at hsame; cases hsame
      exact ⟨hth'', by rw [queuePos, queuePos, hparked']; exact hlt⟩

end FunModel.Conc
