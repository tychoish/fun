import FunProofs.Service

/-! The log of the `srv.Service` model as a list that every step extends by the events of one clock value: counting and
    searching under such an extension, the event predicates on each kind of event, and what a step of a caller
    (`ThStep.shape`) or of a service goroutine (`GStep`) does to threads, log and clock. -/

namespace FunModel.Service

def has (l : Log) (p : Ev → Bool) : Bool := l.any (fun x => p x.2)

def stamp (k : Nat) (evs : List Ev) : Log := evs.map (fun e => (k, e))

@[simp] theorem tick_log (s : State) (evs : List Ev) : (s.tick evs).log = s.log ++ stamp s.clock evs := rfl
@[simp] theorem tick_clock (s : State) (evs : List Ev) : (s.tick evs).clock = s.clock + 1 := rfl

@[simp] theorem tick_isRunning (s : State) (evs : List Ev) : (s.tick evs).isRunning = s.isRunning := rfl
@[simp] theorem tick_isFinished (s : State) (evs : List Ev) : (s.tick evs).isFinished = s.isFinished := rfl
@[simp] theorem tick_isStarted (s : State) (evs : List Ev) : (s.tick evs).isStarted = s.isStarted := rfl
@[simp] theorem tick_once (s : State) (evs : List Ev) : (s.tick evs).once = s.once := rfl
@[simp] theorem tick_cancelSet (s : State) (evs : List Ev) : (s.tick evs).cancelSet = s.cancelSet := rfl
@[simp] theorem tick_svcParent (s : State) (evs : List Ev) : (s.tick evs).svcParent = s.svcParent := rfl
@[simp] theorem tick_cancelled (s : State) (evs : List Ev) : (s.tick evs).cancelled = s.cancelled := rfl
@[simp] theorem tick_cancelCalled (s : State) (evs : List Ev) : (s.tick evs).cancelCalled = s.cancelCalled := rfl
@[simp] theorem tick_shutdownSig (s : State) (evs : List Ev) : (s.tick evs).shutdownSig = s.shutdownSig := rfl
@[simp] theorem tick_ehSig (s : State) (evs : List Ev) : (s.tick evs).ehSig = s.ehSig := rfl
@[simp] theorem tick_mainSig (s : State) (evs : List Ev) : (s.tick evs).mainSig = s.mainSig := rfl
@[simp] theorem tick_coll (s : State) (evs : List Ev) : (s.tick evs).coll = s.coll := rfl
@[simp] theorem tick_wg (s : State) (evs : List Ev) : (s.tick evs).wg = s.wg := rfl
@[simp] theorem tick_rg (s : State) (evs : List Ev) : (s.tick evs).rg = s.rg := rfl
@[simp] theorem tick_sd (s : State) (evs : List Ev) : (s.tick evs).sd = s.sd := rfl
@[simp] theorem tick_eh (s : State) (evs : List Ev) : (s.tick evs).eh = s.eh := rfl
@[simp] theorem tick_panicking (s : State) (evs : List Ev) : (s.tick evs).panicking = s.panicking := rfl
@[simp] theorem tick_ths (s : State) (evs : List Ev) : (s.tick evs).ths = s.ths := rfl
@[simp] theorem tick_claimed (s : State) (evs : List Ev) : (s.tick evs).claimed = s.claimed := rfl
@[simp] theorem setTh_isRunning (s : State) (t : Nat) (th : Thread) : (s.setTh t th).isRunning = s.isRunning := rfl
@[simp] theorem setTh_isFinished (s : State) (t : Nat) (th : Thread) : (s.setTh t th).isFinished = s.isFinished := rfl
@[simp] theorem setTh_isStarted (s : State) (t : Nat) (th : Thread) : (s.setTh t th).isStarted = s.isStarted := rfl
@[simp] theorem setTh_once (s : State) (t : Nat) (th : Thread) : (s.setTh t th).once = s.once := rfl
@[simp] theorem setTh_cancelSet (s : State) (t : Nat) (th : Thread) : (s.setTh t th).cancelSet = s.cancelSet := rfl
@[simp] theorem setTh_svcParent (s : State) (t : Nat) (th : Thread) : (s.setTh t th).svcParent = s.svcParent := rfl
@[simp] theorem setTh_cancelled (s : State) (t : Nat) (th : Thread) : (s.setTh t th).cancelled = s.cancelled := rfl
@[simp] theorem setTh_cancelCalled (s : State) (t : Nat) (th : Thread) : (s.setTh t th).cancelCalled = s.cancelCalled := rfl
@[simp] theorem setTh_shutdownSig (s : State) (t : Nat) (th : Thread) : (s.setTh t th).shutdownSig = s.shutdownSig := rfl
@[simp] theorem setTh_ehSig (s : State) (t : Nat) (th : Thread) : (s.setTh t th).ehSig = s.ehSig := rfl
@[simp] theorem setTh_mainSig (s : State) (t : Nat) (th : Thread) : (s.setTh t th).mainSig = s.mainSig := rfl
@[simp] theorem setTh_coll (s : State) (t : Nat) (th : Thread) : (s.setTh t th).coll = s.coll := rfl
@[simp] theorem setTh_wg (s : State) (t : Nat) (th : Thread) : (s.setTh t th).wg = s.wg := rfl
@[simp] theorem setTh_rg (s : State) (t : Nat) (th : Thread) : (s.setTh t th).rg = s.rg := rfl
@[simp] theorem setTh_sd (s : State) (t : Nat) (th : Thread) : (s.setTh t th).sd = s.sd := rfl
@[simp] theorem setTh_eh (s : State) (t : Nat) (th : Thread) : (s.setTh t th).eh = s.eh := rfl
@[simp] theorem setTh_panicking (s : State) (t : Nat) (th : Thread) : (s.setTh t th).panicking = s.panicking := rfl
@[simp] theorem setTh_claimed (s : State) (t : Nat) (th : Thread) : (s.setTh t th).claimed = s.claimed := rfl
@[simp] theorem setTh_clock (s : State) (t : Nat) (th : Thread) : (s.setTh t th).clock = s.clock := rfl
@[simp] theorem setTh_log (s : State) (t : Nat) (th : Thread) : (s.setTh t th).log = s.log := rfl
@[simp] theorem setTh_ths (s : State) (t : Nat) (th : Thread) : (s.setTh t th).ths = s.ths.set t th := rfl

theorem mem_stamp {k : Nat} {evs : List Ev} {x : Nat × Ev} : x ∈ stamp k evs ↔ x.1 = k ∧ x.2 ∈ evs := by
  simp only [stamp, List.mem_map]
  constructor
  · rintro ⟨e, he, rfl⟩; exact ⟨rfl, he⟩
  · rintro ⟨h1, h2⟩; exact ⟨x.2, h2, by cases x; simp_all⟩

@[simp] theorem stamp_nil (k : Nat) : stamp k [] = [] := rfl

theorem has_append (l l' : Log) (p : Ev → Bool) : has (l ++ l') p = (has l p || has l' p) := by
  simp [has]

theorem has_stamp (k : Nat) (evs : List Ev) (p : Ev → Bool) : has (stamp k evs) p = evs.any p := by
  simp [has, stamp, List.any_map, Function.comp_def]

theorem countEv_append (l l' : Log) (p : Ev → Bool) : countEv (l ++ l') p = countEv l p + countEv l' p := by
  simp [countEv]

theorem countEv_stamp (k : Nat) (evs : List Ev) (p : Ev → Bool) : countEv (stamp k evs) p = (evs.filter p).length := by
  simp [countEv, stamp, List.filter_map, Function.comp_def]

theorem has_iff {l : Log} {p : Ev → Bool} : has l p = true ↔ ∃ x ∈ l, p x.2 = true := by
  simp [has]

theorem count_stamp_zero {k : Nat} {evs : List Ev} {p : Ev → Bool} (h : ∀ e ∈ evs, p e = false) :
    countEv (stamp k evs) p = 0 := by
  rw [countEv_stamp]; simp only [List.length_eq_zero_iff, List.filter_eq_nil_iff]; intro e he; simp [h e he]

theorem has_stamp_false {k : Nat} {evs : List Ev} {p : Ev → Bool} (h : ∀ e ∈ evs, p e = false) :
    has (stamp k evs) p = false := by
  rw [has_stamp]; simp only [List.any_eq_false]; intro e he; simp [h e he]

theorem has_of_count_pos {l : Log} {p : Ev → Bool} (h : 0 < countEv l p) : has l p = true := by
  simp only [countEv, List.length_pos_iff_exists_mem, List.mem_filter] at h
  obtain ⟨x, hx, hp⟩ := h
  exact has_iff.mpr ⟨x, hx, hp⟩

theorem before_eq_has {l : Log} {k : Nat} (h : ∀ x ∈ l, x.1 < k) (p : Ev → Bool) : before l k p = has l p := by
  induction l with
  | nil => rfl
  | cons x xs ih =>
    have hx := h x (by simp)
    have := ih (fun y hy => h y (by simp [hy]))
    simp only [before, has, List.any_cons] at *
    simp [hx, this]

theorem before_stamp_ge {k K : Nat} (h : k ≤ K) (evs : List Ev) (p : Ev → Bool) : before (stamp K evs) k p = false := by
  simp only [before, stamp, List.any_map, List.any_eq_false]
  intro e _; simp; omega

theorem before_append (l l' : Log) (k : Nat) (p : Ev → Bool) : before (l ++ l') k p = (before l k p || before l' k p) := by
  simp [before]

theorem before_tick {l : Log} {k K : Nat} (h : k ≤ K) (evs : List Ev) (p : Ev → Bool) :
    before (l ++ stamp K evs) k p = before l k p := by
  rw [before_append, before_stamp_ge h]; simp

def Clk (s : State) : Prop := ∀ x ∈ s.log, x.1 < s.clock

theorem before_new {s : State} (hclk : Clk s) (evs : List Ev) (p : Ev → Bool) :
    before (s.log ++ stamp s.clock evs) s.clock p = has s.log p := by
  rw [before_tick (Nat.le_refl _), before_eq_has hclk]

def Appends (s s' : State) (P : Ev → Prop) : Prop :=
  ∃ evs, s'.log = s.log ++ stamp s.clock evs ∧ s'.clock = s.clock + 1 ∧ ∀ e ∈ evs, P e

theorem Appends.mono {s s' : State} {P Q : Ev → Prop} (h : Appends s s' P) (hPQ : ∀ e, P e → Q e) : Appends s s' Q := by
  obtain ⟨evs, h1, h2, h3⟩ := h; exact ⟨evs, h1, h2, fun e he => hPQ e (h3 e he)⟩

theorem Clk.frame {s s' : State} (h : Clk s) (hl : Appends s s' (fun _ => True)) : Clk s' := by
  obtain ⟨evs, hl, hc, -⟩ := hl
  intro x hx
  rw [hl] at hx; rw [hc]
  rcases List.mem_append.mp hx with h1 | h1
  · exact Nat.lt_succ_of_lt (h x h1)
  · rw [mem_stamp] at h1; omega

theorem map_stamp (k : Nat) (evs : List Ev) : evs.map (fun e => (k, e)) = stamp k evs := rfl

theorem init_log (ps : List (List Op)) : (init ps).log = [] := rfl

def isStartRetNonNil : Ev → Bool
  | .ret _ _ .startAlready => true
  | .ret _ _ .startReturned => true
  | _ => false

@[simp] theorem isWaitRes_call_start (t i p : Nat) : isWaitRes (.call t i (.start p)) = false := rfl
@[simp] theorem isWaitRes_call_close (t i : Nat) : isWaitRes (.call t i .close) = false := rfl
@[simp] theorem isWaitRes_call_wait (t i : Nat) : isWaitRes (.call t i .wait) = false := rfl
@[simp] theorem isWaitRes_call_running (t i : Nat) : isWaitRes (.call t i .running) = false := rfl
@[simp] theorem isWaitRes_ret_nil (t i : Nat) : isWaitRes (.ret t i .startNil) = false := rfl
@[simp] theorem isWaitRes_ret_already (t i : Nat) : isWaitRes (.ret t i .startAlready) = false := rfl
@[simp] theorem isWaitRes_ret_returned (t i : Nat) : isWaitRes (.ret t i .startReturned) = false := rfl
@[simp] theorem isWaitRes_ret_closed (t i : Nat) : isWaitRes (.ret t i .closed) = false := rfl
@[simp] theorem isWaitRes_ret_notstarted (t i : Nat) : isWaitRes (.ret t i .waitNotStarted) = false := rfl
@[simp] theorem isWaitRes_ret_res (t i : Nat) (ids : List Nat) : isWaitRes (.ret t i (.waitResult ids)) = true := rfl
@[simp] theorem isWaitRes_ret_running (t i : Nat) (b : Bool) : isWaitRes (.ret t i (.running b)) = false := rfl
@[simp] theorem isWaitRes_beg (ph : Phase) (agg : List Nat) : isWaitRes (.phBegin ph agg) = false := rfl
@[simp] theorem isWaitRes_end (ph : Phase) : isWaitRes (.phEnd ph) = false := rfl
@[simp] theorem isWaitRes_cancel (p : Nat) : isWaitRes (.cancelParent p) = false := rfl
@[simp] theorem isStartNil_call_start (t i p : Nat) : isStartNil (.call t i (.start p)) = false := rfl
@[simp] theorem isStartNil_call_close (t i : Nat) : isStartNil (.call t i .close) = false := rfl
@[simp] theorem isStartNil_call_wait (t i : Nat) : isStartNil (.call t i .wait) = false := rfl
@[simp] theorem isStartNil_call_running (t i : Nat) : isStartNil (.call t i .running) = false := rfl
@[simp] theorem isStartNil_ret_nil (t i : Nat) : isStartNil (.ret t i .startNil) = true := rfl
@[simp] theorem isStartNil_ret_already (t i : Nat) : isStartNil (.ret t i .startAlready) = false := rfl
@[simp] theorem isStartNil_ret_returned (t i : Nat) : isStartNil (.ret t i .startReturned) = false := rfl
@[simp] theorem isStartNil_ret_closed (t i : Nat) : isStartNil (.ret t i .closed) = false := rfl
@[simp] theorem isStartNil_ret_notstarted (t i : Nat) : isStartNil (.ret t i .waitNotStarted) = false := rfl
@[simp] theorem isStartNil_ret_res (t i : Nat) (ids : List Nat) : isStartNil (.ret t i (.waitResult ids)) = false := rfl
@[simp] theorem isStartNil_ret_running (t i : Nat) (b : Bool) : isStartNil (.ret t i (.running b)) = false := rfl
@[simp] theorem isStartNil_beg (ph : Phase) (agg : List Nat) : isStartNil (.phBegin ph agg) = false := rfl
@[simp] theorem isStartNil_end (ph : Phase) : isStartNil (.phEnd ph) = false := rfl
@[simp] theorem isStartNil_cancel (p : Nat) : isStartNil (.cancelParent p) = false := rfl
@[simp] theorem isStartCall_call_start (t i p : Nat) : isStartCall (.call t i (.start p)) = true := rfl
@[simp] theorem isStartCall_call_close (t i : Nat) : isStartCall (.call t i .close) = false := rfl
@[simp] theorem isStartCall_call_wait (t i : Nat) : isStartCall (.call t i .wait) = false := rfl
@[simp] theorem isStartCall_call_running (t i : Nat) : isStartCall (.call t i .running) = false := rfl
@[simp] theorem isStartCall_ret_nil (t i : Nat) : isStartCall (.ret t i .startNil) = false := rfl
@[simp] theorem isStartCall_ret_already (t i : Nat) : isStartCall (.ret t i .startAlready) = false := rfl
@[simp] theorem isStartCall_ret_returned (t i : Nat) : isStartCall (.ret t i .startReturned) = false := rfl
@[simp] theorem isStartCall_ret_closed (t i : Nat) : isStartCall (.ret t i .closed) = false := rfl
@[simp] theorem isStartCall_ret_notstarted (t i : Nat) : isStartCall (.ret t i .waitNotStarted) = false := rfl
@[simp] theorem isStartCall_ret_res (t i : Nat) (ids : List Nat) : isStartCall (.ret t i (.waitResult ids)) = false := rfl
@[simp] theorem isStartCall_ret_running (t i : Nat) (b : Bool) : isStartCall (.ret t i (.running b)) = false := rfl
@[simp] theorem isStartCall_beg (ph : Phase) (agg : List Nat) : isStartCall (.phBegin ph agg) = false := rfl
@[simp] theorem isStartCall_end (ph : Phase) : isStartCall (.phEnd ph) = false := rfl
@[simp] theorem isStartCall_cancel (p : Nat) : isStartCall (.cancelParent p) = false := rfl
@[simp] theorem isCloseCall_call_start (t i p : Nat) : isCloseCall (.call t i (.start p)) = false := rfl
@[simp] theorem isCloseCall_call_close (t i : Nat) : isCloseCall (.call t i .close) = true := rfl
@[simp] theorem isCloseCall_call_wait (t i : Nat) : isCloseCall (.call t i .wait) = false := rfl
@[simp] theorem isCloseCall_call_running (t i : Nat) : isCloseCall (.call t i .running) = false := rfl
@[simp] theorem isCloseCall_ret_nil (t i : Nat) : isCloseCall (.ret t i .startNil) = false := rfl
@[simp] theorem isCloseCall_ret_already (t i : Nat) : isCloseCall (.ret t i .startAlready) = false := rfl
@[simp] theorem isCloseCall_ret_returned (t i : Nat) : isCloseCall (.ret t i .startReturned) = false := rfl
@[simp] theorem isCloseCall_ret_closed (t i : Nat) : isCloseCall (.ret t i .closed) = false := rfl
@[simp] theorem isCloseCall_ret_notstarted (t i : Nat) : isCloseCall (.ret t i .waitNotStarted) = false := rfl
@[simp] theorem isCloseCall_ret_res (t i : Nat) (ids : List Nat) : isCloseCall (.ret t i (.waitResult ids)) = false := rfl
@[simp] theorem isCloseCall_ret_running (t i : Nat) (b : Bool) : isCloseCall (.ret t i (.running b)) = false := rfl
@[simp] theorem isCloseCall_beg (ph : Phase) (agg : List Nat) : isCloseCall (.phBegin ph agg) = false := rfl
@[simp] theorem isCloseCall_end (ph : Phase) : isCloseCall (.phEnd ph) = false := rfl
@[simp] theorem isCloseCall_cancel (p : Nat) : isCloseCall (.cancelParent p) = false := rfl
@[simp] theorem isStartRetNonNil_call_start (t i p : Nat) : isStartRetNonNil (.call t i (.start p)) = false := rfl
@[simp] theorem isStartRetNonNil_call_close (t i : Nat) : isStartRetNonNil (.call t i .close) = false := rfl
@[simp] theorem isStartRetNonNil_call_wait (t i : Nat) : isStartRetNonNil (.call t i .wait) = false := rfl
@[simp] theorem isStartRetNonNil_call_running (t i : Nat) : isStartRetNonNil (.call t i .running) = false := rfl
@[simp] theorem isStartRetNonNil_ret_nil (t i : Nat) : isStartRetNonNil (.ret t i .startNil) = false := rfl
@[simp] theorem isStartRetNonNil_ret_already (t i : Nat) : isStartRetNonNil (.ret t i .startAlready) = true := rfl
@[simp] theorem isStartRetNonNil_ret_returned (t i : Nat) : isStartRetNonNil (.ret t i .startReturned) = true := rfl
@[simp] theorem isStartRetNonNil_ret_closed (t i : Nat) : isStartRetNonNil (.ret t i .closed) = false := rfl
@[simp] theorem isStartRetNonNil_ret_notstarted (t i : Nat) : isStartRetNonNil (.ret t i .waitNotStarted) = false := rfl
@[simp] theorem isStartRetNonNil_ret_res (t i : Nat) (ids : List Nat) : isStartRetNonNil (.ret t i (.waitResult ids)) = false := rfl
@[simp] theorem isStartRetNonNil_ret_running (t i : Nat) (b : Bool) : isStartRetNonNil (.ret t i (.running b)) = false := rfl
@[simp] theorem isStartRetNonNil_beg (ph : Phase) (agg : List Nat) : isStartRetNonNil (.phBegin ph agg) = false := rfl
@[simp] theorem isStartRetNonNil_end (ph : Phase) : isStartRetNonNil (.phEnd ph) = false := rfl
@[simp] theorem isStartRetNonNil_cancel (p : Nat) : isStartRetNonNil (.cancelParent p) = false := rfl
@[simp] theorem isBegin_call_start (q : Phase) (t i p : Nat) : isBegin q (.call t i (.start p)) = false := rfl
@[simp] theorem isEnd_call_start (q : Phase) (t i p : Nat) : isEnd q (.call t i (.start p)) = false := rfl
@[simp] theorem isBegin_call_close (q : Phase) (t i : Nat) : isBegin q (.call t i .close) = false := rfl
@[simp] theorem isEnd_call_close (q : Phase) (t i : Nat) : isEnd q (.call t i .close) = false := rfl
@[simp] theorem isBegin_call_wait (q : Phase) (t i : Nat) : isBegin q (.call t i .wait) = false := rfl
@[simp] theorem isEnd_call_wait (q : Phase) (t i : Nat) : isEnd q (.call t i .wait) = false := rfl
@[simp] theorem isBegin_call_running (q : Phase) (t i : Nat) : isBegin q (.call t i .running) = false := rfl
@[simp] theorem isEnd_call_running (q : Phase) (t i : Nat) : isEnd q (.call t i .running) = false := rfl
@[simp] theorem isBegin_ret_nil (q : Phase) (t i : Nat) : isBegin q (.ret t i .startNil) = false := rfl
@[simp] theorem isEnd_ret_nil (q : Phase) (t i : Nat) : isEnd q (.ret t i .startNil) = false := rfl
@[simp] theorem isBegin_ret_already (q : Phase) (t i : Nat) : isBegin q (.ret t i .startAlready) = false := rfl
@[simp] theorem isEnd_ret_already (q : Phase) (t i : Nat) : isEnd q (.ret t i .startAlready) = false := rfl
@[simp] theorem isBegin_ret_returned (q : Phase) (t i : Nat) : isBegin q (.ret t i .startReturned) = false := rfl
@[simp] theorem isEnd_ret_returned (q : Phase) (t i : Nat) : isEnd q (.ret t i .startReturned) = false := rfl
@[simp] theorem isBegin_ret_closed (q : Phase) (t i : Nat) : isBegin q (.ret t i .closed) = false := rfl
@[simp] theorem isEnd_ret_closed (q : Phase) (t i : Nat) : isEnd q (.ret t i .closed) = false := rfl
@[simp] theorem isBegin_ret_notstarted (q : Phase) (t i : Nat) : isBegin q (.ret t i .waitNotStarted) = false := rfl
@[simp] theorem isEnd_ret_notstarted (q : Phase) (t i : Nat) : isEnd q (.ret t i .waitNotStarted) = false := rfl
@[simp] theorem isBegin_ret_res (q : Phase) (t i : Nat) (ids : List Nat) : isBegin q (.ret t i (.waitResult ids)) = false := rfl
@[simp] theorem isEnd_ret_res (q : Phase) (t i : Nat) (ids : List Nat) : isEnd q (.ret t i (.waitResult ids)) = false := rfl
@[simp] theorem isBegin_ret_running (q : Phase) (t i : Nat) (b : Bool) : isBegin q (.ret t i (.running b)) = false := rfl
@[simp] theorem isEnd_ret_running (q : Phase) (t i : Nat) (b : Bool) : isEnd q (.ret t i (.running b)) = false := rfl
@[simp] theorem isBegin_beg (q ph : Phase) (agg : List Nat) : isBegin q (.phBegin ph agg) = (ph == q) := rfl
@[simp] theorem isEnd_beg (q ph : Phase) (agg : List Nat) : isEnd q (.phBegin ph agg) = false := rfl
@[simp] theorem isBegin_end (q ph : Phase) : isBegin q (.phEnd ph) = false := rfl
@[simp] theorem isEnd_end (q ph : Phase) : isEnd q (.phEnd ph) = (ph == q) := rfl
@[simp] theorem isBegin_cancel (q : Phase) (p : Nat) : isBegin q (.cancelParent p) = false := rfl
@[simp] theorem isEnd_cancel (q : Phase) (p : Nat) : isEnd q (.cancelParent p) = false := rfl

def retMatches : Op → Ret → Prop
  | .start _, r => r = .startNil ∨ r = .startAlready ∨ r = .startReturned
  | .close, r => r = .closed
  | .wait, r => r = .waitNotStarted ∨ ∃ ids, r = .waitResult ids
  | .running, r => ∃ b, r = .running b

/-- the locations an operation passes through -/
def locOk : Op → Loc → Bool
  | .start _, .startChecked | .start _, .startSwapped | .start _, .startRechecked | .start _, .startClaimed
  | .start _, .startLaunched | .start _, .startStarted => true
  | .wait, .waitChecked | .wait, .waitStarted => true
  | .running, .runningChecked => true
  | _, _ => false

theorem locOk_idle (op : Op) : locOk op .idle = false := by cases op <;> rfl

/-- position of a location inside its operation; the two successors of `startSwapped` share one. A step inside an
    operation increases it (`ThStep.shape`), which is what `thMeasure` counts down. -/
def locRank : Loc → Nat
  | .idle => 0 | .startChecked => 1 | .startSwapped => 2 | .startRechecked => 3 | .startClaimed => 3
  | .startLaunched => 4 | .startStarted => 5 | .waitChecked => 1 | .waitStarted => 2 | .runningChecked => 1

/-- Every step of a caller has one shape: `σ` is `s` with the fields other than threads, log and clock changed; the call
    is logged by the step that leaves `idle`. -/
theorem ThStep.shape {c : Cfg} {s s' : State} {t : Nat} {th : Thread} {op : Op} (hs : ThStep c s t th op s') :
    ∃ (evs : List Ev) (σ : State),
      (th.loc = .idle ∧ evs = [.call t th.pc op] ∨ th.loc ≠ .idle ∧ evs = []) ∧
      ((∃ loc, s' = σ.goto t th loc evs ∧ locOk op loc = true ∧ locRank th.loc < locRank loc) ∨
        ∃ r, s' = σ.finish t th r evs ∧ retMatches op r) ∧
      σ.ths = s.ths ∧ σ.log = s.log ∧ σ.clock = s.clock := by
  cases hs with
  | startReturned p hl | close hl | waitFinished hl | runningFinished hl =>
    exact ⟨_, _, .inl ⟨hl, rfl⟩, .inr ⟨_, rfl, by simp [retMatches]⟩, rfl, rfl, rfl⟩
  | startAlready p hl | startUndo p hl | startOnceDone p hl | startNil p hl | waitNotStarted hl | waitDone hl
  | runningLoad hl =>
    exact ⟨_, _, .inr ⟨by rw [hl]; nofun, rfl⟩, .inr ⟨_, rfl, by simp [retMatches]⟩, rfl, rfl, rfl⟩
  | startCheck p hl | waitCheck hl | runningCheck hl =>
    exact ⟨_, _, .inl ⟨hl, rfl⟩, .inl ⟨_, rfl, rfl, by rw [hl]; decide⟩, rfl, rfl, rfl⟩
  | startSwap p hl | startRecheck p hl | startClaim p hl | startLaunch p hl | startStore p hl | waitStarted hl =>
    exact ⟨_, _, .inr ⟨by rw [hl]; nofun, rfl⟩, .inl ⟨_, rfl, rfl, by rw [hl]; decide⟩, rfl, rfl, rfl⟩

theorem ThStep.appends {c : Cfg} {s s' : State} {t : Nat} {th : Thread} {op : Op} (hs : ThStep c s t th op s') :
    Appends s s' (fun e => isCall e = true ∨ isRet e = true) := by
  have : ∃ evs, s'.log = s.log ++ stamp s.clock evs ∧ s'.clock = s.clock + 1 ∧
      evs.all (fun e => isCall e || isRet e) = true := by
    cases hs <;> exact ⟨_, rfl, rfl, rfl⟩
  obtain ⟨evs, h1, h2, h3⟩ := this
  exact ⟨evs, h1, h2, fun e he => by simpa using List.all_eq_true.mp h3 e he⟩

def notPhase (ph : Phase) (e : Ev) : Prop := isBegin ph e = false ∧ isEnd ph e = false

theorem notPhase_of_call_ret {e : Ev} (ph : Phase) (h : isCall e = true ∨ isRet e = true) : notPhase ph e := by
  cases e <;> simp_all [isCall, isRet, notPhase, isBegin, isEnd]

/-- the events a service goroutine running the phases `phs`, or the environment, may log -/
def gEv (phs : List Phase) : Ev → Bool
  | .phBegin ph _ => phs.contains ph
  | .phEnd ph => phs.contains ph
  | .cancelParent _ => true
  | _ => false

theorem gEv_notPhase {phs : List Phase} {e : Ev} (q : Phase) (h : gEv phs e = true) (hq : phs.contains q = false) :
    notPhase q e := by
  cases e <;> simp_all [gEv, notPhase, isBegin, isEnd] <;> rintro rfl <;> simp_all

/-- The conjunction is grouped by consumer: `.1` is the hypothesis of `ThLog.frameG`, `.1.2.2` that of `CallU.frameG`,
    `.2.1` is what `GStep.lock` needs for the token, `.2.2` is the hypothesis of `Book.frameG`. -/
theorem gEv_not_call_ret {phs : List Phase} {e : Ev} (h : gEv phs e = true) :
    (isWaitRes e = false ∧ isStartCall e = false ∧ ∀ t i op, e ≠ .call t i op) ∧ isStartNil e = false ∧
      ∀ t i r, e ≠ .ret t i r := by
  cases e <;> simp_all [gEv]

/-- a step of the goroutine that runs the phases `phs` (none: a parent cancellation) -/
structure GStep (s s' : State) (phs : List Phase) : Prop where
  log : ∃ evs, s'.log = s.log ++ stamp s.clock evs ∧ s'.clock = s.clock + 1 ∧ evs.all (gEv phs) = true
  ths : s'.ths = s.ths
  claimed : s'.claimed = s.claimed
  isStarted : s'.isStarted = s.isStarted
  fin : s.isFinished = true → s'.isFinished = true
  rg : (phs.contains .run || phs.contains .cleanup) = false → s'.rg = s.rg
  sd : phs.contains .shutdown = false → s'.sd = s.sd
  eh : phs.contains .handler = false → s'.eh = s.eh

theorem GStep.appends {s s' : State} {phs : List Phase} (g : GStep s s' phs) {P : Ev → Prop}
    (hP : ∀ e, gEv phs e = true → P e) : Appends s s' P := by
  obtain ⟨evs, h1, h2, h3⟩ := g.log
  exact ⟨evs, h1, h2, fun e he => hP e (List.all_eq_true.mp h3 e he)⟩

theorem RgStep.gstep {c : Cfg} {s s' : State} (hs : RgStep c s s') : GStep s s' [.run, .cleanup] := by
  cases hs with
  | finish => exact ⟨⟨_, rfl, rfl, rfl⟩, rfl, rfl, rfl, fun _ => rfl, nofun, fun _ => rfl, fun _ => rfl⟩
  | _ => exact ⟨⟨_, rfl, rfl, rfl⟩, rfl, rfl, rfl, id, nofun, fun _ => rfl, fun _ => rfl⟩

theorem SdStep.gstep {c : Cfg} {s s' : State} (hs : SdStep c s s') : GStep s s' [.shutdown] := by
  cases hs <;> exact ⟨⟨_, rfl, rfl, rfl⟩, rfl, rfl, rfl, id, fun _ => rfl, nofun, fun _ => rfl⟩

theorem EhStep.gstep {c : Cfg} {s s' : State} (hs : EhStep c s s') : GStep s s' [.handler] := by
  cases hs <;> exact ⟨⟨_, rfl, rfl, rfl⟩, rfl, rfl, rfl, id, fun _ => rfl, fun _ => rfl, nofun⟩

theorem gstep_cancelParent (s : State) (p : Nat) :
    GStep s ({ s with cancelled := p :: s.cancelled }.tick [.cancelParent p]) [] :=
  ⟨⟨_, rfl, rfl, rfl⟩, rfl, rfl, rfl, id, fun _ => rfl, fun _ => rfl, fun _ => rfl⟩

end FunModel.Service
