import FunProofs.QueueSeq

/-! The non-destructive iterator of `pubsub.Queue` (C20, safety). `IInv`: identities, links and cursors are
    well-formed in every state; `YInv`/`IterInv`: along every run the identities one iterator yields increase and
    `vals` records the successful adds; `NRInv`: in a run without removals identities are positions. -/
namespace FunModel.Queue
open FunModel.Conc FunModel.ConcSubj

variable {s : St} {t k pc : Nat} {op : Op} {first c : Bool} {o : SegOut St} {log : List (Ev St Op)}

theorem cursor_mem (s : St) (k : Nat) : s.cursor k = 0 ∨ (k, s.cursor k) ∈ s.cursors := by
  simp only [St.cursor]
  cases hf : s.cursors.find? (fun p => p.1 == k) with
  | none => exact .inl rfl
  | some p => obtain ⟨hm, rfl⟩ := List.mem_of_find?_key hf; exact .inr hm

/-- `s.adj (s.cursor k)` and `s.succ k` of QueueBase, under the names the C20 statements use -/
def St.effCursor (s : St) (k : Nat) : Nat :=
  if s.cursor k != 0 && (s.linkOf (s.cursor k)).isNone && s.cursor k != s.back then 0 else s.cursor k

def St.nextEntry (s : St) (k : Nat) : Option Nat := s.linkOf (s.effCursor k)

theorem St.effCursor_eq_adj (s : St) (k : Nat) : s.effCursor k = s.adj (s.cursor k) := rfl
theorem St.nextEntry_eq_succ (s : St) (k : Nat) : s.nextEntry k = s.succ k := rfl

theorem IsSeg.next_cursors (hs : IsSeg s t (.next k) first c o) :
    o.st.cursors = (s.setCursor k ((s.nextEntry k).getD (s.effCursor k))).cursors := by
  rw [St.nextEntry_eq_succ]
  cases hs.next with
  | yield n h => rw [h]; rfl
  | stop h _ | park h _ => rw [h]; rfl

theorem linkOf_mem {s : St} {c n : Nat} (h : s.linkOf c = some n) :
    (c = 0 ∧ ∃ v rest, s.q = (n, v) :: rest) ∨ (c ≠ 0 ∧ (c, n) ∈ s.links) := by
  simp only [St.linkOf] at h
  by_cases hc : c = 0
  · left
    simp only [hc, if_true] at h
    cases hq : s.q with
    | nil => simp [hq] at h
    | cons p rest =>
      simp only [hq, List.head?_cons, Option.map_some, Option.some.injEq] at h
      exact ⟨hc, p.2, rest, by rw [← h]⟩
  · right
    simp only [hc, if_false] at h
    obtain ⟨p, hf, rfl⟩ := Option.map_eq_some_iff.1 h
    obtain ⟨hm, rfl⟩ := List.mem_of_find?_key hf
    exact ⟨hc, hm⟩

theorem back_cases (s : St) : (s.q = [] ∧ s.back = 0) ∨ (∃ v, (s.back, v) ∈ s.q ∧ s.q.getLast? = some (s.back, v)) := by
  simp only [St.back]
  cases hl : s.q.getLast? with
  | none => left; exact ⟨List.getLast?_eq_none_iff.1 hl, rfl⟩
  | some p => right; exact ⟨p.2, List.mem_of_getLast? hl, rfl⟩

theorem valOf_mem {s : St} {e : Nat} {v : Int} (h : (e, v) ∈ s.vals) : (e, s.valOf e) ∈ s.vals := by
  obtain ⟨p, hf, hp, rfl⟩ := List.exists_find?_of_mem_map (List.mem_map.2 ⟨_, h, rfl⟩ : e ∈ s.vals.map (·.1))
  rw [St.valOf, hf]; exact hp

/-- identities are handed out in creation order (`nextId` is the next one), so "older" is `<`: linked
    entries stand oldest first, a link leads to a younger entry -/
structure IInv (s : St) : Prop where
  qids : ∀ p ∈ s.q, 1 ≤ p.1 ∧ p.1 < s.nextId ∧ p ∈ s.vals
  qsorted : (s.q.map (·.1)).Pairwise (· < ·)
  vids : ∀ p ∈ s.vals, 1 ≤ p.1 ∧ p.1 < s.nextId
  links : ∀ p ∈ s.links, 1 ≤ p.1 ∧ p.1 < p.2 ∧ ∃ v, (p.2, v) ∈ s.vals
  curs : ∀ p ∈ s.cursors, p.2 = 0 ∨ ∃ v, (p.2, v) ∈ s.vals
  /-- an entry without a link is the newest linked one, or everything linked is younger -/
  nolink : ∀ e, 1 ≤ e → e < s.nextId → s.linkOf e = none → e = s.back ∨ ∀ p ∈ s.q, e < p.1
  idpos : 1 ≤ s.nextId

theorem IInv.init {q0 : St} (h : InitQ q0) : IInv q0 := by
  obtain ⟨h1, _, h3, h4, h5, h6, _⟩ := h.empty
  refine ⟨?_, ?_, ?_, ?_, ?_, ?_, by rw [h5]; exact Nat.le_refl 1⟩
  · intro p hp; rw [h1] at hp; cases hp
  · rw [h1]; exact List.Pairwise.nil
  · intro p hp; rw [h4] at hp; cases hp
  · intro p hp; rw [h3] at hp; cases hp
  · intro p hp; rw [h6] at hp; cases hp
  · intro e he1 he2; rw [h5] at he2; omega

theorem IInv.same {s s' : St} (h : IInv s) (hq : s'.q = s.q) (hl : s'.links = s.links) (hv : s'.vals = s.vals)
    (hid : s'.nextId = s.nextId) (hc : s'.cursors = s.cursors) : IInv s' := by
  refine ⟨?_, ?_, ?_, ?_, ?_, ?_, by rw [hid]; exact h.idpos⟩
  · rw [hq, hv, hid]; exact h.qids
  · rw [hq]; exact h.qsorted
  · rw [hv, hid]; exact h.vids
  · rw [hl, hv]; exact h.links
  · rw [hc, hv]; exact h.curs
  · intro e h1 h2 h3
    rw [hid] at h2; rw [linkOf_congr hq hl] at h3; rw [back_congr hq, hq]
    exact h.nolink e h1 h2 h3

theorem IInv.back_lt {s : St} (h : IInv s) : s.back < s.nextId ∧ (s.back = 0 → s.q = []) := by
  rcases back_cases s with ⟨h1, h2⟩ | ⟨v, h1, _⟩
  · exact ⟨by rw [h2]; exact h.idpos, fun _ => h1⟩
  · obtain ⟨a, b, _⟩ := h.qids _ h1
    exact ⟨b, fun e => by simp only at a; omega⟩

theorem IInv.added {s s' : St} (h : IInv s) {v : Int} (hq : s'.q = s.q ++ [(s.nextId, v)])
    (hv : s'.vals = (s.nextId, v) :: s.vals) (hid : s'.nextId = s.nextId + 1)
    (hl : s'.links = if s.back = 0 then s.links else (s.back, s.nextId) :: s.links)
    (hc : s'.cursors = s.cursors) : IInv s' := by
  have hpos := h.idpos
  have hback : s'.back = s.nextId := by simp [St.back, hq]
  refine ⟨?_, ?_, ?_, ?_, ?_, ?_, by rw [hid]; omega⟩
  · intro p hp
    rw [hq] at hp; rw [hid, hv]
    rcases List.mem_append.1 hp with hp | hp
    · obtain ⟨a, b, c⟩ := h.qids p hp
      exact ⟨a, by omega, List.mem_cons_of_mem _ c⟩
    · cases List.mem_singleton.1 hp
      exact ⟨hpos, by simp, List.mem_cons_self⟩
  · rw [hq, List.map_append]
    refine List.pairwise_concat.mpr ⟨h.qsorted, fun a ha => ?_⟩
    obtain ⟨p, hp, rfl⟩ := List.mem_map.1 ha
    exact (h.qids p hp).2.1
  · intro p hp
    rw [hv] at hp; rw [hid]
    rcases List.mem_cons.1 hp with rfl | hp
    · exact ⟨hpos, by simp⟩
    · obtain ⟨a, b⟩ := h.vids p hp; exact ⟨a, by omega⟩
  · intro p hp
    rw [hl] at hp; rw [hv]
    have hold : p ∈ s.links → 1 ≤ p.1 ∧ p.1 < p.2 ∧ ∃ v', (p.2, v') ∈ (s.nextId, v) :: s.vals := by
      intro hp
      obtain ⟨a, b, w, c⟩ := h.links p hp
      exact ⟨a, b, w, List.mem_cons_of_mem _ c⟩
    split at hp
    · exact hold hp
    · rcases List.mem_cons.1 hp with rfl | hp
      · exact ⟨Nat.pos_of_ne_zero ‹_›, h.back_lt.1, v, List.mem_cons_self⟩
      · exact hold hp
  · intro p hp
    rw [hc] at hp; rw [hv]
    rcases h.curs p hp with a | ⟨w, a⟩
    · exact Or.inl a
    · exact Or.inr ⟨w, List.mem_cons_of_mem _ a⟩
  · intro e he1 he2 he3
    rw [hback]
    by_cases hen : e = s.nextId
    · exact Or.inl hen
    · -- an older entry without a link had none before and was not the newest one
      rw [linkOf_added hq hl h.back_lt.2] at he3
      split at he3
      · cases he3
      · rcases h.nolink e he1 (by omega) he3 with hb | hb
        · exact absurd hb ‹_›
        · right
          intro p hp
          rw [hq] at hp
          rcases List.mem_append.1 hp with hp | hp
          · exact hb p hp
          · cases List.mem_singleton.1 hp; show e < s.nextId; omega

theorem IInv.popped {s s' : St} (h : IInv s) {p : Nat × Int} {rest : List (Nat × Int)} (hs : s.q = p :: rest)
    (hq : s'.q = rest) (hl : s'.links = s.links) (hv : s'.vals = s.vals) (hid : s'.nextId = s.nextId)
    (hc : s'.cursors = s.cursors) : IInv s' := by
  refine ⟨?_, ?_, ?_, ?_, ?_, ?_, by rw [hid]; exact h.idpos⟩
  · intro x hx
    rw [hq] at hx; rw [hid, hv]
    exact h.qids x (by rw [hs]; exact List.mem_cons_of_mem _ hx)
  · have := h.qsorted
    rw [hs, List.map_cons, List.pairwise_cons] at this
    rw [hq]; exact this.2
  · rw [hv, hid]; exact h.vids
  · rw [hl, hv]; exact h.links
  · rw [hc, hv]; exact h.curs
  · intro e he1 he2 he3
    rw [linkOf_congr_pos hl (by omega)] at he3
    rw [hid] at he2
    rcases h.nolink e he1 he2 he3 with hb | hb
    · cases hr : rest with
      | nil => right; intro x hx; rw [hq, hr] at hx; cases hx
      | cons y ys =>
        left
        rw [hb]
        simp [St.back, hq, hs, hr]
    · right
      intro x hx
      rw [hq] at hx
      exact hb x (by rw [hs]; exact List.mem_cons_of_mem _ hx)

theorem IInv.nextEntry_exists {s : St} (h : IInv s) {k n : Nat} (hn : s.nextEntry k = some n) :
    1 ≤ n ∧ ∃ v, (n, v) ∈ s.vals := by
  rcases linkOf_mem hn with ⟨_, v, rest, hq⟩ | ⟨_, hl⟩
  · obtain ⟨a, _, c⟩ := h.qids (n, v) (by rw [hq]; exact List.mem_cons_self)
    exact ⟨a, v, c⟩
  · obtain ⟨a, b, c⟩ := h.links _ hl
    exact ⟨by simp only at a b; omega, c⟩

theorem IInv.cursor_exists {s : St} (h : IInv s) (k : Nat) : s.cursor k = 0 ∨ ∃ v, (s.cursor k, v) ∈ s.vals := by
  rcases cursor_mem s k with h0 | hm
  · exact Or.inl h0
  · exact h.curs _ hm

theorem IInv.cursor_lt {s : St} (hI : IInv s) (k : Nat) : s.cursor k < s.nextId := by
  rcases hI.cursor_exists k with h0 | ⟨v, hv⟩
  · rw [h0]; exact hI.idpos
  · exact (hI.vids _ hv).2

theorem IInv.setCursor {s s' : St} (h : IInv s) {k n : Nat} (hq : s'.q = s.q) (hl : s'.links = s.links)
    (hv : s'.vals = s.vals) (hid : s'.nextId = s.nextId) (hc : s'.cursors = (s.setCursor k n).cursors)
    (hn : n = 0 ∨ ∃ v, (n, v) ∈ s.vals) : IInv s' := by
  have h' : IInv { s with cursors := (s.setCursor k n).cursors } := by
    refine ⟨h.qids, h.qsorted, h.vids, h.links, ?_, h.nolink, h.idpos⟩
    intro p hp
    simp only [St.setCursor, List.mem_cons, List.mem_filter] at hp
    rcases hp with rfl | ⟨hp, _⟩
    · exact hn
    · exact h.curs p hp
  exact h'.same hq hl hv hid hc

theorem IInv.next (h : IInv s) (hs : IsSeg s t (.next k) first c o) : IInv o.st := by
  obtain ⟨_, _, f3, f4, f5, f6⟩ := hs.next_frame
  refine h.setCursor f3 f4 f5 f6 hs.next_cursors ?_
  cases hn : s.nextEntry k with
  | some n => exact .inr (h.nextEntry_exists hn).2
  | none =>
    rcases s.adj_cases (s.cursor k) with ⟨e, _⟩ | e
    · exact .inl e
    · rw [Option.getD_none, St.effCursor_eq_adj, e]
      exact h.cursor_exists k

theorem IInv.seg (hS : SInv s) (h : IInv s) (hs : IsSeg s t op first c o) : IInv o.st := by
  cases hn : op.isNext with
  | true => obtain ⟨k, rfl⟩ := Op.eq_next_of_isNext hn; exact h.next hs
  | false =>
    cases seg_effect hS hs hn with
    | same hq hl hv hid hc _ => exact h.same hq hl hv hid hc
    | added v _ _ hq hv hid hl hc => exact h.added hq hv hid hl hc
    | popped p rest _ hs' hq _ hl hv hid hc => exact h.popped hs' hq hl hv hid hc

theorem seg_mono (hS : SInv s) (hs : IsSeg s t op first c o) :
    s.nextId ≤ o.st.nextId ∧ (∀ p ∈ o.st.q, p ∈ s.q ∨ p.1 = s.nextId) ∧ ∀ x ∈ s.vals, x ∈ o.st.vals := by
  cases hn : op.isNext with
  | true =>
    obtain ⟨k, rfl⟩ := Op.eq_next_of_isNext hn
    obtain ⟨_, _, f3, _, f5, f6⟩ := hs.next_frame
    rw [f3, f5, f6]
    exact ⟨Nat.le_refl _, fun _ => .inl, fun _ => id⟩
  | false =>
    cases seg_effect hS hs hn with
    | same hq hl hv hid hc _ => rw [hq, hv, hid]; exact ⟨Nat.le_refl _, fun _ => .inl, fun _ => id⟩
    | added v _ _ hq hv hid hl hc =>
      rw [hq, hv, hid]
      refine ⟨Nat.le_succ _, fun p hp => ?_, fun _ => List.mem_cons_of_mem _⟩
      rcases List.mem_append.1 hp with hp | hp
      · exact .inl hp
      · cases List.mem_singleton.1 hp; exact .inr rfl
    | popped p rest _ hs' hq _ hl hv hid hc =>
      rw [hq, hv, hid, hs']
      exact ⟨Nat.le_refl _, fun _ hx => .inl (List.mem_cons_of_mem _ hx), fun _ => id⟩

theorem seg_cursor (hS : SInv s) (hs : IsSeg s t op first c o) {k : Nat} (hk : op ≠ .next k) : o.st.cursor k = s.cursor k := by
  cases hn : op.isNext with
  | true =>
    obtain ⟨k', rfl⟩ := Op.eq_next_of_isNext hn
    rw [cursor_congr hs.next_cursors]
    exact cursor_setCursor_ne s _ (fun e => hk (e ▸ rfl))
  | false =>
    cases seg_effect hS hs hn with
    | same _ _ _ _ hc _ => exact cursor_congr hc k
    | added _ _ _ _ _ _ _ hc => exact cursor_congr hc k
    | popped _ _ _ _ _ _ _ _ _ hc => exact cursor_congr hc k

/-- the entry (identity, item) iterator `k` yields in this event: a `next k` segment that finds a next
    entry returns it (`next_result`) -/
def yieldOf (k : Nat) : Ev St Op → Option (Nat × Int)
  | .seg _ _ (.next k') _ _ pre _ => if k' = k then (pre.nextEntry k).map (fun n => (n, pre.valOf n)) else none
  | _ => none

def yields (k : Nat) (log : List (Ev St Op)) : List (Nat × Int) := log.filterMap (yieldOf k)

def addedOf : Ev St Op → Option Int
  | .seg _ _ (.add v) _ _ _ out => if out.fin = .ret "ok" then some v else none
  | .seg _ _ (.badd v) _ _ _ out => if out.fin = .ret "ok" then some v else none
  | _ => none

def added (log : List (Ev St Op)) : List Int := log.filterMap addedOf

def returnsItem : Ev St Op → Prop
  | .seg _ _ op _ _ _ out => (op = .remove ∨ op = .wait ∨ op = .recv) ∧ ∃ v : Int, out.fin = .ret (toString v)
  | .env _ => False

/-- what a caller of iterator `k` sees in this event: the string a `next k` segment returns, unless it is
    "eof"/"ctx" (`nextValOf_eq`: the rendering of `yieldOf`) -/
def nextValOf (k : Nat) : Ev St Op → Option String
  | .seg _ _ (.next k') _ _ _ out =>
    if k' = k then
      match out.fin with
      | .ret r => if r = "eof" ∨ r = "ctx" then none else some r
      | .park _ => none
    else none
  | _ => none

def nextVals (k : Nat) (log : List (Ev St Op)) : List String := log.filterMap (nextValOf k)

theorem next_result (h : IInv s) (hs : IsSeg s t (.next k) first c o) :
    (∀ n, s.nextEntry k = some n → o.fin = .ret (toString (s.valOf n)) ∧ o.st.cursor k = n ∧ 1 ≤ n ∧
        (n, s.valOf n) ∈ s.vals) ∧
    (s.nextEntry k = none → o.st.cursor k = s.effCursor k ∧
      ((o.fin = .ret "eof" ∧ s.closed = true) ∨ (o.fin = .ret "ctx" ∧ s.closed = false ∧ c = true ∧ first = false) ∨
       (o.fin = .park 1 ∧ s.closed = false ∧ c = false))) := by
  have none : ∀ {P : Nat → Prop}, s.succ k = none → ∀ n, s.nextEntry k = some n → P n := fun e n hn => by
    cases e.symm.trans hn
  cases hs.next with
  | yield n hn =>
    refine ⟨fun m hm => ?_, fun e => by cases hn.symm.trans e⟩
    cases hn.symm.trans hm
    obtain ⟨h3, v, h4⟩ := h.nextEntry_exists hn
    exact ⟨rfl, cursor_setCursor_same .., h3, valOf_mem h4⟩
  | stop hn hr =>
    refine ⟨none hn, fun _ => ⟨cursor_setCursor_same .., ?_⟩⟩
    rcases hr with ⟨hcl, rfl⟩ | ⟨hcl, hc, rfl⟩
    · exact .inl ⟨rfl, hcl⟩
    · exact .inr (.inl ⟨rfl, hcl, hc, hs.recheck hc⟩)
  | park hn hcl => exact ⟨none hn, fun _ => ⟨cursor_setCursor_same .., .inr (.inr ⟨rfl, hcl, rfl⟩)⟩⟩

/-- a yielded value is never mistaken for "eof"/"ctx" -/
theorem next_yield_iff {s : St} (h : IInv s) {t k : Nat} {first c : Bool} {o : SegOut St}
    (hs : IsSeg s t (.next k) first c o) {r : String} (hr : o.fin = .ret r) :
    (r ≠ "eof" ∧ r ≠ "ctx") ↔ ∃ n, s.nextEntry k = some n := by
  cases hs.next with
  | yield n hn =>
    cases hr
    exact ⟨fun _ => ⟨n, hn⟩, fun _ => ⟨int_ne_eof _, int_ne_ctx _⟩⟩
  | stop hn hr' =>
    cases hr
    refine ⟨fun h => ?_, fun ⟨n, e⟩ => by cases hn.symm.trans e⟩
    rcases hr' with ⟨_, rfl⟩ | ⟨_, _, rfl⟩
    · exact absurd rfl h.1
    · exact absurd rfl h.2
  | park hn hcl => cases hr

/-- `y`: the identity iterator `k` yielded last, 0 if none. A cursor off the sentinel stands on `y`
    (`cur`); one that restarted from the sentinel has everything linked younger than `y` (`sent`): in
    both cases the next entry found is younger than all yielded so far (`incr`) -/
structure YInv (k : Nat) (log : List (Ev St Op)) (s : St) (y : Nat) : Prop where
  bound : ∀ a ∈ (yields k log).map (·.1), a ≤ y
  cur : s.cursor k ≠ 0 → s.cursor k = y
  sent : s.cursor k = 0 → ∀ p ∈ s.q, y < p.1
  lt : y < s.nextId
  incr : ((yields k log).map (·.1)).Pairwise (· < ·)

theorem yields_snoc_none (k : Nat) (log : List (Ev St Op)) (ev : Ev St Op) (h : yieldOf k ev = none) :
    yields k (log ++ [ev]) = yields k log := by
  simp [yields, h]

theorem yieldOf_other (hk : op ≠ .next k) :
    yieldOf k (.seg t pc op first c s o) = none := by
  cases op with
  | next k' => exact if_neg (fun e : k' = k => hk (e ▸ rfl))
  | _ => rfl

/-- the re-basing at the top of the iterator's loop keeps what `YInv` says about the cursor: an entry
    without a link that is not the newest one is older than everything linked (`IInv.nolink`) -/
theorem YInv.adj {s : St} (hI : IInv s) {k : Nat} {log : List (Ev St Op)} {y : Nat} (hy : YInv k log s y) :
    (s.effCursor k ≠ 0 → s.effCursor k = y) ∧ (s.effCursor k = 0 → ∀ p ∈ s.q, y < p.1) := by
  rcases s.adj_cases (s.cursor k) with ⟨e, h0, hl, hb⟩ | e
  · have hcy := hy.cur h0
    refine ⟨fun h => absurd e h, fun _ => ?_⟩
    rcases hI.nolink _ (Nat.pos_of_ne_zero h0) (hcy ▸ hy.lt) hl with hb' | hb'
    · exact absurd hb' hb
    · exact hcy ▸ hb'
  · rw [St.effCursor_eq_adj, e]
    exact ⟨hy.cur, hy.sent⟩

theorem YInv.seg (hS : SInv s) (hI : IInv s) (hs : IsSeg s t op first c o) {y : Nat} (hy : YInv k log s y) :
    ∃ y', YInv k (log ++ [.seg t pc op first c s o]) o.st y' := by
  obtain ⟨m1, m2, -⟩ := seg_mono hS hs
  by_cases hk : op = .next k
  · subst hk
    obtain ⟨r1, r2⟩ := next_result hI hs
    obtain ⟨_, _, f3, _, _, f6⟩ := hs.next_frame
    obtain ⟨a1, a2⟩ := hy.adj hI
    cases hne : s.nextEntry k with
    | none =>
      obtain ⟨e1, _⟩ := r2 hne
      have hyl := yields_snoc_none k log (.seg t pc (.next k) first c s o) (by simp [yieldOf, hne])
      exact ⟨y, by rw [hyl]; exact hy.bound, by rw [e1]; exact a1, by rw [e1, f3]; exact a2, by rw [f6]; exact hy.lt,
        by rw [hyl]; exact hy.incr⟩
    | some n =>
      obtain ⟨_, e2, e3, e4⟩ := r1 n hne
      have hyl : yields k (log ++ [.seg t pc (.next k) first c s o]) = yields k log ++ [(n, s.valOf n)] := by
        simp [yields, yieldOf, hne]
      have hlt : y < n := by
        rcases linkOf_mem hne with ⟨h0, v, rest, hq⟩ | ⟨h0, hl⟩
        · exact a2 h0 (n, v) (hq ▸ List.mem_cons_self)
        · rw [← a1 h0]; exact (hI.links _ hl).2.1
      refine ⟨n, ?_, fun _ => e2, fun h0 => ?_, ?_, ?_⟩
      · intro a ha
        rw [hyl, List.map_append, List.mem_append] at ha
        rcases ha with ha | ha
        · have := hy.bound a ha; omega
        · simp only [List.map_cons, List.map_nil, List.mem_singleton] at ha; omega
      · rw [e2] at h0; omega
      · rw [f6]; exact (hI.vids _ e4).2
      · rw [hyl, List.map_append]
        exact List.pairwise_concat.mpr ⟨hy.incr, fun a ha => Nat.lt_of_le_of_lt (hy.bound a ha) hlt⟩
  · -- another operation: the cursor stays, and whatever is linked now was linked before or is new
    have hyl := yields_snoc_none k log (.seg t pc op first c s o) (yieldOf_other hk)
    have hcur := seg_cursor hS hs hk
    refine ⟨y, by rw [hyl]; exact hy.bound, by rw [hcur]; exact hy.cur, ?_, Nat.lt_of_lt_of_le hy.lt m1,
      by rw [hyl]; exact hy.incr⟩
    intro h0 p hp
    rcases m2 p hp with hp | hp
    · exact hy.sent (hcur ▸ h0) p hp
    · rw [hp]; exact hy.lt

def EvOK' (ev : Ev St Op) : Prop :=
  EvOK ev ∧ match ev with
    | .seg _ _ _ _ _ pre _ => IInv pre
    | .env _ => True

/-- what `iter_safe_under_removal` (C20) reads of a run; `evs` keeps `IInv` of the state each logged
    segment started in, `valsMono` brings what held of that state's `vals` to the final state -/
structure IterInv (log : List (Ev St Op)) (s : St) : Prop where
  iinv : IInv s
  yinv : ∀ k, ∃ y, YInv k log s y
  addedEq : added log = s.vals.reverse.map (·.2)
  evs : ∀ ev ∈ log, EvOK' ev
  valsMono : ∀ t pc op first c pre out, Ev.seg t pc op first c pre out ∈ log → ∀ x ∈ pre.vals, x ∈ s.vals

theorem added_snoc_none (log : List (Ev St Op)) (ev : Ev St Op) (h : addedOf ev = none) :
    added (log ++ [ev]) = added log := by
  simp [added, h]

theorem added_seg (hS : SInv s) (hs : IsSeg s t op first c o) (ha : added log = s.vals.reverse.map (·.2)) :
    added (log ++ [.seg t pc op first c s o]) = o.st.vals.reverse.map (·.2) := by
  cases hn : op.isNext with
  | true =>
    obtain ⟨k, rfl⟩ := Op.eq_next_of_isNext hn
    rw [hs.next_frame.2.2.2.2.1, ← ha]
    exact added_snoc_none _ _ rfl
  | false =>
    cases seg_effect hS hs hn with
    | same hq hl hv hid hc hnot =>
      rw [hv, ← ha]
      refine added_snoc_none _ _ ?_
      cases op with
      | add v => exact if_neg (hnot v (.inl rfl))
      | badd v => exact if_neg (hnot v (.inr rfl))
      | _ => rfl
    | added v hop hfin hq hv hid hl hc =>
      have : addedOf (.seg t pc op first c s o) = some v := by
        rcases hop with rfl | rfl <;> simp [addedOf, hfin]
      rw [hv]
      simp only [added, List.filterMap_snoc, this, Option.toList_some, List.reverse_cons, List.map_append, List.map_cons,
        List.map_nil]
      rw [← ha]; rfl
    | popped p rest hop hs' hq hfin hl hv hid hc =>
      rw [hv, ← ha]
      exact added_snoc_none _ _ (by rcases hop with rfl | rfl | rfl <;> rfl)

theorem IterInv.init {q0 : St} (h0 : InitQ q0) : IterInv [] q0 := by
  obtain ⟨e1, _, _, e4, e5, e6, _⟩ := h0.empty
  refine ⟨IInv.init h0, ?_, by simp [added, e4], by simp, by simp⟩
  intro k
  refine ⟨0, by simp [yields], ?_, ?_, by rw [e5]; exact Nat.one_pos, by simp [yields]⟩
  · intro hc; exact absurd (by simp [St.cursor, e6]) hc
  · intro _ p hp; rw [e1] at hp; cases hp

theorem IterInv.seg (hS : SInv s) (hI : IterInv log s) (pc : Nat) (hseg : IsSeg s t op first c o) :
    IterInv (log ++ [.seg t pc op first c s o]) o.st := by
  have hmono := (seg_mono hS hseg).2.2
  refine ⟨hI.iinv.seg hS hseg, ?_, added_seg hS hseg hI.addedEq, ?_, ?_⟩
  · intro k
    obtain ⟨y, hy⟩ := hI.yinv k
    exact hy.seg hS hI.iinv hseg
  · exact List.forall_mem_append.2 ⟨hI.evs, List.forall_mem_singleton.2 ⟨⟨hS, hseg⟩, hI.iinv⟩⟩
  · intro t2 pc2 op2 f2 c2 pre2 out2 hmem x hx
    rcases List.mem_append.1 hmem with hmem | hmem
    · exact hmono x (hI.valsMono _ _ _ _ _ _ _ hmem x hx)
    · cases List.mem_singleton.1 hmem; exact hmono x hx

theorem IterInv.env {log : List (Ev St Op)} {s : St} (hI : IterInv log s) (a : Act) : IterInv (log ++ [.env a]) s := by
  refine ⟨hI.iinv, ?_, (added_snoc_none _ _ rfl).trans hI.addedEq, ?_, ?_⟩
  · intro k
    obtain ⟨y, hy⟩ := hI.yinv k
    have hyl : yields k (log ++ [.env a]) = yields k log := yields_snoc_none _ _ _ rfl
    exact ⟨y, by rw [hyl]; exact hy.bound, hy.cur, hy.sent, hy.lt, by rw [hyl]; exact hy.incr⟩
  · exact List.forall_mem_append.2 ⟨hI.evs, List.forall_mem_singleton.2 ⟨trivial, trivial⟩⟩
  · intro t2 pc2 op2 f2 c2 pre2 out2 hmem x hx
    rcases List.mem_append.1 hmem with hmem | hmem
    · exact hI.valsMono _ _ _ _ _ _ _ hmem x hx
    · cases List.mem_singleton.1 hmem

theorem IterInv.run {q0 : St} (h0 : InitQ q0) {programs : List (List Op)} {log : List (Ev St Op)} {s : Sys St Op}
    (h : Reach' subject (initSys q0 programs) log s) : IterInv log s.subj :=
  (run_induction h0 IterInv (.init h0) (fun pc hS hI hseg => hI.seg hS pc hseg) (fun a hI => hI.env a) h).2

/-- kept by every step of a run in which no `Remove`/`Wait`/`Receive` returns an item (`NRInv.run`) -/
structure NRInv (log : List (Ev St Op)) (s : St) : Prop where
  ids : s.vals.reverse.map (·.1) = List.range' 1 (s.nextId - 1)
  back : s.back = s.nextId - 1
  links : ∀ e, s.linkOf e = if e + 1 < s.nextId then some (e + 1) else none
  ys : ∀ k, yields k log = s.vals.reverse.take (s.cursor k)

theorem NRInv.entry {log : List (Ev St Op)} {s : St} (h : NRInv log s) {n : Nat} (h1 : 1 ≤ n) (h2 : n < s.nextId) :
    s.vals.reverse[n - 1]? = some (n, s.valOf n) := by
  have hid : (s.vals.reverse.map (·.1))[n - 1]? = some n := by
    rw [h.ids, List.getElem?_range' (by omega)]; congr 1; omega
  rw [List.getElem?_map] at hid
  obtain ⟨x, hx, rfl⟩ := Option.map_eq_some_iff.1 hid
  -- identities are distinct (`ids`), so `valOf` finds this entry and no other
  have hnd : (s.vals.map (·.1)).Nodup := by
    rw [← (List.reverse_perm _).nodup_iff, ← List.map_reverse, h.ids]; exact List.nodup_range'
  rw [hx, St.valOf, List.find?_of_mem_of_nodup hnd (List.mem_reverse.1 (List.mem_of_getElem? hx))]; rfl

theorem NRInv.nextEntry {log : List (Ev St Op)} {s : St} (h : NRInv log s) (hI : IInv s) (k : Nat) :
    s.effCursor k = s.cursor k ∧
    s.nextEntry k = if s.cursor k + 1 < s.nextId then some (s.cursor k + 1) else none := by
  have hl := h.links (s.cursor k)
  have he : s.effCursor k = s.cursor k := by
    rcases s.adj_cases (s.cursor k) with ⟨_, _, hn, hb⟩ | e
    · rw [hl] at hn
      split at hn
      · cases hn
      · exact absurd (by have := hI.cursor_lt k; rw [h.back]; omega) hb
    · exact e
  exact ⟨he, by rw [St.nextEntry, he, hl]⟩

theorem NRInv.congr {log log' : List (Ev St Op)} {s s' : St} (h : NRInv log s) (hq : s'.q = s.q)
    (hl : s'.links = s.links) (hv : s'.vals = s.vals) (hid : s'.nextId = s.nextId)
    (ys : ∀ k, yields k log' = s'.vals.reverse.take (s'.cursor k)) : NRInv log' s' :=
  ⟨by rw [hv, hid]; exact h.ids, by rw [back_congr hq, hid]; exact h.back,
    fun e => by rw [linkOf_congr hq hl, hid]; exact h.links e, ys⟩

theorem NRInv.seg (hS : SInv s) (hI : IInv s) (h : NRInv log s) (pc : Nat) (hs : IsSeg s t op first c o)
    (hnr : ¬ returnsItem (.seg t pc op first c s o)) : NRInv (log ++ [.seg t pc op first c s o]) o.st := by
  -- an iterator that is not called has yielded what it had yielded, and its cursor stays
  have hys : ∀ k, op ≠ .next k →
      yields k (log ++ [.seg t pc op first c s o]) = s.vals.reverse.take (o.st.cursor k) := fun k hk => by
    rw [yields_snoc_none _ _ _ (yieldOf_other hk), seg_cursor hS hs hk]; exact h.ys k
  cases hn : op.isNext with
  | true =>
    obtain ⟨k', rfl⟩ := Op.eq_next_of_isNext hn
    obtain ⟨_, _, f3, f4, f5, f6⟩ := hs.next_frame
    refine h.congr f3 f4 f5 f6 fun k => ?_
    rw [f5]
    by_cases hk : k' = k
    · subst hk
      obtain ⟨r1, r2⟩ := next_result hI hs
      obtain ⟨he, hne⟩ := h.nextEntry hI k'
      by_cases hlt : s.cursor k' + 1 < s.nextId
      · rw [if_pos hlt] at hne
        obtain ⟨_, e2, _, _⟩ := r1 _ hne
        have hyl : yields k' (log ++ [.seg t pc (.next k') first c s o]) =
            yields k' log ++ [(s.cursor k' + 1, s.valOf (s.cursor k' + 1))] := by
          simp [yields, yieldOf, hne]
        have hent := h.entry (n := s.cursor k' + 1) (by omega) hlt
        simp only [Nat.add_sub_cancel] at hent
        rw [hyl, e2, h.ys k', List.take_add_one, hent]
        rfl
      · rw [if_neg hlt] at hne
        obtain ⟨e1, _⟩ := r2 hne
        rw [yields_snoc_none _ _ _ (by simp [yieldOf, hne]), e1, he]
        exact h.ys k'
    · exact hys k (fun e => hk (Op.next.inj e))
  | false =>
    have hnk : ∀ k, op ≠ .next k := fun k e => by rw [e] at hn; cases hn
    cases seg_effect hS hs hn with
    | same hq hl hv hid hc _ => exact h.congr hq hl hv hid fun k => by rw [hv]; exact hys k (hnk k)
    | added v _ _ hq hv hid hl hc =>
      have hpos := hI.idpos
      have hlen : s.vals.reverse.length = s.nextId - 1 := by
        have := congrArg List.length h.ids
        simpa using this
      refine ⟨?_, ?_, ?_, ?_⟩
      · rw [hv, hid]
        simp only [List.reverse_cons, List.map_append, List.map_cons, List.map_nil, Nat.add_sub_cancel]
        rw [h.ids]
        have : s.nextId = (s.nextId - 1) + 1 := by omega
        conv => rhs; rw [this, List.range'_1_concat]
        congr 2; omega
      · rw [hid]; simp [St.back, hq]
      · intro e
        rw [linkOf_added hq hl hI.back_lt.2, h.links e, hid, h.back]
        rcases Nat.lt_trichotomy (e + 1) s.nextId with h1 | h1 | h1
        · rw [if_neg (by omega), if_pos h1, if_pos (by omega)]
        · rw [if_pos (by omega), if_pos (by omega), h1]
        · rw [if_neg (by omega), if_neg (by omega), if_neg (by omega)]
      · intro k
        have hlt := hI.cursor_lt k
        rw [hys k (hnk k), hv, seg_cursor hS hs (hnk k), List.reverse_cons,
          List.take_append_of_le_length (by rw [hlen]; omega)]
    | popped p rest hop hs' hq hfin hl hv hid hc =>
      exact absurd ⟨hop, p.2, hfin⟩ hnr

theorem NRInv.env {log : List (Ev St Op)} {s : St} (h : NRInv log s) (a : Act) : NRInv (log ++ [.env a]) s :=
  ⟨h.ids, h.back, h.links, fun k => by rw [yields_snoc_none _ _ _ rfl]; exact h.ys k⟩

theorem NRInv.init {q0 : St} (h0 : InitQ q0) : NRInv [] q0 := by
  obtain ⟨e1, _, e3, e4, e5, e6, _⟩ := h0.empty
  refine ⟨by rw [e4, e5]; rfl, by simp [St.back, e1, e5], ?_, ?_⟩
  · intro e
    have : ¬ e + 1 < q0.nextId := by rw [e5]; omega
    simp [St.linkOf, e1, e3, this]
  · intro k; simp [yields, e4]

theorem NRInv.run {q0 : St} (h0 : InitQ q0) {programs : List (List Op)} {log : List (Ev St Op)} {s : Sys St Op}
    (h : Reach' subject (initSys q0 programs) log s) (hnr : ∀ ev ∈ log, ¬ returnsItem ev) :
    IterInv log s.subj ∧ NRInv log s.subj := by
  have := (run_induction h0 (fun log s => IterInv log s ∧ ((∀ ev ∈ log, ¬ returnsItem ev) → NRInv log s))
    ⟨.init h0, fun _ => .init h0⟩ ?_ ?_ h).2
  · exact ⟨this.1, this.2 hnr⟩
  · intro log s t op first c o pc hS hI hseg
    refine ⟨hI.1.seg hS pc hseg, fun hnr' => ?_⟩
    exact (hI.2 (fun ev hev => hnr' ev (List.mem_append_left _ hev))).seg hS hI.1.iinv pc hseg
      (hnr' _ (List.mem_append_right _ (List.mem_singleton.2 rfl)))
  · intro log s a hI
    exact ⟨hI.1.env a, fun hnr' => (hI.2 (fun ev hev => hnr' ev (List.mem_append_left _ hev))).env a⟩

theorem nextValOf_eq (k : Nat) {ev : Ev St Op} (h : EvOK' ev) :
    nextValOf k ev = (yieldOf k ev).map (fun p => toString p.2) := by
  cases ev with
  | env a => rfl
  | seg t pc op first c pre out =>
    obtain ⟨⟨_, hs⟩, _⟩ := h
    cases op with
    | next k' =>
      simp only [nextValOf, yieldOf]
      by_cases hk : k' = k
      · subst hk
        simp only [if_true]
        rw [St.nextEntry_eq_succ]
        cases hs.next with
        | yield n hn =>
          rw [hn]
          exact if_neg fun h => h.elim (int_ne_eof _) (int_ne_ctx _)
        | stop hn hr => rw [hn]; rcases hr with ⟨_, rfl⟩ | ⟨_, _, rfl⟩ <;> simp
        | park hn _ => rw [hn]; rfl
      · simp [hk]
    | _ => rfl

theorem nextVals_eq (k : Nat) {log : List (Ev St Op)} (h : ∀ ev ∈ log, EvOK' ev) :
    nextVals k log = (yields k log).map (fun p => toString p.2) := by
  rw [nextVals, yields, List.map_filterMap]
  exact List.filterMap_congr fun ev hev => nextValOf_eq k (h ev hev)

end FunModel.Queue
