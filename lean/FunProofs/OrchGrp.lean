import FunProofs.OrchStep

/-! C11, `srv.Group`: the inductive invariant of the group machine (code with both fixes:
    `legacyRun = false`, `legacyStarters = false`); a member taken from the iterator is in exactly one
    place, its starter or the queue of waiters (`placed`). -/

namespace FunModel.Orch.Grp

/-- the starter goroutine holds the group's WaitGroup -/
def Starter.active : Starter → Bool
  | .spawned => true
  | .started => true
  | _ => false

theorem allFinished_iff (s : St) : allFinished s = true ↔ ∀ i ∈ s.waiters, s.phase i = .finished := by
  simp [allFinished, List.all_eq_true]

structure Inv (c : Cfg) (s : St) : Prop where
  once : RunsOnce s.phase s.runs
  next_le : s.next ≤ c.n
  placed : ∀ i, s.waiters.count i + (s.starter i).active.toNat = (decide (i < s.next)).toNat
  st_fresh : ∀ i, ¬ i < s.next → s.phase i = .fresh
  act : Counted Starter.active s.starter s.wg
  closed_ph : s.closed = true ↔ (s.gphase = .waitMembers ∨ s.gphase = .cleanup ∨ s.gphase = .done)
  closed_wg : s.closed = true → s.wg = 0
  rr_ph : s.runReturned = true ↔ (s.gphase = .cleanup ∨ s.gphase = .done)
  rr_fin : s.runReturned = true → ∀ i ∈ s.waiters, s.phase i = .finished
  -- an iteration that the context did not cut short took all `c.n` members
  full : (s.gphase ≠ .idle ∧ s.gphase ≠ .iterating) → s.cut = false → s.next = c.n
  saw : ∀ i, s.sawEndLive i = false
  done_snap : s.gphase = .done → ∀ i ∈ s.waiters, s.retAtW i = true

theorem inv_init (c : Cfg) : Inv c init := by
  refine ⟨RunsOnce.init, ?_, ?_, ?_, Counted.none fun _ => rfl, ?_, ?_, ?_, ?_, ?_, ?_, ?_⟩ <;>
    simp [init, Starter.active]

namespace Inv
variable {c : Cfg} {s : St}

theorem under_way (hi : Inv c s) {i : Nat} (ha : (s.starter i).active = true) : i < s.next ∧ i ∉ s.waiters := by
  have := hi.placed i
  have hle := Bool.toNat_le (decide (i < s.next))
  rw [ha, Bool.toNat_true] at this
  exact ⟨of_decide_eq_true (Bool.toNat_eq_one.mp (by omega)), List.count_eq_zero.mp (by omega)⟩

theorem closed_queued (hi : Inv c s) (hc : s.closed = true) {i : Nat} (hlt : i < s.next) : i ∈ s.waiters := by
  have hact := hi.act
  rw [hi.closed_wg hc] at hact
  have := hi.placed i
  rw [hact.zero i, decide_eq_true hlt] at this
  exact List.one_le_count_iff.mp (Nat.le_of_eq this.symm)

theorem closed_waiter (hi : Inv c s) (hc : s.closed = true) {i : Nat} (hp : s.phase i ≠ .fresh) : i ∈ s.waiters :=
  hi.closed_queued hc (Decidable.byContradiction fun hlt => hp (hi.st_fresh i hlt))

theorem running_live (hi : Inv c s) (i : Nat) (hr : s.phase i = .running) : s.runReturned = false :=
  Bool.eq_false_iff.mpr fun hrr => by
    have hc : s.closed = true := hi.closed_ph.mpr (Or.inr (hi.rr_ph.mp hrr))
    have := hi.rr_fin hrr i (hi.closed_waiter hc (by simp [hr]))
    rw [hr] at this; cases this

theorem early (hi : Inv c s) (hg : s.gphase = .idle ∨ s.gphase = .iterating ∨ s.gphase = .waitStarters) :
    s.closed = false ∧ s.runReturned = false := by
  refine ⟨Bool.eq_false_iff.mpr fun hc => ?_, Bool.eq_false_iff.mpr fun hc => ?_⟩
  · have := hi.closed_ph.mp hc
    rcases hg with hg | hg | hg <;> simp [hg] at this
  · have := hi.rr_ph.mp hc
    rcases hg with hg | hg | hg <;> simp [hg] at this

end Inv

theorem inv_step {c : Cfg} (hf1 : c.legacyRun = false) (hf2 : c.legacyStarters = false) {s s' : St} {a : Act}
    (hi : Inv c s) (h : step c s a = some s') : Inv c s' := by
  cases a with
  | startGroup =>
    obtain ⟨hg, rfl⟩ := ite_some_eq h
    obtain ⟨hcl, hrr⟩ := hi.early (Or.inl hg)
    exact { hi with closed_ph := by simp [hcl], rr_ph := by simp [hrr], full := fun h => absurd rfl h.2, done_snap := nofun }
  | cancel | release _ => cases h; exact { hi with }
  | iterNext =>
    obtain ⟨hg, h⟩ := Option.ite_none_right_eq_some.mp h
    obtain ⟨hcl, hrr⟩ := hi.early (Or.inr (Or.inl hg.1))
    split at h <;> rename_i hn <;> cases h
    · -- the next member is taken from the iterator and a starter spawned for it
      have h0 := hi.placed s.next
      simp only [Nat.lt_irrefl, decide_false, Bool.toNat_false, Nat.add_eq_zero_iff, Bool.toNat_eq_zero] at h0
      refine { hi with
               next_le := hn, placed := fun j => ?_,
               st_fresh := fun j hj => hi.st_fresh j fun h => hj (Nat.lt_succ_of_lt h),
               act := hi.act.upd _ _ (by rw [h0.2]; rfl),
               closed_wg := by simp [hcl], full := fun hne _ => absurd hg.1 hne.2 }
      by_cases hj : j = s.next
      · subst hj; simp [h0.1, Starter.active]
      · have : j < s.next + 1 ↔ j < s.next := by omega
        simpa only [upd_other _ _ _ _ hj, this] using hi.placed j
    · exact { hi with closed_ph := by simp [hcl], rr_ph := by simp [hrr],
                      full := (fun _ _ => by have := hi.next_le; show s.next = c.n; omega), done_snap := nofun }
  | iterStop =>
    obtain ⟨⟨hg, _⟩, rfl⟩ := ite_some_eq h
    obtain ⟨hcl, hrr⟩ := hi.early (Or.inr (Or.inl hg))
    exact { hi with closed_ph := by simp [hcl], rr_ph := by simp [hrr],
                    full := (by intro _ hcut; have := hi.next_le; simp at hcut; show s.next = c.n; omega), done_snap := nofun }
  | starterStart i =>
    obtain ⟨⟨hs, hp⟩, rfl⟩ := ite_some_eq h
    obtain ⟨hlt, hnw⟩ := hi.under_way (i := i) (by simp [hs, Starter.active])
    refine { hi with
             once := hi.once.start hp, placed := fun j => ?_, st_fresh := fun j hj => ?_,
             act := hi.act.upd _ _ (by simp [hs, Starter.active]), rr_fin := fun hrr j hj => ?_ }
    · by_cases hj : j = i
      · subst hj; simpa [hs, Starter.active] using hi.placed j
      · simpa only [upd_other _ _ _ _ hj] using hi.placed j
    · have hji : j ≠ i := fun e => hj (e ▸ hlt)
      simpa [hji] using hi.st_fresh j hj
    · have hji : j ≠ i := fun e => hnw (e ▸ hj)
      simpa [hji] using hi.rr_fin hrr j hj
  | starterQueue i =>
    obtain ⟨hs, h⟩ := Option.ite_none_right_eq_some.mp h
    -- a starter is under way, so the queue of waiters has not been closed: the `Add` succeeds
    have hclosed : s.closed = false := Bool.eq_false_iff.mpr fun hc => by
      have hact := hi.act
      rw [hi.closed_wg hc] at hact
      simpa [hs, Starter.active] using hact.zero i
    rw [if_neg (by simp [hclosed])] at h
    cases h
    have hrr : s.runReturned = false := Bool.eq_false_iff.mpr fun hc => by
      simp [hi.closed_ph.mpr (Or.inr (hi.rr_ph.mp hc))] at hclosed
    have hnd : s.gphase ≠ .done := fun hd => by simp [hi.closed_ph.mpr (Or.inr (Or.inr hd))] at hclosed
    exact { hi with
            placed := placed_push hi.placed (by simp [hs, Starter.active]) fun j hj =>
              ⟨by simp only [upd_other _ _ _ _ hj], rfl⟩,
            act := hi.act.upd _ _ (by simp [hs, Starter.active]),
            closed_wg := by simp [hclosed], rr_fin := by simp [hrr], done_snap := fun hd => absurd hd hnd }
  | startersDone =>
    obtain ⟨⟨hg, hw⟩, rfl⟩ := ite_some_eq h
    obtain ⟨_, hrr⟩ := hi.early (Or.inr (Or.inr hg))
    exact { hi with closed_ph := by simp, closed_wg := fun _ => by simpa [hf2] using hw, rr_ph := by simp [hrr],
                    full := fun _ hc => hi.full (by simp [hg]) hc, done_snap := nofun }
  | membersDone =>
    obtain ⟨⟨hg, hall⟩, rfl⟩ := ite_some_eq h
    have hcl : s.closed = true := hi.closed_ph.mpr (Or.inl hg)
    exact { hi with closed_ph := by simp [hcl], rr_ph := by simp,
                    rr_fin := fun _ => (allFinished_iff s).mp (by simpa [hf1] using hall),
                    full := fun _ hc => hi.full (by simp [hg]) hc, done_snap := nofun }
  | cleanupDone =>
    obtain ⟨⟨hg, hall, _⟩, rfl⟩ := ite_some_eq h
    have hcl : s.closed = true := hi.closed_ph.mpr (Or.inr (Or.inl hg))
    have hrr : s.runReturned = true := hi.rr_ph.mpr (Or.inl hg)
    exact { hi with closed_ph := by simp [hcl], rr_ph := by simp [hrr],
                    full := fun _ hc => hi.full (by simp [hg]) hc,
                    done_snap := fun _ j hj => by simp [(allFinished_iff s).mp hall j hj] }
  | svcReturn i =>
    obtain ⟨⟨hr, _, _⟩, rfl⟩ := ite_some_eq h
    have hlive : s.runReturned = false := hi.running_live i hr
    refine { hi with once := hi.once.finish hr, st_fresh := fun j hj => ?_, rr_fin := by simp [hlive], saw := fun j => ?_ }
    · have hji : j ≠ i := fun e => by have := hi.st_fresh j hj; rw [e, hr] at this; cases this
      simpa [hji] using hi.st_fresh j hj
    · by_cases hj : j = i
      · subst hj; simp [St.memberCtxEnded, hlive]
      · simpa [hj] using hi.saw j

theorem reachable_inv {c : Cfg} (hf1 : c.legacyRun = false) (hf2 : c.legacyStarters = false) {s : St}
    (h : Reachable c s) : Inv c s :=
  List.foldlM_option_reach_induction (Inv c) (inv_init c) (fun _ _ _ _ => inv_step hf1 hf2) h

end FunModel.Orch.Grp
