import FunModel.FaultPipe
import FunProofs.ListAux

/-! C03 (ii): the inductive invariant of the fault process model `FaultPipe` (conservation of items, the
    abort bound), by one case analysis of `step` kept as a relation (`Step`, `step_sound`), and what it gives in
    terminal states. -/

namespace FunModel.FaultPipe
open FunModel

theorem flatMap_set_same (f : WSt → List Nat) (ws : List WSt) (w : Nat) (a b : WSt)
    (h : ws[w]? = some a) (hab : f a = f b) : ((ws.set w b).flatMap f).Perm (ws.flatMap f) :=
  List.flatMap_set_same f b h hab.symm

theorem heldItems_cons (v : WSt) (ws : List WSt) : heldItems (v :: ws) = heldOf v ++ heldItems ws := rfl
theorem busyItems_cons (v : WSt) (ws : List WSt) : busyItems (v :: ws) = busyOf v ++ busyItems ws := rfl

theorem heldOf_length_le (v : WSt) : (heldOf v).length ≤ 1 := by cases v <;> simp [heldOf]

theorem held_le_length : ∀ (ws : List WSt), (heldItems ws).length ≤ ws.length
  | [] => by simp [heldItems]
  | v :: ws => by
    have ih := held_le_length ws
    have := heldOf_length_le v
    rw [heldItems_cons, List.length_append, List.length_cons]; omega

@[simp] theorem starts_start (x w : Nat) (l : List Ev) : starts (.start x w :: l) = x :: starts l := rfl
@[simp] theorem starts_fin (x w : Nat) (l : List Ev) : starts (.fin x w :: l) = starts l := rfl
@[simp] theorem starts_dropped (x : Nat) (l : List Ev) : starts (.dropped x :: l) = starts l := rfl
@[simp] theorem fins_start (x w : Nat) (l : List Ev) : fins (.start x w :: l) = fins l := rfl
@[simp] theorem fins_fin (x w : Nat) (l : List Ev) : fins (.fin x w :: l) = x :: fins l := rfl
@[simp] theorem fins_dropped (x : Nat) (l : List Ev) : fins (.dropped x :: l) = fins l := rfl
@[simp] theorem dropped_start (x w : Nat) (l : List Ev) : droppedItems (.start x w :: l) = droppedItems l := rfl
@[simp] theorem dropped_fin (x w : Nat) (l : List Ev) : droppedItems (.fin x w :: l) = droppedItems l := rfl
@[simp] theorem dropped_dropped (x : Nat) (l : List Ev) :
    droppedItems (.dropped x :: l) = x :: droppedItems l := rfl
@[simp] theorem stoppedIn_start (c : Cfg) (w x w' : Nat) (l : List Ev) :
    stoppedIn c w (.start x w' :: l) = stoppedIn c w l := rfl
@[simp] theorem stoppedIn_fin (c : Cfg) (w y w' : Nat) (l : List Ev) :
    stoppedIn c w (.fin y w' :: l) = ((w' == w && !c.cont y) || stoppedIn c w l) := rfl
@[simp] theorem stoppedIn_dropped (c : Cfg) (w x : Nat) (l : List Ev) :
    stoppedIn c w (.dropped x :: l) = stoppedIn c w l := rfl
@[simp] theorem workerStops_start (c : Cfg) (x w : Nat) (l : List Ev) :
    workerStops c (.start x w :: l) = (!stoppedIn c w l && workerStops c l) := rfl
@[simp] theorem workerStops_fin (c : Cfg) (x w : Nat) (l : List Ev) :
    workerStops c (.fin x w :: l) = workerStops c l := rfl
@[simp] theorem workerStops_dropped (c : Cfg) (x : Nat) (l : List Ev) :
    workerStops c (.dropped x :: l) = workerStops c l := rfl
@[simp] theorem afterCount_start (c : Cfg) (x w : Nat) (l : List Ev) :
    afterCount c (.start x w :: l) = afterCount c l + (if l.any (isCancelFin c) then 1 else 0) := rfl
@[simp] theorem afterCount_fin (c : Cfg) (x w : Nat) (l : List Ev) :
    afterCount c (.fin x w :: l) = afterCount c l := rfl
@[simp] theorem afterCount_dropped (c : Cfg) (x : Nat) (l : List Ev) :
    afterCount c (.dropped x :: l) = afterCount c l := rfl
@[simp] theorem isCancelFin_start (c : Cfg) (x w : Nat) : isCancelFin c (.start x w) = false := rfl
@[simp] theorem isCancelFin_fin (c : Cfg) (x w : Nat) : isCancelFin c (.fin x w) = c.cancels x := rfl
@[simp] theorem isCancelFin_dropped (c : Cfg) (x : Nat) : isCancelFin c (.dropped x) = false := rfl

@[simp] theorem heldOf_idle : heldOf .idle = [] := rfl
@[simp] theorem heldOf_holding (x : Nat) : heldOf (.holding x) = [x] := rfl
@[simp] theorem heldOf_busy (x : Nat) : heldOf (.busy x) = [] := rfl
@[simp] theorem heldOf_done : heldOf .done = [] := rfl
@[simp] theorem busyOf_idle : busyOf .idle = [] := rfl
@[simp] theorem busyOf_holding (x : Nat) : busyOf (.holding x) = [] := rfl
@[simp] theorem busyOf_busy (x : Nat) : busyOf (.busy x) = [x] := rfl
@[simp] theorem busyOf_done : busyOf .done = [] := rfl

theorem held_set_count {ws : List WSt} {w : Nat} {a' : WSt} (h : ws[w]? = some a') (b : WSt) (a : Nat) :
    (heldItems (ws.set w b)).count a + (heldOf a').count a = (heldItems ws).count a + (heldOf b).count a :=
  List.count_flatMap_set heldOf a b h

theorem busy_set_count {ws : List WSt} {w : Nat} {a' : WSt} (h : ws[w]? = some a') (b : WSt) (a : Nat) :
    (busyItems (ws.set w b)).count a + (busyOf a').count a = (busyItems ws).count a + (busyOf b).count a :=
  List.count_flatMap_set busyOf a b h

theorem held_set_length {ws : List WSt} {w : Nat} {a' : WSt} (h : ws[w]? = some a') (b : WSt) :
    (heldItems (ws.set w b)).length + (heldOf a').length = (heldItems ws).length + (heldOf b).length :=
  List.length_flatMap_set heldOf b h

theorem held_lt_length {ws : List WSt} {w : Nat} {a : WSt} (h : ws[w]? = some a) (ha : heldOf a = []) :
    (heldItems ws).length < ws.length := by
  have h1 := held_set_length h (.holding 0)
  have h2 := held_le_length (ws.set w (.holding 0))
  simp only [ha, heldOf_holding, List.length_nil, List.length_cons, List.length_set] at h1 h2
  omega

theorem get_set_done {ws : List WSt} {w v : Nat} {a b : WSt} (hw : ws[w]? = some a) (ha : a ≠ .done)
    (hv : ws[v]? = some .done) : (ws.set w b)[v]? = some .done := by
  by_cases hwv : w = v
  · subst hwv; rw [hw] at hv; cases hv; exact absurd rfl ha
  · rw [List.getElem?_set_ne hwv]; exact hv

theorem heldOf_next (b : Bool) : heldOf (if b then WSt.idle else WSt.done) = [] := by cases b <;> rfl
theorem busyOf_next (b : Bool) : busyOf (if b then WSt.idle else WSt.done) = [] := by cases b <;> rfl

theorem held_replicate_idle (n : Nat) : heldItems (List.replicate n WSt.idle) = [] := by
  simp [heldItems, List.flatMap_eq_nil_iff]

theorem busy_replicate_idle (n : Nat) : busyItems (List.replicate n WSt.idle) = [] := by
  simp [busyItems, List.flatMap_eq_nil_iff]

theorem cont_false_of_cancels {c : Cfg} {x : Nat} (h : c.cancels x = true) : c.cont x = false := by
  simp [Cfg.cancels, Cfg.stops] at h; exact h.2.1

theorem isStopFin_eq_isCancelFin {c : Cfg} (hg : c.groupCancel = true) : isStopFin c = isCancelFin c := by
  funext e; cases e <;> simp [isStopFin, isCancelFin, Cfg.cancels, hg]

/-- The invariant counts the starts after the first *cancelling* finish (`afterCount`: the event that sets
    `cancelled`), the property those after the first *stopping* one (`afterStop`); in a construct that cancels its
    group they are the same event. -/
theorem afterStop_eq_afterCount {c : Cfg} (hg : c.groupCancel = true) : ∀ l, afterStop c l = afterCount c l
  | [] => rfl
  | .start x w :: l => by
    simp only [afterStop, afterCount, afterStop_eq_afterCount hg l, isStopFin_eq_isCancelFin hg]
  | .fin x w :: l => by simp only [afterStop, afterCount, afterStop_eq_afterCount hg l]
  | .dropped x :: l => by simp only [afterStop, afterCount, afterStop_eq_afterCount hg l]

/-- `cons`: every input item is in exactly one place; `sts`: the started items are the busy and the finished ones.
    `bound`: once the group is cancelled, the items started since then, those a worker holds and the one at the
    reader are together at most `n`: nothing more is read, so the sum no longer grows, and at the cancelling
    finish the finishing worker holds nothing. -/
structure Inv (c : Cfg) (input : List Nat) (s : St) : Prop where
  len : s.ws.length = c.n
  rdNone : s.rdDone = true → s.rd = none
  srcDone : s.rdDone = true → s.cancelled = false → s.src = []
  canc : s.cancelled = s.log.any (isCancelFin c)
  coll : s.coll = (fins s.log).filter c.reports
  cons : ∀ a, input.count a = s.src.count a + s.rd.toList.count a + (heldItems s.ws).count a +
            (busyItems s.ws).count a + (fins s.log).count a + (droppedItems s.log).count a
  sts : ∀ a, (starts s.log).count a = (busyItems s.ws).count a + (fins s.log).count a
  stopped : ∀ w, stoppedIn c w s.log = true → s.ws[w]? = some .done
  wstops : workerStops c s.log = true
  after0 : s.cancelled = false → afterCount c s.log = 0
  bound : s.cancelled = true → afterCount c s.log + (heldItems s.ws).length + s.rd.toList.length ≤ c.n
  nodrop : s.cancelled = false → droppedItems s.log = []
  esc : s.escaped = false

theorem inv_init (c : Cfg) (input : List Nat) : Inv c input (init c input) := by
  refine ⟨by simp [init], by simp [init], by simp [init], by simp [init], by simp [init, fins], ?_, ?_, ?_,
    by simp [init, workerStops], by simp [init, afterCount], by simp [init], by simp [init, droppedItems], by simp [init]⟩
  · intro a; simp [init, held_replicate_idle, busy_replicate_idle, fins, droppedItems]
  · intro a; simp [init, busy_replicate_idle, fins, starts]
  · intro w h; simp [init, stoppedIn] at h

inductive Step (c : Cfg) (s : St) : Act → St → Prop
  | read {x xs} : s.src = x :: xs → s.rd = none → s.rdDone = false → s.cancelled = false →
      Step c s .read { s with src := xs, rd := some x }
  | handoff {w x} : s.rd = some x → s.ws[w]? = some .idle →
      Step c s (.handoff w) { s with rd := none, ws := s.ws.set w (.holding x) }
  | drop {x} : s.rd = some x → s.cancelled = true → s.rdDone = false →
      Step c s .drop { s with rd := none, rdDone := true, log := .dropped x :: s.log }
  | rdExit : s.rd = none → s.rdDone = false → (s.src.isEmpty || s.cancelled) = true →
      Step c s .rdExit { s with rdDone := true }
  | start {w x} : s.ws[w]? = some (.holding x) →
      Step c s (.start w) { s with ws := s.ws.set w (.busy x), log := .start x w :: s.log }
  | escape {w x} : s.ws[w]? = some (.busy x) → ((c.outcome x).isPanic && !c.recovers) = true →
      Step c s (.finish w) { s with ws := s.ws.set w .done, escaped := true }
  | finish {w x} : s.ws[w]? = some (.busy x) → ((c.outcome x).isPanic && !c.recovers) = false →
      Step c s (.finish w) { s with ws := s.ws.set w (if c.cont x then .idle else .done),
                                    cancelled := s.cancelled || c.cancels x,
                                    coll := if c.reports x then x :: s.coll else s.coll,
                                    log := .fin x w :: s.log }
  | exit {w} : s.ws[w]? = some .idle → (s.cancelled || s.rdDone) = true →
      Step c s (.exit w) { s with ws := s.ws.set w .done }

theorem step_sound {c : Cfg} {s s' : St} {a : Act} (hs : step c s a = some s') : Step c s a s' := by
  cases a <;> simp only [step] at hs <;> (repeat' (split at hs <;> try cases hs))
  all_goals (constructor <;> first | assumption | simp_all)

theorem inv_step {c : Cfg} (hr : c.recovers = true) {input : List Nat} {s s' : St} {a : Act} (h : Inv c input s)
    (hs : Step c s a s') : Inv c input s' := by
  cases hs with
  | read h1 h2 h3 h4 =>
    exact { h with
      rdNone := by simp [h3]
      srcDone := by simp [h3]
      bound := by simp [h4]
      cons := fun a => by
        have h0 := h.cons a
        simp only [h1, h2, List.count_cons, Option.toList_none, List.count_nil, Option.toList_some] at h0 ⊢
        omega }
  | @handoff w x h1 h2 =>
    have hb : (busyItems (s.ws.set w (.holding x))).Perm (busyItems s.ws) := flatMap_set_same busyOf s.ws w _ _ h2 rfl
    exact { h with
      len := by simp [h.len]
      rdNone := by simp
      cons := fun a => by
        have h0 := h.cons a
        have hh := held_set_count h2 (.holding x) a
        rw [hb.count_eq]
        simp only [h1, Option.toList_some, Option.toList_none, heldOf_idle, heldOf_holding, List.count_nil,
          List.count_cons] at h0 hh ⊢
        omega
      sts := fun a => by rw [hb.count_eq]; exact h.sts a
      stopped := fun v hv => get_set_done h2 (by simp) (h.stopped v hv)
      bound := fun hc => by
        have h0 := h.bound hc
        have hl := held_set_length h2 (.holding x)
        simp only [h1, Option.toList_some, Option.toList_none, heldOf_idle, heldOf_holding, List.length_nil,
          List.length_cons] at h0 hl ⊢
        omega }
  | drop h1 h2 h3 =>
    exact { h with
      rdNone := by simp
      srcDone := by simp [h2]
      after0 := by simp [h2]
      nodrop := by simp [h2]
      cons := fun a => by
        have h0 := h.cons a
        simp only [h1, Option.toList_some, Option.toList_none, List.count_nil, List.count_cons, fins_dropped,
          dropped_dropped] at h0 ⊢
        omega
      bound := fun hc => by
        have h0 := h.bound hc
        simp only [h1, Option.toList_some, Option.toList_none, List.length_nil, List.length_cons, afterCount_dropped]
          at h0 ⊢
        omega }
  | rdExit h1 h2 h3 =>
    exact { h with
      rdNone := fun _ => h1
      srcDone := fun _ hc => by simpa [show s.cancelled = false from hc] using h3 }
  | @start w x h1 =>
    have hnotstopped : stoppedIn c w s.log = false := by
      cases hst : stoppedIn c w s.log with
      | false => rfl
      | true => have := h.stopped w hst; rw [h1] at this; cases this
    exact { h with
      len := by simp [h.len]
      cons := fun a => by
        have h0 := h.cons a
        have hh := held_set_count h1 (.busy x) a
        have hb := busy_set_count h1 (.busy x) a
        simp only [heldOf_holding, heldOf_busy, busyOf_holding, busyOf_busy, List.count_nil, fins_start,
          dropped_start] at h0 hh hb ⊢
        omega
      sts := fun a => by
        have h0 := h.sts a
        have hb := busy_set_count h1 (.busy x) a
        simp only [busyOf_holding, busyOf_busy, List.count_nil, fins_start, starts_start, List.count_cons] at h0 hb ⊢
        omega
      stopped := fun v hv => get_set_done h1 (by simp) (h.stopped v hv)
      wstops := by simp [hnotstopped, h.wstops]
      after0 := fun hc => by
        have hany : s.log.any (isCancelFin c) = false := h.canc ▸ hc
        simp [h.after0 hc, hany]
      bound := fun hc => by
        have h0 := h.bound hc
        have hl := held_set_length h1 (.busy x)
        have hany : s.log.any (isCancelFin c) = true := h.canc ▸ hc
        simp only [heldOf_holding, heldOf_busy, List.length_nil, List.length_cons, afterCount_start, hany, if_true]
          at h0 hl ⊢
        omega }
  | escape _ hp => simp [hr] at hp
  | @finish w x h1 _ =>
    have hh : (heldItems (s.ws.set w (if c.cont x then .idle else .done))).Perm (heldItems s.ws) :=
      flatMap_set_same heldOf s.ws w _ _ h1 (heldOf_next _).symm
    exact { h with
      len := by simp [h.len]
      srcDone := fun hd hc => h.srcDone hd (Bool.or_eq_false_iff.mp hc).1
      canc := by simp only [List.any_cons, isCancelFin_fin]; rw [h.canc, Bool.or_comm]
      coll := by
        simp only [fins_fin, List.filter_cons]
        cases hrp : c.reports x <;> simp [h.coll]
      cons := fun a => by
        have h0 := h.cons a
        have hb := busy_set_count h1 (if c.cont x then .idle else .done) a
        rw [hh.count_eq]
        simp only [busyOf_next, busyOf_busy, List.count_nil, fins_fin, dropped_fin, List.count_cons] at hb ⊢
        omega
      sts := fun a => by
        have h0 := h.sts a
        have hb := busy_set_count h1 (if c.cont x then .idle else .done) a
        simp only [busyOf_next, busyOf_busy, List.count_nil, fins_fin, starts_fin, List.count_cons] at hb ⊢
        omega
      stopped := fun v hv => by
        simp only [stoppedIn_fin, Bool.or_eq_true, Bool.and_eq_true, beq_iff_eq, Bool.not_eq_true'] at hv
        rcases hv with ⟨rfl, hcont⟩ | hv
        · rw [List.getElem?_set_self', h1, hcont]; rfl
        · exact get_set_done h1 (by simp) (h.stopped v hv)
      after0 := fun hc => h.after0 (Bool.or_eq_false_iff.mp hc).1
      nodrop := fun hc => h.nodrop (Bool.or_eq_false_iff.mp hc).1
      bound := fun _ => by
        rw [hh.length_eq]
        cases hcan : s.cancelled with
        | true => exact h.bound hcan
        | false =>
          simp only [afterCount_fin]
          -- the first cancellation: nothing was started after it yet, and the finishing worker holds no item
          have h0 := h.after0 hcan
          have hlt := held_lt_length h1 rfl
          have hrd : s.rd.toList.length ≤ 1 := by cases s.rd <;> simp
          have := h.len
          omega }
  | @exit w h1 =>
    -- an idle worker and one that has returned hold nothing
    have hh : (heldItems (s.ws.set w .done)).Perm (heldItems s.ws) := flatMap_set_same heldOf s.ws w _ _ h1 rfl
    have hb : (busyItems (s.ws.set w .done)).Perm (busyItems s.ws) := flatMap_set_same busyOf s.ws w _ _ h1 rfl
    exact { h with
      len := by simp [h.len]
      cons := fun a => by rw [hh.count_eq, hb.count_eq]; exact h.cons a
      sts := fun a => by rw [hb.count_eq]; exact h.sts a
      stopped := fun v hv => get_set_done h1 (by simp) (h.stopped v hv)
      bound := fun hc => by rw [hh.length_eq]; exact h.bound hc }

theorem reachable_inv {c : Cfg} (hr : c.recovers = true) {input : List Nat} {s : St}
    (h : Reachable c input s) : Inv c input s :=
  List.foldlM_option_reach_induction _ (inv_init c input) (fun _ _ _ _ hi hs => inv_step hr hi (step_sound hs)) h

theorem any_isCancelFin (c : Cfg) : ∀ l : List Ev, l.any (isCancelFin c) = (fins l).any c.cancels
  | [] => rfl
  | .fin x w :: l | .start x w :: l | .dropped x :: l => by simp [any_isCancelFin c l]

theorem held_busy_nil_of_done (ws : List WSt) (h : ∀ w ∈ ws, w = .done) : heldItems ws = [] ∧ busyItems ws = [] := by
  simp only [heldItems, busyItems, List.flatMap_eq_nil_iff]
  exact ⟨fun w hw => h w hw ▸ rfl, fun w hw => h w hw ▸ rfl⟩

theorem Inv.starts_count_le {c : Cfg} {input : List Nat} {s : St} (h : Inv c input s) (a : Nat) :
    (starts s.log).count a ≤ input.count a := by
  have := h.cons a; have := h.sts a; omega

theorem Inv.mem_input_of_fin {c : Cfg} {input : List Nat} {s : St} (h : Inv c input s) {x : Nat}
    (hx : x ∈ fins s.log) : x ∈ input := by
  have h1 := h.cons x
  have h2 : 0 < (fins s.log).count x := List.count_pos_iff.mpr hx
  exact List.count_pos_iff.mp (by omega)

theorem Inv.terminal_starts_fins {c : Cfg} {input : List Nat} {s : St} (h : Inv c input s)
    (ht : Terminal s) : (starts s.log).Perm (fins s.log) := by
  have hb := (held_busy_nil_of_done s.ws ht.2).2
  rw [List.perm_iff_count]; intro a
  have := h.sts a; simp [hb] at this; exact this

theorem Inv.terminal_complete {c : Cfg} {input : List Nat} {s : St} (h : Inv c input s)
    (ht : Terminal s) (hc : ∀ x ∈ fins s.log, c.cont x = true) : (fins s.log).Perm input := by
  have hnc : s.cancelled = false := by
    cases hcan : s.cancelled with
    | false => rfl
    | true =>
      rw [h.canc, any_isCancelFin, List.any_eq_true] at hcan
      obtain ⟨x, hx, hcx⟩ := hcan
      have := cont_false_of_cancels hcx
      rw [hc x hx] at this; cases this
  obtain ⟨hh, hb⟩ := held_busy_nil_of_done s.ws ht.2
  have hsrc := h.srcDone ht.1 hnc
  have hrd := h.rdNone ht.1
  have hdr := h.nodrop hnc
  rw [List.perm_iff_count]; intro a
  have := h.cons a
  simp [hh, hb, hsrc, hrd, hdr] at this
  exact this.symm

theorem Inv.afterCount_le {c : Cfg} {input : List Nat} {s : St} (h : Inv c input s) : afterCount c s.log ≤ c.n := by
  cases hcan : s.cancelled with
  | false => rw [h.after0 hcan]; omega
  | true => have := h.bound hcan; omega

theorem countLe_of (xs input : List Nat) (h : ∀ a, xs.count a ≤ input.count a) : countLe xs input = true := by
  simp only [countLe, List.all_eq_true, decide_eq_true_eq]
  intro x _; exact h x

theorem Inv.allowed {c : Cfg} {input : List Nat} {s : St} (h : Inv c input s) (ht : Terminal s)
    (measured : Bool) : allowed c input s.log measured = true := by
  have hb : (!(measured && c.groupCancel) || decide (afterStop c s.log ≤ c.n)) = true := by
    cases hg : c.groupCancel with
    | false => simp
    | true => rw [afterStop_eq_afterCount hg]; simp [h.afterCount_le]
  simp only [FaultPipe.allowed, Verdict.ok, judge, Bool.and_eq_true]
  refine ⟨⟨⟨⟨countLe_of _ _ h.starts_count_le, ?_⟩, h.wstops⟩, hb⟩, ?_⟩
  · exact List.isPerm_iff.mpr (h.terminal_starts_fins ht)
  · cases hall : (fins s.log).all c.cont with
    | false => rfl
    | true =>
      have hc : ∀ x ∈ fins s.log, c.cont x = true := by simpa using hall
      simpa using List.isPerm_iff.mpr ((h.terminal_starts_fins ht).trans (h.terminal_complete ht hc))

end FunModel.FaultPipe
