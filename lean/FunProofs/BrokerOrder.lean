import FunProofs.BrokerLog

/-! C08: order. The event loop takes messages in each publisher's order, and the distributor and `Receive` keep it
    (`Ord1`). With a single dispatch worker and the context live every subscriber's sequence is a subsequence of
    the dispatch order (`Ord2`): what it has received, has in its channel, is being sent and is still to be
    offered by the worker, read as one list (`route`), does not change when a message moves on. `OrdLog` is the
    same read off the log older than the first `stop`, from which `orderOk_reachable`. -/

namespace FunProofs.Broker
open FunModel.Broker

def PubLt (a b : Msg) : Prop := a.1 = b.1 → a.2 < b.2

structure Ord1 (s : St) : Prop where
  pubOne : (callMsgs s.calls).Pairwise (fun a b => a.1 ≠ b.1)
  /-- lets `loopTake` append to `taken` keeping `pw` -/
  below : ∀ m ∈ s.taken, ∀ m' ∈ callMsgs s.calls, m'.1 = m.1 → m.2 < m'.2
  takenPub : ∀ m ∈ s.taken, m ∈ s.published
  pw : s.taken.Pairwise PubLt
  /-- oldest first: a message moves from the front of one list to the back of the one before, or drops out -/
  sub : (s.dispatched ++ s.buf ++ s.loop.msgs).Sublist s.taken

theorem ord1_init (c : Cfg) : Ord1 (init c) :=
  ⟨.nil, nofun, nofun, .nil, .slnil⟩

theorem ord1_step {c : Cfg} {s s' : St} {a : Act} (hu : Uniq s) (ho : Ord1 s) (h : Step c s a s') : Ord1 s' := by
  have ⟨h1, h2, h3, h4, h5⟩ := ho
  -- a step that only changes the calls, `front` being the messages of those that went: what is known of the
  -- pending messages stays
  have pend : ∀ {calls' : List Call} {front : List Msg}, (callMsgs s.calls).Perm (front ++ callMsgs calls') →
      Ord1 { s with calls := calls' } := fun hp =>
    { ho with
      pubOne := ((hp.pairwise_iff fun h => h.symm).mp h1).sublist (List.sublist_append_right _ _)
      below := fun m hm m' hm' => h2 m hm m' (hp.symm.subset (List.mem_append_right _ hm')) }
  cases h
  case subCall | unsubCall | statsCall | waitCall =>
    exact { pend (front := []) (by simp [callMsgs_snoc, Call.msgs]) with }
  case cancelCall i cl hc =>
    exact { pend (front := []) (callMsgs_set (cl' := { cl with cancelled := true }) hc rfl) with }
  case enqSub hc _ | enqUnsub hc _ | callAbort hc _ | waitRet hc _ _ | loopSub hc | loopUnsub hc | loopStats hc =>
    exact { pend (callMsgs_erase hc) with }
  case pubCall p hp =>
    refine { ho with
      pubOne := ?_
      below := fun m hm m' hm' he => ?_
      takenPub := fun m hm => List.mem_cons_of_mem _ (h3 m hm) }
    · -- the guard of `pubCall`: publisher `p` has no Publish call pending
      rw [callMsgs_snoc]
      refine List.pairwise_concat.mpr ⟨h1, fun a ha he => ?_⟩
      obtain ⟨cl, hcl, hk⟩ := mem_callMsgs.mp ha
      exact nomatch hp.symm.trans (List.any_eq_true.mpr ⟨cl, hcl, by simp [Call.isPubOf, hk, he]⟩)
    · rw [callMsgs_snoc] at hm'
      rcases List.mem_append.mp hm' with hm' | hm'
      · exact h2 m hm m' hm' he
      · -- the new call carries `nextSeq p`, above everything taken from `p`
        cases List.mem_singleton.mp hm'
        have := hu.seq m (h3 m hm)
        rwa [← show p = m.1 from he] at this
  case loopTake i m0 x hl hc =>
    -- `m0` was pending, so it is above all that was taken from its publisher, and nothing else of that
    -- publisher's is pending
    have hp : (callMsgs s.calls).Perm ([m0] ++ callMsgs (s.calls.eraseIdx i)) := callMsgs_erase hc
    have hm0 : m0 ∈ callMsgs s.calls := hp.symm.subset List.mem_cons_self
    refine { pend hp with below := fun m hm m' hm' he => ?_, takenPub := fun m hm => ?_, pw := ?_, sub := ?_ }
    · rcases List.mem_append.mp hm with hm | hm
      · exact (pend hp).below m hm m' hm' he
      · cases List.mem_singleton.mp hm
        exact absurd he.symm ((List.pairwise_cons.mp ((hp.pairwise_iff fun h => h.symm).mp h1)).1 m' hm')
    · rcases List.mem_append.mp hm with hm | hm
      · exact h3 m hm
      · cases List.mem_singleton.mp hm; exact hu.published_of_call hc
    · exact List.pairwise_concat.mpr ⟨h4, fun a ha he => h2 a ha _ hm0 he.symm⟩
    · rw [hl] at h5
      simp only [Loop.msgs, List.append_nil] at h5 ⊢
      have := h5.append (List.Sublist.refl [m0])
      simpa [List.append_assoc] using this
  case loopSend accept m buf' dropped hl hs =>
    refine { ho with sub := ?_ }
    rw [hl] at h5
    simp only [Loop.msgs, List.append_nil, List.append_assoc] at h5 ⊢
    exact ((sendTo_sublist hs).append_left s.dispatched).trans h5
  case loopSendAbort m hl hd =>
    refine { ho with sub := ?_ }
    rw [hl] at h5
    simp only [Loop.msgs, List.append_nil, List.append_assoc] at h5 ⊢
    exact ((List.sublist_append_left s.buf [m]).append_left s.dispatched).trans h5
  case loopExit hl hd =>
    refine { ho with sub := ?_ }
    rw [hl] at h5
    simpa [Loop.msgs] using h5
  case wRecvBuf w m rest hw hb =>
    refine { ho with sub := ?_ }
    rw [hb] at h5
    simpa [List.append_assoc] using h5
  case wRecvDirect w m cap hw hb hl hc =>
    refine { ho with sub := ?_ }
    rw [hb, hl] at h5
    simp only [hb]
    simpa [Loop.msgs, List.append_assoc] using h5
  all_goals exact { ho with }

def sendsTo (k : Sub) : List (Sub × Msg) → List Msg
  | [] => []
  | (k1, m) :: rest => (if k1 = k then [m] else []) ++ sendsTo k rest

theorem sendsTo_snoc (k k0 : Sub) (m : Msg) : ∀ sends : List (Sub × Msg),
    sendsTo k (sends ++ [(k0, m)]) = sendsTo k sends ++ if k0 = k then [m] else []
  | [] => List.append_nil _
  | (k1, m1) :: rest => by simp only [List.cons_append, sendsTo, sendsTo_snoc k k0 m rest, List.append_assoc]

/-- all sends carry `m`: the one to `k0` that completes is, as far as the messages go, the first of those to `k0` -/
theorem sendsTo_erase {sends : List (Sub × Msg)} {k0 : Sub} {m : Msg} (hall : ∀ p ∈ sends, p.2 = m)
    (hs : (k0, m) ∈ sends) (k : Sub) :
    sendsTo k sends = (if k0 = k then [m] else []) ++ sendsTo k (sends.erase (k0, m)) := by
  induction sends with
  | nil => cases hs
  | cons p rest ih =>
    obtain ⟨k1, m1⟩ := p
    cases hall _ List.mem_cons_self
    by_cases hk1 : k1 = k0
    · rw [hk1, List.erase_cons_head, sendsTo]
    · rw [List.erase_cons_tail (by simp [hk1]), sendsTo, sendsTo,
        ih (fun p hp => hall p (List.mem_cons_of_mem _ hp))
          ((List.mem_cons.mp hs).resolve_left fun e => hk1 (Prod.mk.inj e).1.symm)]
      split <;> split <;> rfl

/-- the far end of the route first -/
def route (s : St) (k : Sub) (x : Worker) : List Msg :=
  s.recvd k ++ s.chan k ++ sendsTo k s.sends ++ aheadMsgs k x

/-- single worker, context live. The first conjunct is what `sendsTo_erase` asks for. -/
def Ord2 (s : St) : Prop :=
  s.live = true → ∀ x, s.ws = [x] → (∀ p ∈ s.sends, p.2 ∈ x.msgs) ∧ ∀ k, (route s k x).Sublist s.dispatched

theorem Worker.msgs_eq {x : Worker} {a b : Msg} (ha : a ∈ x.msgs) (hb : b ∈ x.msgs) : a = b := by
  cases x <;> simp_all [Worker.msgs]

theorem set_singleton {ws : List Worker} {w : Nat} {y x' z : Worker} (h : ws.set w y = [x'])
    (hw : ws[w]? = some z) : ws = [z] ∧ x' = y := by
  have hl : ws.length ≤ 1 := by rw [← List.length_set (i := w) (a := y), h]; exact Nat.le_refl 1
  obtain ⟨rfl, rfl⟩ := List.eq_singleton_of_getElem? hl hw
  exact ⟨rfl, (List.cons.inj h).1.symm⟩

theorem ord2_init (c : Cfg) : Ord2 (init c) := by
  intro _ x hx
  have : x ∈ (init c).ws := hx ▸ List.mem_cons_self
  cases (List.mem_replicate.mp this).2
  exact ⟨nofun, fun k => List.Sublist.refl _⟩

theorem ord2_step {c : Cfg} {s s' : St} {a : Act} (ho : Ord2 s) (h : Step c s a s') : Ord2 s' := by
  intro hl' x' hws'
  -- the send of `m0` to `k0` ends, `m0` arriving at the back of `to k0`, which is in front of the sends
  have sent : ∀ {k0 : Sub} {m0 : Msg} (to : Sub → List Msg), s.live = true → (k0, m0) ∈ s.sends → s'.ws = s.ws →
      (∀ k, to k ++ sendsTo k (s.sends.erase (k0, m0))
        = s.recvd k ++ s.chan k ++ (if k0 = k then [m0] else []) ++ sendsTo k (s.sends.erase (k0, m0))) →
      (∀ p ∈ s.sends.erase (k0, m0), p.2 ∈ x'.msgs) ∧
        ∀ k, (to k ++ sendsTo k (s.sends.erase (k0, m0)) ++ aheadMsgs k x').Sublist s.dispatched := by
    intro k0 m0 to hl hs hws hto
    obtain ⟨h1, h2⟩ := ho hl x' (hws ▸ hws')
    refine ⟨fun p hp => h1 p (List.mem_of_mem_erase hp), fun k => ?_⟩
    have := h2 k
    rw [route, sendsTo_erase (fun p hp => Worker.msgs_eq (h1 p hp) (h1 _ hs)) hs k] at this
    rw [hto k]
    simpa only [List.append_assoc] using this
  cases h
  case stop => cases hl'
  case loopSendAbort hd | loopExit hd | wAbandonGot hd _ | wAbandonIter hd _ | wExit hd _ | sendAbort hd =>
    exact nomatch hd.symm.trans hl'
  case wRecvBuf w m _ hw _ | wRecvDirect w m _ hw _ _ _ =>
    obtain ⟨hws, rfl⟩ := set_singleton hws' hw
    obtain ⟨h1, h2⟩ := ho hl' _ hws
    exact ⟨fun p hp => (List.not_mem_nil (h1 p hp)).elim, fun k => by
      simpa only [route, aheadMsgs, List.append_nil] using (h2 k).append (List.Sublist.refl [m])⟩
  case wStart w m hw =>
    obtain ⟨hws, rfl⟩ := set_singleton hws' hw
    obtain ⟨h1, h2⟩ := ho hl' _ hws
    exact ⟨h1, fun k => by simpa only [route, aheadMsgs, List.not_mem_nil, if_false] using h2 k⟩
  case wNext w k0 m start visited hw hk0 hv hp =>
    obtain ⟨hws, rfl⟩ := set_singleton hws' hw
    obtain ⟨h1, h2⟩ := ho hl' _ hws
    refine ⟨fun p hp' => ?_, fun k => ?_⟩
    · rcases List.mem_append.mp hp' with hp' | hp'
      · exact h1 p hp'
      · cases List.mem_singleton.mp hp'; exact List.mem_cons_self
    · -- the worker yields `k0`: `m` goes from what is ahead of `k0` to the back of the sends to `k0`
      have := h2 k
      by_cases he : k0 = k
      · subst he
        simpa only [route, aheadMsgs, sendsTo_snoc, hv, List.mem_cons_self, if_true, if_false, List.append_nil,
          List.append_assoc] using this
      · simpa only [route, aheadMsgs, sendsTo_snoc, he, List.mem_cons, Ne.symm he, false_or, if_false,
          List.append_nil] using this
  case wDone w m start visited hw hr hp =>
    obtain ⟨hws, rfl⟩ := set_singleton hws' hw
    obtain ⟨h1, h2⟩ := ho hl' _ hws
    refine ⟨fun p hp' => ?_, fun k => by
      simpa only [route, aheadMsgs, List.append_nil] using (List.sublist_append_left _ _).trans (h2 k)⟩
    have : p ∈ pendingOf m s.sends :=
      List.mem_filter.mpr ⟨hp', beq_iff_eq.mpr (List.mem_singleton.mp (h1 p hp'))⟩
    rw [hp] at this; cases this
  case deliver k0 m0 hs hb =>
    refine sent (fun k => s.recvd k ++ upd s.chan k0 (s.chan k0 ++ [m0]) k) hl' hs rfl fun k => ?_
    by_cases he : k0 = k
    · subst he; simp only [upd_same, ↓reduceIte, List.append_assoc]
    · simp only [upd_other _ _ (Ne.symm he), he, ↓reduceIte, List.append_nil]
  case handoff k0 m0 hs hb hopen =>
    refine sent (fun k => upd s.recvd k0 (s.recvd k0 ++ [m0]) k ++ s.chan k) hl' hs rfl fun k => ?_
    by_cases he : k0 = k
    · subst he; simp only [upd_same, hb, ↓reduceIte, List.append_nil, List.append_assoc]
    · simp only [upd_other _ _ (Ne.symm he), he, ↓reduceIte, List.append_nil]
  case recv k0 m0 rest hb hopen =>
    obtain ⟨h1, h2⟩ := ho hl' x' hws'
    refine ⟨h1, fun k => ?_⟩
    have := h2 k
    by_cases he : k = k0
    · subst he
      simpa only [route, upd_same, hb, List.append_assoc, List.cons_append, List.nil_append] using this
    · simpa only [route, upd_other _ _ he] using this
  all_goals exact ho hl' x' hws'

theorem ord_reachable {c : Cfg} {s : St} (h : Reachable c s) : Ord1 s ∧ Ord2 s :=
  reachable_induction (fun s => Ord1 s ∧ Ord2 s) ⟨ord1_init c, ord2_init c⟩
    (fun _ _ _ hr hp hs => ⟨ord1_step (uniq_reachable hr) hp.1 hs, ord2_step hp.2 hs⟩) h

theorem Ord1.dispatched_sublist {s : St} (ho : Ord1 s) : s.dispatched.Sublist s.taken :=
  ((List.sublist_append_left _ _).trans (List.sublist_append_left _ _)).trans ho.sub

theorem dispatched_pubLt {s : St} (ho : Ord1 s) : s.dispatched.Pairwise PubLt :=
  ho.pw.sublist ho.dispatched_sublist

theorem recvd_sublist_dispatched {c : Cfg} (h1w : c.nworkers = 1) {s : St} (hw : WF c s) (ho : Ord2 s)
    (hl : s.live = true) (k : Sub) : (s.recvd k).Sublist s.dispatched := by
  have hlen : s.ws.length = 1 := by rw [hw.nws, h1w]
  match hws : s.ws, hlen with
  | [x], _ =>
    refine .trans ?_ ((ho hl x hws).2 k)
    simp only [route, List.append_assoc]
    exact List.sublist_append_left _ _

theorem liveLog_of_not_stopped {l : List Ev} (h : stopped l = false) : liveLog l = l := by
  cases l with
  | nil => rfl
  | cons e l =>
    simp only [stopped, List.contains_eq_mem, decide_eq_false_iff_not, List.mem_cons, not_or] at h
    simp [liveLog, h.2, Ne.symm h.1]

theorem liveLog_cons {e : Ev} {l : List Ev} (h : stopped l = true ∨ e = .stop) : liveLog (e :: l) = liveLog l := by
  by_cases hs : Ev.stop ∈ l
  · simp [liveLog, hs]
  · have hn : stopped l = false := by simp [stopped, hs]
    rw [liveLog_of_not_stopped hn]
    cases h.resolve_left (by simp [hn])
    simp [liveLog, hs]

theorem step_log_dead {c : Cfg} {s s' : St} {a : Act} (h : Step c s a s') (hd : s'.live = false) :
    s'.log = s.log ∨ ∃ e, s'.log = e :: s.log ∧ (s.live = false ∨ e = Ev.stop) := by
  cases h <;> first
    | exact .inl rfl
    | exact .inr ⟨_, rfl, .inl hd⟩
    | exact .inr ⟨_, rfl, .inr rfl⟩

def OrdLog (c : Cfg) (s : St) : Prop :=
  c.nworkers = 1 → ∃ D : List Msg, D.Pairwise PubLt ∧ ∀ k, (recvs k (liveLog s.log)).Sublist D

theorem ordlog_of_live {c : Cfg} {s : St} (hw : WF c s) (hli : LogInv c s) (ho : Ord1 s ∧ Ord2 s)
    (hl : s.live = true) : OrdLog c s := by
  intro h1w
  have hns : stopped s.log = false := by rw [hli.live, hl]; rfl
  refine ⟨s.dispatched, dispatched_pubLt ho.1, fun k => ?_⟩
  rw [liveLog_of_not_stopped hns, hli.recvs k]
  exact recvd_sublist_dispatched h1w hw ho.2 hl k

theorem ordlog_reachable {c : Cfg} {s : St} (h : Reachable c s) : OrdLog c s := by
  refine reachable_induction (OrdLog c) (fun _ => ⟨[], .nil, fun k => by simp [init, liveLog, recvs]⟩) ?_ h
  intro s a s' hr hp hs
  have hr' := hs.reachable hr
  cases hl' : s'.live with
  | true => exact ordlog_of_live (wf_reachable hr') (loginv_reachable hr') (ord_reachable hr') hl'
  | false =>
    -- once the context is done the live part of the log does not change any more
    have : liveLog s'.log = liveLog s.log := by
      rcases step_log_dead hs hl' with hlog | ⟨e, hlog, hd⟩
      · rw [hlog]
      · rw [hlog]
        exact liveLog_cons (hd.imp_left fun hd => by rw [(loginv_reachable hr).live, hd]; rfl)
    intro h1w
    rw [this]
    exact hp h1w

/-! `orderOk` from `OrdLog`: subsequences of one duplicate-free list order their common elements alike
    (`consistent`), and a subsequence of a list that keeps every publisher's order keeps it (`pubOrdered`). -/

theorem consistent_of_sublist {l1 l2 D : List Msg} (h1 : l1.Sublist D) (h2 : l2.Sublist D) (hD : D.Nodup) :
    consistent l1 l2 = true := by
  simp only [consistent, beq_iff_eq]
  have e1 := List.filter_mem_of_sublist h1 hD
  have e2 := List.filter_mem_of_sublist h2 hD
  conv => lhs; rw [← e1]
  conv => rhs; rw [← e2]
  simp only [List.filter_filter]
  apply List.filter_congr
  intro x _
  rw [Bool.and_comm]

theorem increasing_of_pairwise : ∀ {l : List Nat}, l.Pairwise (· < ·) → increasing l = true
  | [], _ => rfl
  | [_], _ => rfl
  | a :: b :: l, h => by
    have h' := List.pairwise_cons.mp h
    simp only [increasing, Bool.and_eq_true, decide_eq_true_eq]
    exact ⟨h'.1 b List.mem_cons_self, increasing_of_pairwise h'.2⟩

theorem pubOrdered_of_pairwise {l : List Msg} (h : l.Pairwise PubLt) : pubOrdered l = true := by
  simp only [pubOrdered, List.all_eq_true]
  intro p _
  apply increasing_of_pairwise
  rw [List.pairwise_map]
  rw [List.pairwise_filter]
  refine h.imp ?_
  intro a b hab ha hb
  simp only [beq_iff_eq] at ha hb
  exact hab (ha.trans hb.symm)

theorem nodup_of_pubLt {l : List Msg} (h : l.Pairwise PubLt) : l.Nodup := by
  refine h.imp ?_
  intro a b hab he
  subst he
  exact absurd (hab rfl) (Nat.lt_irrefl _)

theorem orderOk_reachable {c : Cfg} {s : St} (h : Reachable c s) : orderOk c (liveLog s.log) = true := by
  simp only [orderOk, Bool.or_eq_true, bne_iff_ne, ne_eq, List.all_eq_true, Bool.and_eq_true]
  by_cases h1w : c.nworkers = 1
  · right
    obtain ⟨D, hD, hsub⟩ := ordlog_reachable h h1w
    intro k _
    refine ⟨pubOrdered_of_pairwise (hD.sublist (hsub k)), fun k' _ => ?_⟩
    exact consistent_of_sublist (hsub k) (hsub k') (nodup_of_pubLt hD)
  · left; exact h1w

end FunProofs.Broker
