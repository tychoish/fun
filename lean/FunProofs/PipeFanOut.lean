import FunModel.Pipe
import FunProofs.ListAux

/-! The FanOut(n) process model (C01/C04), laid out as `PipeFeeder`: `Step`, the invariants (`Good`), `Quiet`. -/
namespace FunModel.Pipe.FanOut

variable {c : Cfg} {input : List Nat} {s s' : St} {a : Act}

inductive Step (c : Cfg) (s : St) : Act → St → Prop
  | close : 0 < s.closeBudget →
      Step c s .close { s with closed := true, envStopped := true, closeBudget := s.closeBudget - 1 }
  | cancel : 0 < s.cancelBudget →
      Step c s .cancel { s with ucancel := true, envStopped := true, cancelBudget := s.cancelBudget - 1 }
  | cStartDone : s.cons = .idle → s.wdone = true → Step c s .cStart { s with cons := .done }
  | cStartPark : s.cons = .idle → s.wdone = false →
      Step c s .cStart { s with cons := .parked, started := true,
                                waiters := if c.onceGo && s.started && s.kst != .exited then s.waiters + 1 else s.waiters }
  | cRecv {x rest} : s.cons = .parked → s.out = x :: rest →
      Step c s .cRecv { s with cons := .idle, out := rest, got := s.got ++ [x] }
  | cEof : s.cons = .parked → s.out = [] → s.oclosed = true → Step c s .cEof { s with cons := .done, closed := true }
  | cCtx : s.cons = .parked → s.wdone = true → Step c s .cCtx { s with cons := .done, closed := true }
  | wAdvanceSpawn : s.started = true → 0 < s.fresh → s.wdone2 = false → s.rd = .notStarted →
      Step c s .wAdvance { s with fresh := s.fresh - 1, idle := s.idle + 1, rd := .running none, spawned := s.spawned + 1 }
  | wAdvance : s.started = true → 0 < s.fresh → s.wdone2 = false → s.rd ≠ .notStarted →
      Step c s .wAdvance { s with fresh := s.fresh - 1, idle := s.idle + 1 }
  | wCtxFresh : s.started = true → 0 < s.fresh → s.wdone2 = true →
      Step c s .wCtxFresh { s with fresh := s.fresh - 1, wexited := s.wexited + 1 }
  | rRead {x xs} : s.rd = .running none → s.src = x :: xs → s.wdone2 = false →
      Step c s .rRead { s with rd := .running (some x), src := xs }
  | rHandoff {x} : s.rd = .running (some x) → 0 < s.idle →
      Step c s .rHandoff { s with rd := .running none, idle := s.idle - 1, hold := s.hold ++ [x] }
  | rCtx {h} : s.rd = .running h → s.wdone2 = true →
      Step c s .rCtx { s with rd := .exited, pclosed := true, droppedR := s.droppedR ++ h.toList }
  | rEof : s.rd = .running none → s.src = [] → Step c s .rEof { s with rd := .exited, pclosed := true }
  | wEof : 0 < s.idle → s.pclosed = true → Step c s .wEof { s with idle := s.idle - 1, wexited := s.wexited + 1 }
  | wCtx : 0 < s.idle → s.wdone2 = true → Step c s .wCtx { s with idle := s.idle - 1, wexited := s.wexited + 1 }
  | wSend {i x} : s.hold[i]? = some x → c.hasOut = true → s.oclosed = false → s.out.length < c.outCap →
      Step c s (.wSend i) { s with hold := s.hold.eraseIdx i, idle := s.idle + 1, out := s.out ++ [x] }
  | wHandoff {i x} : s.hold[i]? = some x → c.hasOut = true → s.oclosed = false → s.cons = .parked → s.out = [] →
      Step c s (.wHandoff i) { s with hold := s.hold.eraseIdx i, idle := s.idle + 1, cons := .idle, got := s.got ++ [x] }
  | wCtxHold {i x} : s.hold[i]? = some x → c.hasOut = true → s.wdone2 = true →
      Step c s (.wCtxHold i) { s with hold := s.hold.eraseIdx i, wexited := s.wexited + 1, droppedW := s.droppedW ++ [x],
                                      wcancel := s.wcancel || c.workerCancels }
  | wSendClosed {i x} : s.hold[i]? = some x → c.hasOut = true → s.oclosed = true →
      Step c s (.wSendClosed i) { s with hold := s.hold.eraseIdx i, wexited := s.wexited + 1, droppedW := s.droppedW ++ [x],
                                         wcancel := s.wcancel || c.workerCancels }
  | wFinish {i x} : s.hold[i]? = some x → c.hasOut = false →
      Step c s (.wFinish i) { s with hold := s.hold.eraseIdx i, idle := s.idle + 1, seen := s.seen ++ [x] }
  | kCancel : c.hasCloser = true → s.started = true → s.kst = .waiting → s.live = 0 ∨ c.closerCtx = true ∧ s.wdone = true →
      Step c s .kCancel { s with wcancel := true, kst := .cancelled }
  | kClose : s.kst = .cancelled → Step c s .kClose { s with oclosed := c.hasOut, kst := .exited }
  | oExit : s.kst = .exited → 0 < s.waiters → Step c s .oExit { s with waiters := s.waiters - 1 }

theorem step_sound (hs : step c s a = some s') : Step c s a s' := by
  cases a <;> simp only [step] at hs <;> (repeat' (split at hs <;> try cases hs))
  all_goals (constructor <;> first | assumption | simp_all [St.wdone])

theorem step_complete (hs : Step c s a s') : step c s a = some s' := by
  cases hs <;> simp_all [step, St.wdone]

theorem stuck_step {p : Act → Prop} (hq : ∀ a, p a → step c s a = none) (hs : Step c s a s') (ha : p a) : False := by
  simpa [hq _ ha] using step_complete hs

/-- holds in every run, stopped from outside or not -/
structure Inv (c : Cfg) (input : List Nat) (s : St) : Prop where
  workers : s.fresh + s.idle + s.hold.length + s.wexited = c.n
  pclosed_iff : s.pclosed = true ↔ s.rd = .exited
  spawned_once : (s.rd = .notStarted ∧ s.spawned = 0) ∨ (s.rd ≠ .notStarted ∧ s.spawned = 1)
  advanced : 0 < s.idle + s.hold.length → s.rd ≠ .notStarted
  notstarted : s.started = false →
    s.fresh = c.n ∧ s.rd = .notStarted ∧ s.kst = .waiting ∧ s.cons ≠ .parked ∧ s.waiters = 0
  nolazy : c.lazy = false → s.started = true
  noout : c.hasOut = false → s.out = [] ∧ s.got = [] ∧ s.cons = .done ∧ s.oclosed = false
  hasout : c.hasOut = true → s.seen = []
  done_wdone : c.hasOut = true → s.cons = .done → s.wdone = true
  kst_wcancel : s.kst ≠ .waiting → s.wcancel = true
  oclosed_kst : c.invalid = false → s.oclosed = true → s.kst = .exited
  nocloser : c.hasCloser = false → s.kst = .waiting
  wexited_why : 0 < s.wexited → s.pclosed = true ∨ s.wdone2 = true ∨ (c.invalid = true ∧ c.hasOut = true)
  kst_exited : s.kst = .exited → s.oclosed = c.hasOut
  waiters_once : c.onceGo = false → s.waiters = 0
  /-- rejected options, with an output: the output was closed by the constructor; nothing is ever delivered -/
  invalid_out : c.invalid = true → c.hasOut = true → s.oclosed = true ∧ s.got = [] ∧ s.out = []
  /-- rejected options, no output: the workers' context is done from the start; no worker ever advances -/
  invalid_noout : c.invalid = true → c.hasOut = false →
    s.wcancel = true ∧ s.idle = 0 ∧ s.hold = [] ∧ s.seen = [] ∧ s.rd = .notStarted
  /-- the source is only read by the reader goroutine -/
  src_untouched : s.rd = .notStarted → s.src = input

def Conserved (input : List Nat) (s : St) : Prop := ∀ a, s.items.count a = input.count a

/-- while nothing stopped the run from outside -/
structure Clean (c : Cfg) (input : List Nat) (s : St) : Prop where
  dropped : s.droppedW = [] ∧ s.droppedR = []
  ucancel : s.ucancel = false
  rd_exited : s.rd = .exited → s.src = []
  /-- a worker leaves only at the closed split pipe -/
  wexited : 0 < s.wexited → s.rd = .exited
  /-- … so the worker whose advance started the reader is still there while the reader runs -/
  rd_running : s.rd ≠ .exited → s.rd ≠ .notStarted → 0 < s.idle + s.hold.length
  /-- the closer cancels only because the wait-group drained -/
  wcancel : s.wcancel = true → s.live = 0
  /-- the iterator (not the channel `out`) is closed only by its own consumer, at io.EOF -/
  closed : s.closed = true → s.cons = .done ∧ s.out = [] ∧ s.kst = .exited ∧ c.hasOut = true

theorem inv_step (h : Inv c input s) (hs : Step c s a s') : Inv c input s' := by
  cases hs with
  | close | cancel =>
    exact { h with done_wdone := fun _ _ => by simp [St.wdone]
                   wexited_why := fun _ => by simp [St.wdone2] }
  | cStartDone _ hw =>
    exact { h with notstarted := by have := h.notstarted; simp_all
                   noout := by have := h.noout; simp_all
                   done_wdone := fun _ _ => hw }
  | cStartPark =>
    exact { h with notstarted := nofun
                   nolazy := fun _ => rfl
                   noout := by have := h.noout; simp_all
                   done_wdone := fun _ => nofun
                   waiters_once := by have := h.waiters_once; simp_all }
  | cRecv =>
    exact { h with notstarted := by have := h.notstarted; simp_all
                   noout := by have := h.noout; simp_all
                   done_wdone := fun _ => nofun
                   invalid_out := by have := h.invalid_out; simp_all }
  | cEof | cCtx =>
    exact { h with notstarted := by have := h.notstarted; simp_all
                   noout := by have := h.noout; simp_all
                   done_wdone := fun _ _ => by simp [St.wdone]
                   wexited_why := fun _ => by simp [St.wdone2] }
  | wAdvanceSpawn hst =>
    exact { h with workers := by have := h.workers; simp only []; omega
                   pclosed_iff := by have := h.pclosed_iff; simp_all
                   spawned_once := by have := h.spawned_once; simp_all
                   advanced := fun _ => nofun
                   notstarted := by simp [hst]
                   invalid_noout := by have := h.invalid_noout; simp_all [St.wdone2]
                   src_untouched := nofun }
  | wAdvance hst _ _ hrd =>
    exact { h with workers := by have := h.workers; simp only []; omega
                   advanced := fun _ => hrd
                   notstarted := by simp [hst]
                   invalid_noout := by have := h.invalid_noout; simp_all [St.wdone2] }
  | wCtxFresh hst _ hw =>
    exact { h with workers := by have := h.workers; simp only []; omega
                   notstarted := by simp [hst]
                   wexited_why := fun _ => .inr (.inl hw) }
  | rRead | rHandoff =>
    exact { h with workers := by have := h.workers; simp only [List.length_append, List.length_singleton]; omega
                   pclosed_iff := by have := h.pclosed_iff; simp_all
                   spawned_once := by have := h.spawned_once; simp_all
                   advanced := fun _ => nofun
                   notstarted := by have := h.notstarted; simp_all
                   invalid_noout := by have := h.invalid_noout; simp_all
                   src_untouched := nofun }
  | rCtx | rEof =>
    exact { h with pclosed_iff := by simp
                   spawned_once := by have := h.spawned_once; simp_all
                   advanced := fun _ => nofun
                   notstarted := by have := h.notstarted; simp_all
                   wexited_why := fun _ => .inl rfl
                   invalid_noout := by have := h.invalid_noout; simp_all
                   src_untouched := nofun }
  | wEof | wCtx =>
    exact { h with workers := by have := h.workers; simp only []; omega
                   advanced := fun hpos => h.advanced (by simp only [] at hpos; omega)
                   wexited_why := fun _ => by simp_all [St.wdone2]
                   invalid_noout := by have := h.invalid_noout; simp_all }
  | wSend hx ho | wHandoff hx ho =>
    have hl := List.length_eraseIdx_of_getElem? hx
    exact { h with workers := by have := h.workers; simp only []; omega
                   advanced := fun _ => h.advanced (by omega)
                   notstarted := by have := h.notstarted; simp_all
                   noout := by simp [ho]
                   done_wdone := by have := h.done_wdone; simp_all [St.wdone]
                   invalid_out := by have := h.invalid_out; simp_all
                   invalid_noout := by simp [ho] }
  | wCtxHold hx ho | wSendClosed hx ho =>
    have hl := List.length_eraseIdx_of_getElem? hx
    exact { h with workers := by have := h.workers; simp only []; omega
                   advanced := fun hpos => h.advanced (by simp only [] at hpos; omega)
                   kst_wcancel := fun hk => by simp [h.kst_wcancel hk]
                   -- the output was closed by the closer, who had cancelled before, or by the constructor
                   wexited_why := fun _ => by have := h.oclosed_kst; have := h.kst_wcancel; grind [St.wdone2]
                   invalid_noout := by simp [ho] }
  | wFinish hx ho =>
    have hl := List.length_eraseIdx_of_getElem? hx
    exact { h with workers := by have := h.workers; simp only []; omega
                   advanced := fun _ => h.advanced (by omega)
                   hasout := by simp [ho]
                   invalid_noout := fun hv _ => by simp [(h.invalid_noout hv ho).2.2.1] at hx }
  | kCancel hcl hst =>
    exact { h with notstarted := by simp [hst]
                   kst_wcancel := fun _ => rfl
                   oclosed_kst := by have := h.oclosed_kst; simp_all
                   nocloser := by simp [hcl]
                   wexited_why := fun _ => by simp [St.wdone2]
                   kst_exited := nofun
                   invalid_noout := by have := h.invalid_noout; simp_all }
  | kClose hk =>
    exact { h with notstarted := by have := h.notstarted; simp_all
                   noout := by have := h.noout; simp_all
                   kst_wcancel := fun _ => h.kst_wcancel (by simp [hk])
                   oclosed_kst := fun _ _ => rfl
                   nocloser := by have := h.nocloser; simp_all
                   kst_exited := fun _ => rfl
                   invalid_out := by have := h.invalid_out; simp_all }
  | oExit =>
    exact { h with notstarted := by have := h.notstarted; simp_all
                   waiters_once := fun ho => by simp [h.waiters_once ho] }

theorem setup_once {c : Cfg} {input : List Nat} {s : St} (h : Inv c input s) :
    s.spawned ≤ 1 ∧ (0 < s.idle + s.hold.length → s.spawned = 1) := by
  rcases h.spawned_once with h3 | h3
  · exact ⟨by omega, fun hp => absurd h3.1 (h.advanced hp)⟩
  · exact ⟨by omega, fun _ => h3.2⟩

theorem conserved_step (h : Conserved input s) (hs : Step c s a s') : Conserved input s' := by
  intro b
  have hb := h b
  simp only [St.items, List.count_append] at hb ⊢
  cases hs with
  | cRecv => simp_all [List.count_cons]; omega
  | wAdvanceSpawn | rEof => simp_all [GState.held]
  | rRead | rHandoff => simp_all [GState.held, List.count_cons]; omega
  | rCtx => simp_all [GState.held]; omega
  | wSend hx | wHandoff hx | wCtxHold hx | wSendClosed hx | wFinish hx =>
    have := List.count_eraseIdx b hx; simp only [List.count_append]; omega
  | _ => exact hb

theorem Step.envStopped (hs : Step c s a s') (he : s'.envStopped = false) : s.envStopped = false := by
  cases hs with
  | close | cancel => cases he
  | _ => exact he

/-- only the closer makes `wctx2` done, after the last worker left (Close of the output comes after the closer exited) -/
theorem Clean.live_eq_zero (h : Clean c input s) (hi : Inv c input s) (hw : s.wdone2 = true) : s.live = 0 := by
  refine h.wcancel ?_
  cases hcl : s.closed with
  | true => exact hi.kst_wcancel (by simp [(h.closed hcl).2.2.1])
  | false => simpa [St.wdone2, hcl, h.ucancel] using hw

theorem clean_step (hv : c.invalid = false) (hi : Inv c input s) (h : s.envStopped = false → Clean c input s)
    (hs : Step c s a s') : s'.envStopped = false → Clean c input s' := by
  intro he
  have h := h (hs.envStopped he)
  have hlive := h.live_eq_zero hi
  have hwc : s.wcancel = true → s.fresh + s.idle + s.hold.length = 0 := h.wcancel
  unfold St.live at hlive
  cases hs with
  | close | cancel => cases he
  | cStartDone | cRecv | kClose =>
    exact { h with closed := fun (hcl : s.closed = true) => by have := h.closed hcl; simp_all }
  | cStartPark => exact { h with closed := fun (hcl : s.closed = true) => by simp_all [St.wdone] }
  | cEof _ _ hoc =>
    exact { h with closed := fun _ => by have := hi.oclosed_kst hv hoc; have := hi.noout; simp_all }
  | cCtx =>
    exact { h with closed := fun _ => by have := h.closed; have := h.ucancel; simp_all [St.wdone] }
  | wAdvanceSpawn _ _ hw hrd =>
    exact { h with rd_exited := nofun
                   wexited := fun hpos => by simp [h.wexited hpos] at hrd
                   rd_running := fun _ _ => by simp only []; omega
                   wcancel := fun (hwc : s.wcancel = true) => by simp [St.wdone2, hwc] at hw }
  | wAdvance _ _ hw =>
    exact { h with rd_running := fun _ _ => by simp only []; omega
                   wcancel := fun (hwc : s.wcancel = true) => by simp [St.wdone2, hwc] at hw }
  | wCtxFresh _ _ hw | wCtx _ hw => have := hlive hw; omega
  | rRead hrd =>
    exact { h with rd_exited := nofun
                   wexited := fun hpos => by simp [h.wexited hpos] at hrd
                   rd_running := fun _ _ => h.rd_running (by simp [hrd]) (by simp [hrd]) }
  | rHandoff hrd =>
    exact { h with rd_exited := nofun
                   wexited := fun hpos => by simp [h.wexited hpos] at hrd
                   rd_running := fun _ _ => by simp only [List.length_append, List.length_singleton]; omega
                   wcancel := fun hw => by have := hwc hw; simp only [St.live]; omega }
  | rCtx hrd hw =>
    have := hlive hw; have := h.rd_running (by simp [hrd]) (by simp [hrd]); omega
  | rEof _ hsrc =>
    exact { h with rd_exited := fun _ => hsrc, wexited := fun _ => rfl, rd_running := fun hne => absurd rfl hne }
  | wEof _ hp =>
    have hrd := hi.pclosed_iff.mp hp
    exact { h with wexited := fun _ => hrd, rd_running := fun hne => absurd hrd hne
                   wcancel := fun hw => by have := hwc hw; simp only [St.live]; omega }
  | wSend hx ho hoc | wHandoff hx ho hoc =>
    have hl := List.length_eraseIdx_of_getElem? hx
    exact { h with rd_running := fun h1 h2 => by have := h.rd_running h1 h2; simp only []; omega
                   wcancel := fun hw => by have := hwc hw; simp only [St.live]; omega
                   closed := fun (hcl : s.closed = true) => by simp [hi.kst_exited (h.closed hcl).2.2.1, ho] at hoc }
  | wCtxHold hx _ hw => have := hlive hw; have := List.length_eraseIdx_of_getElem? hx; omega
  | wSendClosed hx _ hoc =>
    have := hlive (by simp [St.wdone2, hi.kst_wcancel (by simp [hi.oclosed_kst hv hoc])])
    have := List.length_eraseIdx_of_getElem? hx; omega
  | wFinish hx =>
    have hl := List.length_eraseIdx_of_getElem? hx
    exact { h with rd_running := fun h1 h2 => by have := h.rd_running h1 h2; simp only []; omega
                   wcancel := fun hw => by have := hwc hw; simp only [St.live]; omega }
  | kCancel hcl =>
    -- as in `FanIn.clean_step`: `wdone` of a clean run is `closed`, which only follows the closer's exit (`h.closed`)
    exact { h with wcancel := fun _ => by
                     have := h.closed; have := h.ucancel; simp_all [St.wdone, St.live]
                   closed := fun (hcl : s.closed = true) => by have := h.closed hcl; simp_all }
  | oExit => exact { h with }

/-- one worker: exact order in *every* run (also aborted ones). `dw` and `dr` keep the given-up items in their places:
    the worker and the reader give up an item only as they exit, so nothing moves past it afterwards. -/
structure Ord1 (input : List Nat) (s : St) : Prop where
  order : s.got ++ s.seen ++ s.out ++ s.hold ++ s.droppedW ++ s.rd.held ++ s.droppedR ++ s.src = input
  dw : s.droppedW ≠ [] → s.wexited = 1
  dr : s.droppedR ≠ [] → s.rd = .exited

theorem ord1_step (hn : c.n = 1) (hi : Inv c input s) (h : Ord1 input s) (hs : Step c s a s') : Ord1 input s' := by
  have hwk := hi.workers
  -- nothing was given up while the one who gives up is still there; and with `c.n = 1` the list `hold` has at most
  -- one entry, so that erasing entry `i` empties it (`eq_singleton_of_getElem?`)
  have hdw : s.wexited = 0 → s.droppedW = [] := fun h0 =>
    Classical.byContradiction fun hne => by have := h.dw hne; omega
  have hdr : s.rd ≠ .exited → s.droppedR = [] := fun hne =>
    Classical.byContradiction fun hd => hne (h.dr hd)
  have ho := h.order
  cases hs with
  | cRecv hc hout =>
    have hseen : s.seen = [] := hi.hasout (Bool.not_eq_false _ ▸ fun hco => by simp [(hi.noout hco).2.2.1] at hc)
    exact { h with order := by simpa [hout, hseen] using ho }
  | wAdvanceSpawn _ _ _ hrd =>
    exact { h with order := by simpa [hrd, GState.held] using ho, dr := by simp [hdr (by simp [hrd])] }
  | wCtxFresh => exact { h with dw := fun hne => by have := h.dw hne; omega }
  | rRead hrd hsrc =>
    have := hdr (by simp [hrd])
    exact { h with order := by simpa [hrd, hsrc, this, GState.held] using ho, dr := by simp [this] }
  | rHandoff hrd =>
    have h1 := hdr (by simp [hrd]); have h2 := hdw (by omega)
    exact { h with order := by simpa [hrd, h1, h2, GState.held] using ho, dr := by simp [h1] }
  | rCtx hrd =>
    have := hdr (by simp [hrd])
    exact { h with order := by simpa [hrd, this, GState.held] using ho, dr := fun _ => rfl }
  | rEof hrd => exact { h with order := by simpa [hrd, GState.held] using ho, dr := fun _ => rfl }
  | wEof | wCtx => exact { h with dw := fun _ => by simp only []; omega }
  | wSend hx =>
    obtain ⟨h1, rfl⟩ := List.eq_singleton_of_getElem? (by omega) hx
    exact { h with order := by simpa [h1] using ho }
  | wHandoff hx ho' _ _ hout =>
    obtain ⟨h1, rfl⟩ := List.eq_singleton_of_getElem? (by omega) hx
    exact { h with order := by simpa [h1, hout, hi.hasout ho'] using ho }
  | wCtxHold hx | wSendClosed hx =>
    obtain ⟨h1, rfl⟩ := List.eq_singleton_of_getElem? (by omega) hx
    have h0 : s.wexited = 0 := by simp [h1] at hwk; omega
    exact { h with order := by simpa [h1, hdw h0] using ho, dw := fun _ => by simp [h0] }
  | wFinish hx ho' =>
    obtain ⟨h1, rfl⟩ := List.eq_singleton_of_getElem? (by omega) hx
    exact { h with order := by simpa [h1, (hi.noout ho').1] using ho }
  | _ => exact { h with }

structure Good (c : Cfg) (input : List Nat) (s : St) : Prop where
  inv : Inv c input s
  conserved : Conserved input s
  clean : c.invalid = false → s.envStopped = false → Clean c input s
  ord1 : c.n = 1 → Ord1 input s

theorem good_init (c : Cfg) (input : List Nat) (k1 k2 : Nat) : Good c input (init c input k1 k2) where
  inv := by constructor <;> simp [init, St.wdone, St.wdone2] <;> grind
  conserved := fun a => by simp [init, St.items, GState.held]
  clean := fun hv _ => by constructor <;> simp [init, St.live, hv]
  ord1 := fun _ => by constructor <;> simp [init, GState.held]

theorem good_step (h : Good c input s) (hs : step c s a = some s') : Good c input s' :=
  have hs := step_sound hs
  ⟨inv_step h.inv hs, conserved_step h.conserved hs, fun hv => clean_step hv h.inv (h.clean hv) hs,
   fun hn => ord1_step hn h.inv (h.ord1 hn) hs⟩

theorem reachable_good {k1 k2 : Nat} (h : Reachable c input k1 k2 s) : Good c input s :=
  List.foldlM_option_reach_induction _ (good_init c input k1 k2) (fun _ _ _ _ => good_step) h

/-- Where the weights of `measure` come from: an item gets lighter at every move (source 9, reader 8, worker 6,
    output 3, delivered 0) by more than the move gives back: a worker that passes its item on returns to `idle` (+2,
    `wSend`: 6 → 3 + 2), a delivery returns the consumer to `idle` (+2, as in the Feeder). A worker itself only sinks
    (`fresh` 3, `idle` 2, gone 0; the first advance also starts the reader). -/
theorem measure_step (hs : Step c s a s') : measure s' < measure s := by
  cases hs with
  | wSend hx | wHandoff hx | wCtxHold hx | wSendClosed hx | wFinish hx =>
    have := List.length_eraseIdx_of_getElem? hx
    simp [measure, CState.rank, *] <;> omega
  | cStartPark => simp [measure, CState.rank, *]; split <;> omega
  | _ => simp [measure, GState.held, GState.rank, CState.rank, KState.rank, *] <;> omega

theorem nostop_step (hs : Step c s a s') (h : s.envStopped = false ∧ s.closeBudget = 0 ∧ s.cancelBudget = 0) :
    s'.envStopped = false ∧ s'.closeBudget = 0 ∧ s'.cancelBudget = 0 := by
  cases hs with
  | close | cancel => omega
  | _ => exact h

theorem run_nostop {c : Cfg} (as : List Act) : ∀ {s s' : St},
    s.envStopped = false ∧ s.closeBudget = 0 ∧ s.cancelBudget = 0 → run c s as = some s' →
    s'.envStopped = false ∧ s'.closeBudget = 0 ∧ s'.cancelBudget = 0 :=
  List.foldlM_option_inv _ (fun _ _ _ h hs => nostop_step (step_sound hs) h) as

theorem wdone2_of_wdone (h : s.wdone = true) : s.wdone2 = true := by
  unfold St.wdone2; unfold St.wdone at h; rw [h]; rfl

/-- the second clause is `outcome`'s `eof`: the channel the consumer (or else the workers) reads was seen closed -/
theorem terminal_clean (h : Good c input s) (hwf : c.wf)
    (hv : c.invalid = false) (hclean : s.envStopped = false) (ht : s.terminal c = true) :
    s.items = s.got ++ s.seen ∧ (if c.hasOut then s.oclosed else s.pclosed) = true := by
  have hi := h.inv
  have hc := h.clean hv hclean
  simp only [St.terminal, St.allExited, Bool.and_eq_true, Bool.or_eq_true, decide_eq_true_eq, Bool.not_eq_true'] at ht
  obtain ⟨hall, hdone⟩ := ht
  have hout : c.hasOut = true → s.out = [] ∧ s.kst = .exited := fun ho =>
    have ⟨_, h2, h3, _⟩ := hc.closed (by simpa [St.wdone, hc.ucancel] using hi.done_wdone ho hdone)
    ⟨h2, h3⟩
  have hstarted : s.started = true := by
    cases hs : s.started with
    | true => rfl
    | false =>
      cases ho : c.hasOut with
      | true => have := (hi.notstarted hs).2.2.1; simp [(hout ho).2] at this
      | false =>
        cases hl : c.lazy with
        | true => simp [hwf.2.1 hl] at ho
        | false => simp [hi.nolazy hl] at hs
  have hlive : s.fresh + s.idle + s.hold.length = 0 := hall.elim (fun h => by simp [hstarted] at h) (fun h => h.1.1.2)
  have hrd : s.rd = .exited := hc.wexited (by have := hi.workers; have := hwf.1; omega)
  have hhold : s.hold = [] := List.length_eq_zero_iff.mp (by omega)
  cases ho : c.hasOut with
  | false => simp [St.items, hc.rd_exited hrd, hrd, GState.held, hhold, (hi.noout ho).1, hc.dropped, hi.pclosed_iff.mpr hrd]
  | true =>
    simp [St.items, hc.rd_exited hrd, hrd, GState.held, hhold, (hout ho).1, hc.dropped, hi.kst_exited (hout ho).2, ho]

theorem leaked_eq_zero_iff : (outcome c s).leaked = 0 ↔ s.allExited c = true := by
  cases hs : s.started <;> cases hr : (s.rd = .exited || s.rd = .notStarted) <;> cases hk : c.hasCloser <;>
    simp [outcome, St.allExited, hs, hr, hk] <;> omega

/-- No goroutine can move: what each of them is then waiting for. -/
structure Quiet (c : Cfg) (s : St) : Prop where
  fresh : s.started = true → s.fresh = 0
  /-- the reader is blocked handing an item to a worker, and no worker is receiving -/
  reader : ∀ {h}, s.rd = .running h → h ≠ none ∧ s.idle = 0 ∧ s.wdone2 = false
  /-- a receiving worker waits for the reader -/
  idle : 0 < s.idle → s.pclosed = false ∧ s.wdone2 = false
  /-- a worker with an item waits for the consumer -/
  holder : s.hold ≠ [] → c.hasOut = true ∧ s.oclosed = false ∧ s.wdone2 = false ∧ (s.cons = .parked → s.out ≠ [])
  /-- the closer waits for the workers -/
  closer : c.hasCloser = true → s.started = true → s.kst = .exited ∨ s.kst = .waiting ∧ s.live ≠ 0
  waiters : s.kst = .exited → s.waiters = 0

theorem quiet_of_stuck (hq : ∀ a, a.isGoroutine = true → step c s a = none) : Quiet c s where
  fresh hst := Nat.eq_zero_of_not_pos fun hf => by
    cases hw : s.wdone2 with
    | true => exact stuck_step hq (.wCtxFresh hst hf hw) rfl
    | false =>
      by_cases hrd : s.rd = .notStarted
      · exact stuck_step hq (.wAdvanceSpawn hst hf hw hrd) rfl
      · exact stuck_step hq (.wAdvance hst hf hw hrd) rfl
  reader {h} hrd := by
    cases hw : s.wdone2 with
    | true => exact (stuck_step hq (.rCtx hrd hw) rfl).elim
    | false =>
      cases h with
      | none =>
        cases hsrc : s.src with
        | nil => exact (stuck_step hq (.rEof hrd hsrc) rfl).elim
        | cons x xs => exact (stuck_step hq (.rRead hrd hsrc hw) rfl).elim
      | some x => exact ⟨nofun, Nat.eq_zero_of_not_pos fun hid => stuck_step hq (.rHandoff hrd hid) rfl, rfl⟩
  idle hid := by
    cases hp : s.pclosed with
    | true => exact (stuck_step hq (.wEof hid hp) rfl).elim
    | false =>
      cases hw : s.wdone2 with
      | true => exact (stuck_step hq (.wCtx hid hw) rfl).elim
      | false => exact ⟨rfl, rfl⟩
  holder hne := by
    obtain ⟨x, xs, hh⟩ := List.exists_cons_of_ne_nil hne
    have h0 : s.hold[0]? = some x := by simp [hh]
    cases ho : c.hasOut with
    | false => exact (stuck_step hq (.wFinish h0 ho) rfl).elim
    | true =>
      cases hoc : s.oclosed with
      | true => exact (stuck_step hq (.wSendClosed h0 ho hoc) rfl).elim
      | false =>
        cases hw : s.wdone2 with
        | true => exact (stuck_step hq (.wCtxHold h0 ho hw) rfl).elim
        | false => exact ⟨rfl, rfl, rfl, fun hc hout => stuck_step hq (.wHandoff h0 ho hoc hc hout) rfl⟩
  closer hcl hst := by
    cases hk : s.kst with
    | exited => exact .inl rfl
    | cancelled => exact (stuck_step hq (.kClose hk) rfl).elim
    | waiting => exact .inr ⟨rfl, fun hl => stuck_step hq (.kCancel hcl hst hk (.inl hl)) rfl⟩
  waiters hk := Nat.eq_zero_of_not_pos fun hw => stuck_step hq (.oExit hk hw) rfl

/-- a receiving worker would be waiting for a reader that is waiting for a receiving worker -/
theorem Quiet.live_eq_zero (q : Quiet c s) (h : Inv c input s) (hst : s.started = true) (hh : s.hold = []) :
    s.live = 0 := by
  have hid : s.idle = 0 := Nat.eq_zero_of_not_pos fun hid => by
    cases hrd : s.rd with
    | notStarted => exact h.advanced (by omega) hrd
    | exited => have := (q.idle hid).1; simp [h.pclosed_iff.mpr hrd] at this
    | running r => have := (q.reader hrd).2.1; omega
  simp [St.live, q.fresh hst, hid, hh]

theorem Quiet.allExited (q : Quiet c s) (h : Inv c input s) (hwf : c.wf) (hst : s.started = true) (hh : s.hold = [])
    (hrd : ∀ r, s.rd ≠ .running r) : s.allExited c = true := by
  have hl := q.live_eq_zero h hst hh
  have hr : (s.rd = .exited || s.rd = .notStarted) = true := by
    cases hr : s.rd with
    | running r => exact absurd hr (hrd r)
    | _ => rfl
  cases hcl : c.hasCloser with
  | true =>
    have hk : s.kst = .exited := (q.closer hcl hst).resolve_right fun hk => hk.2 hl
    simp [St.allExited, hr, hl, hk, q.waiters hk]
  | false =>
    -- bare Split: no once-waiters either
    have hog : c.onceGo = false := Bool.eq_false_iff.mpr fun hog => by simp [hwf.2.2.1 hog] at hcl
    simp [St.allExited, hr, hl, hcl, h.waiters_once hog]

/-- once `wctx2` is done, for whatever reason, no goroutine needs the consumer to make progress -/
theorem stuck_allExited (h : Inv c input s) (hwf : c.wf) (hw : s.wdone2 = true)
    (hq : ∀ a, a.isGoroutine = true → step c s a = none) : s.allExited c = true := by
  have q := quiet_of_stuck hq
  cases hst : s.started with
  | false => simp [St.allExited, hst]
  | true =>
    refine q.allExited h hwf hst (Classical.byContradiction fun hne => ?_) fun r hrd => ?_
    · have := (q.holder hne).2.2.1; simp [hw] at this
    · have := (q.reader hrd).2.2; simp [hw] at this

theorem stuck_terminal (h : Inv c input s) (hwf : c.wf)
    (hmax : ∀ a, a.isEnv = false → step c s a = none) : s.terminal c = true := by
  have q : Quiet c s := quiet_of_stuck fun a ha => hmax a (by simp [Act.isGoroutine] at ha; exact ha.1)
  have hci : s.cons ≠ .idle := fun hc => by
    cases hw : s.wdone with
    | true => exact stuck_step hmax (.cStartDone hc hw) rfl
    | false => exact stuck_step hmax (.cStartPark hc hw) rfl
  have hpark : s.cons = .parked → s.out = [] ∧ s.oclosed = false ∧ s.wdone = false := fun hc => by
    cases hout : s.out with
    | cons y ys => exact (stuck_step hmax (.cRecv hc hout) rfl).elim
    | nil =>
      refine ⟨rfl, Bool.eq_false_iff.mpr fun hoc => stuck_step hmax (.cEof hc hout hoc) rfl,
        Bool.eq_false_iff.mpr fun hw => stuck_step hmax (.cCtx hc hw) rfl⟩
  have hparked : c.hasOut = true → s.wdone2 = false → s.cons = .parked := fun ho hw => by
    cases hc : s.cons with
    | idle => exact absurd hc hci
    | parked => rfl
    | done => simp [wdone2_of_wdone (h.done_wdone ho hc)] at hw
  cases hst : s.started with
  | false =>
    cases hc : s.cons with
    | idle => exact absurd hc hci
    | parked => exact absurd hc (h.notstarted hst).2.2.2.1
    | done => simp [St.terminal, St.allExited, hst, hc]
  | true =>
    have hhold : s.hold = [] := Classical.byContradiction fun hne => by
      obtain ⟨ho, _, hw, hout⟩ := q.holder hne
      have hc := hparked ho hw
      exact hout hc (hpark hc).1
    have hlive := q.live_eq_zero h hst hhold
    have hrd : ∀ r, s.rd ≠ .running r := fun r hrd => by
      obtain ⟨_, hid, hw⟩ := q.reader hrd
      -- every worker has exited, though the pipe is open and nobody cancelled: the options were rejected
      have hwx : 0 < s.wexited := by
        have := h.workers; have := hwf.1; unfold St.live at hlive; omega
      rcases h.wexited_why hwx with hp | hp | ⟨hv, ho⟩
      · simp [h.pclosed_iff.mp hp] at hrd
      · simp [hp] at hw
      · have := (hpark (hparked ho hw)).2.1
        simp [(h.invalid_out hv ho).1] at this
    have hall := q.allExited h hwf hst hhold hrd
    cases hc : s.cons with
    | idle => exact absurd hc hci
    | done => simp [St.terminal, hall, hc]
    | parked =>
      -- only the consumer is left; the closer has closed its channel
      have ho : c.hasOut = true := Bool.not_eq_false _ ▸ fun ho => by simp [(h.noout ho).2.2.1] at hc
      have hk : s.kst = .exited := by
        have := hall; simp [St.allExited, hst, hlive, hwf.2.2.2 ho] at this; exact this.1.2
      have := (hpark hc).2.1; simp [h.kst_exited hk, ho] at this

theorem no_deadlock_internal (h : Inv c input s) (hwf : c.wf) (hnt : s.terminal c = false) :
    ∃ a, a.isEnv = false ∧ (step c s a).isSome = true :=
  List.exists_enabled_of_stuck (stuck_terminal h hwf) hnt

theorem no_deadlock_stopped (h : Inv c input s) (hwf : c.wf) (hw : s.wdone2 = true) (hne : s.allExited c = false) :
    ∃ a, a.isGoroutine = true ∧ (step c s a).isSome = true :=
  List.exists_enabled_of_stuck (stuck_allExited h hwf hw) hne

end FunModel.Pipe.FanOut
