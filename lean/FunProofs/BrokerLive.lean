import FunProofs.Broker

/-! C08/C09: well-formedness of reachable states, what quiescence implies (no stuck state), shutdown. -/
namespace FunProofs.Broker
open FunModel.Broker

/-- the limits the constructors can produce: `QueueOptions.Validate` wants `HardLimit > 0`,
    `DequeOptions.Validate` makes a capacity ≤ 0 into 1 -/
def Cfg.valid (c : Cfg) : Prop :=
  match c.backend with
  | .shedding hard => 0 < hard
  | .evicting cap => 0 < cap
  | _ => True

theorem Cfg.valid_of_lossless {c : Cfg} (h : c.backend.lossless = true) : Cfg.valid c := by
  obtain ⟨b, _, _, _⟩ := c
  cases b <;> first | trivial | cases h

/-- What the quiescence arguments need of a reachable state. The `…Lt` fields: every subscriber id in use was
    handed out — `candidates` and `allOpen` range over the ids below `nextSub` only. -/
structure WF (c : Cfg) (s : St) : Prop where
  nws : s.ws.length = c.nworkers
  liveLoop : s.live = true → s.loop ≠ .exited
  liveWs : s.live = true → ∀ w ∈ s.ws, w ≠ Worker.exited
  subsLt : ∀ k ∈ s.subs, k < s.nextSub
  subQLt : ∀ k ∈ s.subQ, k < s.nextSub
  callLt : ∀ cl ∈ s.calls, ∀ k, cl.kind = CallKind.sub k → k < s.nextSub
  sendsLt : ∀ p ∈ s.sends, p.1 < s.nextSub
  chanLt : ∀ k, s.chan k ≠ [] → k < s.nextSub

theorem wf_init (c : Cfg) : WF c (init c) :=
  ⟨List.length_replicate, fun _ => nofun, fun _ _ hw => (List.mem_replicate.mp hw).2 ▸ nofun, nofun, nofun, nofun,
    nofun, fun _ h => absurd rfl h⟩

theorem wf_step {c : Cfg} {s s' : St} {a : Act} (hw : WF c s) (h : Step c s a s') : WF c s' := by
  have erased : ∀ i, ∀ cl ∈ s.calls.eraseIdx i, ∀ k, cl.kind = CallKind.sub k → k < s.nextSub :=
    fun i cl hcl => hw.callLt cl (List.mem_of_mem_eraseIdx hcl)
  have busy : ∀ w y, y ≠ Worker.exited → s.live = true → ∀ x ∈ s.ws.set w y, x ≠ Worker.exited := by
    intro w y hy hl x hx
    rcases List.mem_or_eq_of_mem_set hx with h | h
    · exact hw.liveWs hl x h
    · exact h ▸ hy
  have len : ∀ w y, (s.ws.set w y).length = c.nworkers := fun w y => by rw [List.length_set]; exact hw.nws
  have dead : s.live = false → s.live = true → ∀ x ∈ s'.ws, x ≠ Worker.exited := fun hd h => nomatch hd.symm.trans h
  cases h
  case subCall =>
    refine { hw with
      subsLt := fun k hk => Nat.lt_succ_of_lt (hw.subsLt k hk)
      subQLt := fun k hk => Nat.lt_succ_of_lt (hw.subQLt k hk)
      sendsLt := fun p hp => Nat.lt_succ_of_lt (hw.sendsLt p hp)
      chanLt := fun k hk => Nat.lt_succ_of_lt (hw.chanLt k hk)
      callLt := fun cl hcl k hk => ?_ }
    rcases List.mem_append.mp hcl with hcl | hcl
    · exact Nat.lt_succ_of_lt (hw.callLt cl hcl k hk)
    · cases List.mem_singleton.mp hcl; cases hk; exact Nat.lt_succ_self _
  case unsubCall | pubCall | statsCall | waitCall =>
    refine { hw with callLt := fun cl hcl k hk => ?_ }
    rcases List.mem_append.mp hcl with hcl | hcl
    · exact hw.callLt cl hcl k hk
    · cases List.mem_singleton.mp hcl; cases hk
  case cancelCall i cl hc =>
    refine { hw with callLt := fun x hx k hk => ?_ }
    rcases List.mem_or_eq_of_mem_set hx with hx | hx
    · exact hw.callLt x hx k hk
    · subst hx; exact hw.callLt cl (List.mem_of_getElem? hc) k hk
  case stop => exact { hw with liveLoop := nofun, liveWs := nofun }
  case enqSub i k x hc hq =>
    refine { hw with callLt := erased i, subQLt := fun k' hk' => ?_ }
    rcases List.mem_append.mp hk' with hk' | hk'
    · exact hw.subQLt k' hk'
    · exact List.mem_singleton.mp hk' ▸ hw.callLt _ (List.mem_of_getElem? hc) k rfl
  case enqUnsub | callAbort | waitRet | loopStats => exact { hw with callLt := erased _ }
  case loopSubQ k rest hl hq =>
    have h5 := hw.subQLt
    rw [hq] at h5
    refine { hw with subQLt := fun k' hk' => h5 k' (List.mem_cons_of_mem _ hk'), subsLt := fun k' hk' => ?_ }
    rcases mem_insertSub.mp hk' with h | h
    · exact hw.subsLt k' h
    · exact h ▸ h5 k List.mem_cons_self
  case loopSub i k x hl hc =>
    refine { hw with callLt := erased i, subsLt := fun k' hk' => ?_ }
    rcases mem_insertSub.mp hk' with h | h
    · exact hw.subsLt k' h
    · exact h ▸ hw.callLt _ (List.mem_of_getElem? hc) k rfl
  case loopUnsubQ => exact { hw with subsLt := fun k hk => hw.subsLt k (List.mem_of_mem_erase hk) }
  case loopUnsub =>
    exact { hw with subsLt := fun k hk => hw.subsLt k (List.mem_of_mem_erase hk), callLt := erased _ }
  case loopTake => exact { hw with liveLoop := fun _ => nofun, callLt := erased _ }
  case loopSend | loopSendAbort => exact { hw with liveLoop := fun _ => nofun }
  case loopExit hl hd => exact { hw with liveLoop := fun h => nomatch hd.symm.trans h }
  case wRecvBuf | wStart | wDone => exact { hw with nws := len _ _, liveWs := busy _ _ (nofun) }
  case wRecvDirect => exact { hw with nws := len _ _, liveLoop := fun _ => nofun, liveWs := busy _ _ (nofun) }
  case wNext w k m start visited hw' hk hv hp =>
    refine { hw with nws := len _ _, liveWs := busy _ _ (nofun), sendsLt := fun p hp' => ?_ }
    rcases List.mem_append.mp hp' with h | h
    · exact hw.sendsLt p h
    · cases List.mem_singleton.mp h; exact hw.subsLt k hk
  case wAbandonGot hd _ | wAbandonIter hd _ | wExit hd _ => exact { hw with nws := len _ _, liveWs := dead hd }
  case deliver k m hs hb =>
    refine { hw with sendsLt := fun p hp => hw.sendsLt p (List.mem_of_mem_erase hp), chanLt := fun k' hk' => ?_ }
    simp only [upd_apply] at hk'
    split at hk'
    · rename_i he; exact he ▸ hw.sendsLt _ hs
    · exact hw.chanLt k' hk'
  case handoff | sendAbort => exact { hw with sendsLt := fun p hp => hw.sendsLt p (List.mem_of_mem_erase hp) }
  case recv k m rest hb ho =>
    refine { hw with chanLt := fun k' hk' => ?_ }
    simp only [upd_apply] at hk'
    split at hk'
    · rename_i he; exact he ▸ hw.chanLt k (by rw [hb]; nofun)
    · exact hw.chanLt k' hk'
  all_goals exact { hw with }

theorem wf_reachable {c : Cfg} {s : St} (h : Reachable c s) : WF c s :=
  reachable_induction (WF c) (wf_init c) (fun _ _ _ _ hw hs => wf_step hw hs) h

theorem mem_candidates {s : St} {a : Act} : a ∈ candidates s ↔
    (∃ i, i < s.calls.length ∧ a ∈ [Act.enqSub i, .enqUnsub i, .callAbort i, .waitRet i, .loopSub i,
        .loopUnsub i, .loopStats i, .loopTake i])
    ∨ a ∈ [Act.loopSubQ, .loopUnsubQ, .loopSend true, .loopSend false, .loopSendAbort, .loopExit]
    ∨ (∃ w, w < s.ws.length ∧
        (a ∈ [Act.wRecv w, .wStart w, .wDone w, .wAbandon w, .wExit w] ∨ ∃ k ∈ s.subs, Act.wNext w k = a))
    ∨ (∃ p ∈ s.sends, a ∈ [Act.deliver p.1 p.2, .handoff p.1 p.2, .sendAbort p.1 p.2])
    ∨ ∃ k, k < s.nextSub ∧ Act.recv k = a := by
  simp only [candidates, callIdx, workerIdx, List.mem_append, List.mem_flatMap, List.mem_map, List.mem_range,
    or_assoc]

theorem step_eq_stepCore {c : Cfg} {s : St} {a : Act} (hi : a.internal = true) :
    step c s a = stepCore c s a := by
  unfold step
  split
  · exact nomatch hi
  · exact nomatch hi
  · rfl

/-- `hr`: `candidates` has `recv k` for `k < s.nextSub` only -/
theorem enabled_mem_candidates {c : Cfg} {s s' : St} {a : Act} (h : Step c s a s') (hi : a.internal = true)
    (hr : ∀ k, a = .recv k → s.chan k ≠ [] → k < s.nextSub) : a ∈ candidates s := by
  rw [mem_candidates]
  cases h
  case enqSub hc _ | enqUnsub hc _ | callAbort hc _ | waitRet hc _ _ | loopSub hc | loopUnsub hc | loopStats hc
      | loopTake hc =>
    exact Or.inl ⟨_, List.lt_of_getElem? hc, by simp⟩
  case loopSubQ | loopUnsubQ | loopSendAbort | loopExit => exact Or.inr (Or.inl (by simp))
  case loopSend accept _ _ _ _ _ => exact Or.inr (Or.inl (by cases accept <;> simp))
  case wRecvBuf hw _ | wRecvDirect hw _ _ _ | wStart hw | wDone hw _ _ | wAbandonGot hw | wAbandonIter hw
      | wExit hw =>
    exact Or.inr (Or.inr (Or.inl ⟨_, List.lt_of_getElem? hw, Or.inl (by simp)⟩))
  case wNext hw hk _ _ => exact Or.inr (Or.inr (Or.inl ⟨_, List.lt_of_getElem? hw, Or.inr ⟨_, hk, rfl⟩⟩))
  case deliver hs _ | handoff hs _ _ | sendAbort hs _ => exact Or.inr (Or.inr (Or.inr (Or.inl ⟨_, hs, by simp⟩)))
  case recv hb _ => exact Or.inr (Or.inr (Or.inr (Or.inr ⟨_, hr _ rfl (by rw [hb]; nofun), rfl⟩)))
  all_goals exact nomatch hi

theorem internal_of_mem_candidates {s : St} {a : Act} (h : a ∈ candidates s) : a.internal = true := by
  rcases mem_candidates.mp h with ⟨i, _, h⟩ | h | ⟨w, _, h | ⟨k, _, rfl⟩⟩ | ⟨p, _, h⟩ | ⟨k, _, rfl⟩
  -- `a` is `recv k`, `wNext w k`, or drawn from one of the explicit lists, which hold internal actions only
  all_goals first | rfl | exact List.all_eq_true.mp rfl a h

/-- `hr` as in `enabled_mem_candidates`: `nofun` discharges it for an action that is not a `recv`, `WF.chanLt` for
    one that is -/
theorem stuck_step {c : Cfg} {s : St} (hq : quiescent c s = true) {a : Act} {s' : St} (hs : Step c s a s')
    (hi : a.internal = true) (hr : ∀ k, a = .recv k → s.chan k ≠ [] → k < s.nextSub) : False := by
  simp only [quiescent, enabledInternal, List.isEmpty_iff, List.filter_eq_nil_iff] at hq
  have := hq a (enabled_mem_candidates hs hi hr)
  rw [← step_eq_stepCore hi, step_complete hs] at this
  exact this rfl

theorem none_of_quiescent {c : Cfg} {s : St} (hq : quiescent c s = true) (a : Act) (hi : a.internal = true)
    (hr : ∀ k, a = .recv k → s.chan k ≠ [] → k < s.nextSub) : stepCore c s a = none := by
  cases h : stepCore c s a with
  | none => rfl
  | some s' => exact (stuck_step hq (step_sound (step_eq_stepCore hi ▸ h)) hi hr).elim

/-- `subQ` / `unsubQ` are not mentioned, although a quiescent state with a live context has them empty too
    (`loopSubQ` / `loopUnsubQ`). -/
structure Idle (s : St) : Prop where
  sends : s.sends = []
  chans : ∀ k, s.chan k = []
  workers : ∀ w ∈ s.ws, w = Worker.idle
  loop : s.loop = .select
  buf : s.buf = []
  calls : ∀ cl ∈ s.calls, cl.kind = CallKind.wait

theorem isOpen_of_allOpen {s : St} (ho : allOpen s = true) {k : Sub} (hk : k < s.nextSub) : s.isOpen k = true := by
  simp only [allOpen, List.all_eq_true, List.mem_range] at ho
  exact ho k hk

theorem nworkers_pos (c : Cfg) : 0 < c.nworkers := by
  simp only [Cfg.nworkers]; split <;> omega

theorem sendTo_nil {c : Cfg} (hv : Cfg.valid c) (m : Msg) :
    (∃ cap, c.backend = .blocking cap) ∨ sendTo c.backend [] m true = some ([m], []) := by
  unfold Cfg.valid at hv
  cases hb : c.backend <;> simp_all [sendTo]

/-- in a state that is not idle some internal action is enabled: the one named in each case below -/
theorem idle_of_quiescent {c : Cfg} {s : St} (hv : Cfg.valid c) (hw : WF c s) (hl : s.live = true)
    (ho : allOpen s = true) (hq : quiescent c s = true) : Idle s := by
  have stuck := @stuck_step c s hq
  have hchans : ∀ k, s.chan k = [] := by
    intro k
    cases hc : s.chan k with
    | nil => rfl
    | cons m' rest' =>
      have hk : k < s.nextSub := hw.chanLt k (by rw [hc]; nofun)
      exact (stuck (.recv k m' rest' hc (isOpen_of_allOpen ho hk)) rfl fun _ h _ => Act.recv.inj h ▸ hk).elim
  have hsends : s.sends = [] := by
    cases hs : s.sends with
    | nil => rfl
    | cons p rest =>
      have hmem : (p.1, p.2) ∈ s.sends := by rw [hs]; exact List.mem_cons_self
      exact (stuck (.handoff p.1 p.2 hmem (hchans _) (isOpen_of_allOpen ho (hw.sendsLt _ hmem))) rfl nofun).elim
  have hworkers : ∀ w ∈ s.ws, w = Worker.idle := by
    intro w hwm
    obtain ⟨i, hi⟩ := List.mem_iff_getElem?.mp hwm
    cases w with
    | idle => rfl
    | exited => exact absurd rfl (hw.liveWs hl _ hwm)
    | got m => exact (stuck (.wStart i m hi) rfl nofun).elim
    | iter m start visited =>
      cases hr : rangeDone s.subs start visited with
      | true => exact (stuck (.wDone i m start visited hi hr (by rw [hsends]; rfl)) rfl nofun).elim
      | false =>
        simp only [rangeDone, List.all_eq_false, Bool.or_eq_true, Bool.not_eq_true', not_or,
          List.contains_eq_mem, decide_eq_true_eq, decide_eq_false_iff_not, Decidable.not_not] at hr
        obtain ⟨k, _, hks, hkv⟩ := hr
        exact (stuck (.wNext i k m start visited hi hks hkv (.inr (by rw [hsends]; rfl))) rfl nofun).elim
  have h0 : s.ws[0]? = some Worker.idle := by
    have hlen : 0 < s.ws.length := by rw [hw.nws]; exact nworkers_pos c
    rw [List.getElem?_eq_getElem hlen, hworkers _ (List.getElem_mem hlen)]
  have hbuf : s.buf = [] := by
    cases hb : s.buf with
    | nil => rfl
    | cons m' rest => exact (stuck (.wRecvBuf 0 m' rest h0 hb) rfl nofun).elim
  have hloop : s.loop = .select := by
    cases hlp : s.loop with
    | select => rfl
    | exited => exact absurd hlp (hw.liveLoop hl)
    | sending m =>
      -- a `blocking` back-end hands over to the idle worker 0; any other empty distributor accepts
      rcases sendTo_nil hv m with ⟨cap, hbk⟩ | hst
      · exact (stuck (.wRecvDirect 0 m cap h0 hbuf hlp hbk) rfl nofun).elim
      · exact (stuck (.loopSend true m _ _ hlp (hbuf ▸ hst)) rfl nofun).elim
  refine ⟨hsends, hchans, hworkers, hloop, hbuf, fun cl hcl => ?_⟩
  obtain ⟨i, hi⟩ := List.mem_iff_getElem?.mp hcl
  obtain ⟨kind, x⟩ := cl
  cases kind with
  | wait => rfl
  | sub k => exact (stuck (.loopSub i k x hloop hi) rfl nofun).elim
  | unsub k => exact (stuck (.loopUnsub i k x hloop hi) rfl nofun).elim
  | stats => exact (stuck (.loopStats i x hloop hi) rfl nofun).elim
  | pub m => exact (stuck (.loopTake i m x hloop hi) rfl nofun).elim

structure Down (s : St) : Prop where
  loop : s.loop = .exited
  workers : ∀ w ∈ s.ws, w = Worker.exited
  sends : s.sends = []
  waits : ∀ cl ∈ s.calls, cl.kind ≠ CallKind.wait

theorem down_of_quiescent {c : Cfg} {s : St} (hd : s.live = false) (hq : quiescent c s = true) : Down s := by
  have stuck := @stuck_step c s hq
  have hloop : s.loop = .exited := by
    cases hlp : s.loop with
    | exited => rfl
    | select => exact (stuck (.loopExit hlp hd) rfl nofun).elim
    | sending m => exact (stuck (.loopSendAbort m hlp hd) rfl nofun).elim
  have hworkers : ∀ w ∈ s.ws, w = Worker.exited := by
    intro w hwm
    obtain ⟨i, hi⟩ := List.mem_iff_getElem?.mp hwm
    cases w with
    | exited => rfl
    | idle => exact (stuck (.wExit i hd hi) rfl nofun).elim
    | got m => exact (stuck (.wAbandonGot i m hd hi) rfl nofun).elim
    | iter m start visited => exact (stuck (.wAbandonIter i m start visited hd hi) rfl nofun).elim
  have hsends : s.sends = [] := by
    cases hs : s.sends with
    | nil => rfl
    | cons p rest =>
      have hmem : (p.1, p.2) ∈ s.sends := by rw [hs]; exact List.mem_cons_self
      exact (stuck (.sendAbort p.1 p.2 hmem hd) rfl nofun).elim
  refine ⟨hloop, hworkers, hsends, fun cl hcl hk => ?_⟩
  obtain ⟨i, hi⟩ := List.mem_iff_getElem?.mp hcl
  have hall : allExited s.ws = true := by
    simp only [allExited, List.all_eq_true, beq_iff_eq]
    exact hworkers
  obtain ⟨kind, x⟩ := cl
  cases hk
  exact (stuck (.waitRet i x hi hloop hall) rfl nofun).elim

theorem no_zombie_of_quiescent {c : Cfg} {s : St} (hq : quiescent c s = true) :
    ∀ cl ∈ s.calls, cl.cancelled = false := by
  intro cl hcl
  obtain ⟨i, hi⟩ := List.mem_iff_getElem?.mp hcl
  cases hx : cl.cancelled with
  | false => rfl
  | true => exact (stuck_step hq (.callAbort i cl hi hx) rfl nofun).elim

theorem zombies_zero {c : Cfg} {s : St} (hq : quiescent c s = true) : zombies s.calls = 0 :=
  List.length_eq_zero_iff.mpr (List.filter_eq_nil_iff.mpr fun cl hcl => by simp [no_zombie_of_quiescent hq cl hcl])

theorem pendingApi_zero {s : St} (hi : Idle s) : pendingApi s.calls = 0 :=
  List.length_eq_zero_iff.mpr (List.filter_eq_nil_iff.mpr fun cl hcl => by simp [hi.calls cl hcl])

theorem pendingWaits_zero {s : St} (hd : Down s) : pendingWaits s.calls = 0 :=
  List.length_eq_zero_iff.mpr (List.filter_eq_nil_iff.mpr fun cl hcl => by simp [hd.waits cl hcl])

theorem alive_zero {s : St} (hd : Down s) : alive s = 0 := by
  have : s.ws.filter (fun w => w != Worker.exited) = [] :=
    List.filter_eq_nil_iff.mpr fun w hw => by simp [hd.workers w hw]
  simp [alive, hd.loop, hd.sends, this]

end FunProofs.Broker
