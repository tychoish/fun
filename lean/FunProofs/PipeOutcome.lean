import FunModel.Pipe

/-! `allowed`, the predicate the driver evaluates on outcomes, from what the models prove of a terminal state. -/
namespace FunModel.Pipe

theorem allowed_of {ordered : Bool} {input : List Nat} {o : Outcome} (hleak : o.leaked = 0)
    (hle : ∀ x, o.delivered.count x ≤ input.count x)
    (hff : o.failureFree = true → o.eof = true ∧ o.delivered.Perm input)
    (hord : ordered = true → o.delivered <+: input) : allowed ordered input o = true := by
  simp only [allowed, countLe, countEq, Bool.and_eq_true, Bool.or_eq_true, Bool.not_eq_true', beq_iff_eq,
    List.all_eq_true, decide_eq_true_eq]
  refine ⟨⟨⟨hleak, fun x _ => hle x⟩, ?_⟩, ?_⟩
  · cases hf : o.failureFree with
    | false => exact .inl rfl
    | true => exact .inr ⟨(hff hf).1, fun x _ => (hff hf).2.count_eq x⟩
  · cases ho : ordered with
    | false => exact .inl rfl
    | true => exact .inr (List.isPrefixOf_iff_prefix.mpr (hord ho))

end FunModel.Pipe
