import FunProofs.ServiceLog

/-! Calls and returns of the `srv.Service` model against the callers' program counters: every return in the log has its
    operation (`Book`), each operation is logged as called at most once (`CallU`), a caller inside an operation is at
    one of its locations (`LocOp`); and `measure`, which every step but a parent cancellation decreases. -/

namespace FunModel.Service

/-- `cm1`: a caller inside an operation has logged its call; `cm2`, `rt`: a logged return is of an operation its thread
    has left, with a result that operation can give. So in a complete log every caller is idle (`idle_of_complete`), and
    `rt` tells a `Start` return from the others (`C10.others_report_started_or_returned`). -/
structure Book (s : State) : Prop where
  cm1 : ∀ (t : Nat) (th : Thread), s.ths[t]? = some th → th.loc ≠ .idle →
          ∃ k op, th.ops[th.pc]? = some op ∧ (k, Ev.call t th.pc op) ∈ s.log
  cm2 : ∀ x ∈ s.log, ∀ (t i : Nat) (r : Ret), x.2 = .ret t i r → ∀ (th : Thread), s.ths[t]? = some th → i < th.pc
  rt : ∀ x ∈ s.log, ∀ (t i : Nat) (r : Ret), x.2 = .ret t i r → ∀ (th : Thread), s.ths[t]? = some th →
          ∃ op, th.ops[i]? = some op ∧ retMatches op r

theorem Book.move {s s' : State} (h : Book s) {t : Nat} {th th' : Thread} (hth : s.ths[t]? = some th) {evs : List Ev}
    (e1 : s'.ths = s.ths.set t th') (e2 : s'.log = s.log ++ stamp s.clock evs)
    (hops : th'.ops = th.ops) (hpc : th.pc ≤ th'.pc)
    (hcall : th'.loc ≠ .idle → th'.pc = th.pc ∧ ((∃ op, th.ops[th.pc]? = some op ∧ .call t th.pc op ∈ evs) ∨ th.loc ≠ .idle))
    (hret : ∀ e ∈ evs, ∀ u i r, e = .ret u i r →
      u = t ∧ i = th.pc ∧ th.pc < th'.pc ∧ ∃ op, th.ops[th.pc]? = some op ∧ retMatches op r) : Book s' := by
  have key : ∀ x ∈ s'.log, ∀ (u i : Nat) (r : Ret), x.2 = .ret u i r → ∀ (x' : Thread), s'.ths[u]? = some x' →
      i < x'.pc ∧ ∃ op, x'.ops[i]? = some op ∧ retMatches op r := by
    simp only [e1, e2, List.mem_append, mem_stamp]
    intro x hx u i r hr x' hx'
    rcases hx with hx | ⟨_, hx⟩
    · rcases List.getElem?_set_cases hx' with ⟨rfl, rfl⟩ | ⟨_, hu⟩
      · exact ⟨Nat.lt_of_lt_of_le (h.cm2 x hx _ i r hr th hth) hpc, hops ▸ h.rt x hx _ i r hr th hth⟩
      · exact ⟨h.cm2 x hx u i r hr x' hu, h.rt x hx u i r hr x' hu⟩
    · obtain ⟨rfl, rfl, hlt, hop⟩ := hret _ hx u i r hr
      rcases List.getElem?_set_cases hx' with ⟨_, rfl⟩ | ⟨hne, _⟩
      · exact ⟨hlt, hops ▸ hop⟩
      · exact absurd rfl hne
  refine ⟨?_, fun x hx u i r hr x' hx' => (key x hx u i r hr x' hx').1, fun x hx u i r hr x' hx' => (key x hx u i r hr x' hx').2⟩
  simp only [e1, e2, List.mem_append, mem_stamp]
  rw [List.forall_getElem?_set hth]
  refine ⟨fun hl => ?_, fun u x _ hu hx => ?_⟩
  · obtain ⟨hp, ⟨op, ho, hc⟩ | hc⟩ := hcall hl
    · exact ⟨s.clock, op, by rw [hp, hops]; exact ho, .inr ⟨rfl, hp ▸ hc⟩⟩
    · obtain ⟨k, op, ho, hk⟩ := h.cm1 t th hth hc; exact ⟨k, op, by rw [hp, hops]; exact ho, .inl (hp ▸ hk)⟩
  · obtain ⟨k, op, ho, hk⟩ := h.cm1 u x hu hx; exact ⟨k, op, ho, .inl hk⟩

theorem Book.goto {s σ : State} (h : Book s) {t : Nat} {th : Thread} (hth : s.ths[t]? = some th)
    (e1 : σ.ths = s.ths) (e2 : σ.log = s.log) (e3 : σ.clock = s.clock) (loc : Loc) (evs : List Ev)
    (hcall : (∃ op, th.ops[th.pc]? = some op ∧ evs = [.call t th.pc op]) ∨ (th.loc ≠ .idle ∧ evs = [])) :
    Book (σ.goto t th loc evs) := by
  refine h.move hth (th' := { th with loc := loc }) (by rw [← e1]; rfl) (by rw [← e2, ← e3]; rfl) rfl (Nat.le_refl _)
    (fun _ => ⟨rfl, ?_⟩) ?_
  · exact hcall.imp (fun ⟨op, ho, he⟩ => ⟨op, ho, he ▸ List.mem_singleton.mpr rfl⟩) And.left
  · rcases hcall with ⟨op, _, rfl⟩ | ⟨_, rfl⟩ <;> simp

theorem Book.finish {s σ : State} (h : Book s) {t : Nat} {th : Thread} (hth : s.ths[t]? = some th)
    (e1 : σ.ths = s.ths) (e2 : σ.log = s.log) (e3 : σ.clock = s.clock) (r : Ret) (evs : List Ev) (op : Op)
    (ho : th.ops[th.pc]? = some op) (hm : retMatches op r)
    (hcall : evs = [.call t th.pc op] ∨ evs = []) :
    Book (σ.finish t th r evs) := by
  refine h.move hth (th' := { th with pc := th.pc + 1, loc := .idle }) (by rw [← e1]; rfl) (by rw [← e2, ← e3]; rfl) rfl
    (Nat.le_succ _) (fun hl => absurd rfl hl) fun e he u i r' hr => ?_
  have : e = .ret t th.pc r := by
    rcases List.mem_append.mp he with he | he
    · rcases hcall with rfl | rfl <;> simp [hr] at he
    · exact List.mem_singleton.mp he
  cases hr.symm.trans this
  exact ⟨rfl, rfl, Nat.lt_succ_self _, op, ho, hm⟩

theorem Book.frameG {s s' : State} (h : Book s) (e0 : s'.ths = s.ths)
    (hl : Appends s s' (fun e => ∀ t i r, e ≠ .ret t i r)) : Book s' := by
  obtain ⟨evs, hl, -, hev⟩ := hl
  constructor <;> simp only [e0, hl, List.mem_append, mem_stamp]
  · intro u x hu hx; obtain ⟨k, op, ho, hk⟩ := h.cm1 u x hu hx; exact ⟨k, op, ho, Or.inl hk⟩
  · intro x hx u i r hr
    rcases hx with hx | ⟨_, hx⟩
    · exact h.cm2 x hx u i r hr
    · exact absurd hr (hev _ hx u i r)
  · intro x hx u i r hr
    rcases hx with hx | ⟨_, hx⟩
    · exact h.rt x hx u i r hr
    · exact absurd hr (hev _ hx u i r)

theorem ThStep.book {c : Cfg} {s s' : State} {t : Nat} {th : Thread} {op : Op} (h : Book s)
    (hth : s.ths[t]? = some th) (ho : th.ops[th.pc]? = some op) (hs : ThStep c s t th op s') : Book s' := by
  obtain ⟨evs, σ, hev, ⟨loc, rfl, -, -⟩ | ⟨r, rfl, hm⟩, e1, e2, e3⟩ := hs.shape
  · exact h.goto hth e1 e2 e3 loc evs (hev.imp (fun g => ⟨op, ho, g.2⟩) id)
  · exact h.finish hth e1 e2 e3 r evs op ho hm (hev.imp And.right And.right)

def LocOp (s : State) : Prop :=
  ∀ (t : Nat) (th : Thread), s.ths[t]? = some th → th.loc ≠ .idle → ∃ op, th.ops[th.pc]? = some op ∧ locOk op th.loc = true

theorem LocOp.move {s s' : State} (h : LocOp s) {t : Nat} {th th' : Thread} (hth : s.ths[t]? = some th)
    (e1 : s'.ths = s.ths.set t th')
    (hnew : th'.loc ≠ .idle → ∃ op, th'.ops[th'.pc]? = some op ∧ locOk op th'.loc = true) : LocOp s' := by
  unfold LocOp
  rw [e1, List.forall_getElem?_set hth]
  exact ⟨hnew, fun u x _ hu => h u x hu⟩

theorem LocOp.goto {s σ : State} (h : LocOp s) {t : Nat} {th : Thread} (hth : s.ths[t]? = some th)
    (e1 : σ.ths = s.ths) (loc : Loc) (evs : List Ev) (op : Op) (ho : th.ops[th.pc]? = some op)
    (hok : locOk op loc = true) : LocOp (σ.goto t th loc evs) :=
  h.move hth (th' := { th with loc := loc }) (by rw [← e1]; rfl) fun _ => ⟨op, ho, hok⟩

theorem LocOp.finish {s σ : State} (h : LocOp s) {t : Nat} {th : Thread} (hth : s.ths[t]? = some th)
    (e1 : σ.ths = s.ths) (r : Ret) (evs : List Ev) : LocOp (σ.finish t th r evs) :=
  h.move hth (th' := { th with pc := th.pc + 1, loc := .idle }) (by rw [← e1]; rfl) fun hne => absurd rfl hne

theorem ThStep.locOp {c : Cfg} {s s' : State} {t : Nat} {th : Thread} {op : Op} (h : LocOp s)
    (hth : s.ths[t]? = some th) (ho : th.ops[th.pc]? = some op) (hs : ThStep c s t th op s') : LocOp s' := by
  obtain ⟨evs, σ, -, ⟨loc, rfl, hok, -⟩ | ⟨r, rfl, -⟩, e1, -, -⟩ := hs.shape
  · exact h.goto hth e1 loc evs op ho hok
  · exact h.finish hth e1 r evs

theorem LocOp.frameG {s s' : State} (h : LocOp s) (e : s'.ths = s.ths) : LocOp s' := by
  unfold LocOp; rw [e]; exact h

theorem Trans.locOp {c : Cfg} {s s' : State} (h : LocOp s) (hs : Trans c s s') : LocOp s' := by
  cases hs with
  | th t th op hth ho hs => exact hs.locOp h hth ho
  | rg hs => exact h.frameG hs.gstep.ths
  | sd hs => exact h.frameG hs.gstep.ths
  | eh hs => exact h.frameG hs.gstep.ths
  | cancelParent p hp => exact h

theorem LocOp.reachable {c : Cfg} (hc : c.current) {ps : List (List Op)} {s : State} (hr : Reachable c ps s) : LocOp s :=
  reachable_induction hc LocOp (fun _ _ hth hl => absurd (init_thread hth).1 hl) (fun _ _ _ h hs => hs.locOp h) hr

/-- `uniq` is the fact wanted (`C10.call_events_unique`). `cm3` carries the induction: a logged call is of a past
    operation of its thread or of the one the thread is inside, so the call an idle thread logs is new. `exists_th` (the
    thread of a logged call exists) is kept along but read by nothing. -/
structure CallU (s : State) : Prop where
  cm3 : ∀ x ∈ s.log, ∀ (t i : Nat) (op : Op), x.2 = .call t i op → ∀ (th : Thread), s.ths[t]? = some th →
          i < th.pc ∨ (i = th.pc ∧ th.loc ≠ .idle)
  uniq : ∀ x ∈ s.log, ∀ y ∈ s.log, ∀ (t i : Nat) (op op' : Op), x.2 = .call t i op → y.2 = .call t i op' → x = y
  exists_th : ∀ x ∈ s.log, ∀ (t i : Nat) (op : Op), x.2 = .call t i op → t < s.ths.length

theorem CallU.move {s s' : State} (h : CallU s) {t : Nat} {th th' : Thread} (hth : s.ths[t]? = some th) {evs : List Ev}
    (e1 : s'.ths = s.ths.set t th') (e2 : s'.log = s.log ++ stamp s.clock evs)
    (hpc : ∀ i, i < th.pc ∨ i = th.pc → i < th'.pc ∨ (i = th'.pc ∧ th'.loc ≠ .idle))
    (hcall : ∀ e ∈ evs, ∀ u i op, e = .call u i op → th.loc = .idle ∧ u = t ∧ i = th.pc)
    (hone : ∀ e ∈ evs, ∀ e' ∈ evs, isCall e = true → isCall e' = true → e = e') : CallU s' := by
  have ht := List.lt_of_getElem? hth
  have hnew : ∀ x : Nat × Ev, x.1 = s.clock ∧ x.2 ∈ evs → ∀ u i op, x.2 = .call u i op →
      th.loc = .idle ∧ u = t ∧ i = th.pc ∧ ∀ y : Nat × Ev, y.1 = s.clock ∧ y.2 ∈ evs → isCall y.2 = true → y = x := by
    rintro ⟨k, e⟩ ⟨hk, he⟩ u i op hop
    obtain ⟨hl, rfl, rfl⟩ := hcall e he u i op hop
    refine ⟨hl, rfl, rfl, ?_⟩
    rintro ⟨k', e'⟩ ⟨hk', he'⟩ hc'
    rw [hone e' he' e he hc' (by rw [show e = _ from hop]; rfl)]
    exact congrArg (·, e) (hk'.trans hk.symm)
  constructor <;> simp only [e1, e2, List.mem_append, mem_stamp, List.length_set]
  · intro x hx u i op hop x' hx'
    rcases hx with hx | hx
    · rcases List.getElem?_set_cases hx' with ⟨rfl, rfl⟩ | ⟨hne, hu⟩
      · exact hpc i ((h.cm3 x hx _ i op hop th hth).imp_right And.left)
      · exact h.cm3 x hx u i op hop x' hu
    · obtain ⟨-, rfl, rfl, -⟩ := hnew x hx u i op hop
      rcases List.getElem?_set_cases hx' with ⟨_, rfl⟩ | ⟨hne, hu⟩
      · exact hpc _ (.inr rfl)
      · exact absurd rfl hne
  · intro x hx y hy u i op op' hxo hyo
    have old_new : ∀ a b : Nat × Ev, a ∈ s.log → b.1 = s.clock ∧ b.2 ∈ evs → ∀ o o', a.2 = .call u i o → b.2 = .call u i o' → False := by
      intro a b ha hb o o' hao hbo
      obtain ⟨hl, rfl, rfl, -⟩ := hnew b hb u i o' hbo
      rcases h.cm3 a ha _ _ o hao th hth with g | ⟨_, g⟩
      · omega
      · exact g hl
    rcases hx with hx | hx <;> rcases hy with hy | hy
    · exact h.uniq x hx y hy u i op op' hxo hyo
    · exact (old_new x y hx hy op op' hxo hyo).elim
    · exact (old_new y x hy hx op' op hyo hxo).elim
    · exact ((hnew y hy u i op' hyo).2.2.2 x hx (by rw [hxo]; rfl)).symm ▸ rfl
  · intro x hx u i op hop
    rcases hx with hx | hx
    · exact h.exists_th x hx u i op hop
    · obtain ⟨-, rfl, -⟩ := hnew x hx u i op hop; exact ht

theorem CallU.goto {s σ : State} (h : CallU s) {t : Nat} {th : Thread} (hth : s.ths[t]? = some th)
    (e1 : σ.ths = s.ths) (e2 : σ.log = s.log) (e3 : σ.clock = s.clock) (loc : Loc) (evs : List Ev)
    (hloc : loc ≠ .idle)
    (hcall : (∃ op, th.loc = .idle ∧ evs = [.call t th.pc op]) ∨ (th.loc ≠ .idle ∧ evs = [])) :
    CallU (σ.goto t th loc evs) := by
  refine h.move hth (th' := { th with loc := loc }) (by rw [← e1]; rfl) (by rw [← e2, ← e3]; rfl)
    (fun i hi => hi.imp_right fun hi => ⟨hi, hloc⟩) ?_ ?_
  · rcases hcall with ⟨op, hl, rfl⟩ | ⟨hl, rfl⟩ <;> simp [hl, eq_comm]
  · rcases hcall with ⟨op, -, rfl⟩ | ⟨-, rfl⟩ <;> simp

theorem CallU.finish {s σ : State} (h : CallU s) {t : Nat} {th : Thread} (hth : s.ths[t]? = some th)
    (e1 : σ.ths = s.ths) (e2 : σ.log = s.log) (e3 : σ.clock = s.clock) (r : Ret) (evs : List Ev)
    (hcall : (∃ op, th.loc = .idle ∧ evs = [.call t th.pc op]) ∨ (th.loc ≠ .idle ∧ evs = [])) :
    CallU (σ.finish t th r evs) := by
  refine h.move hth (th' := { th with pc := th.pc + 1, loc := .idle }) (by rw [← e1]; rfl) (by rw [← e2, ← e3]; rfl)
    (fun i hi => .inl ?_) ?_ ?_
  · show i < th.pc + 1; omega
  · rcases hcall with ⟨op, hl, rfl⟩ | ⟨hl, rfl⟩ <;> simp [hl, eq_comm]
  · rcases hcall with ⟨op, -, rfl⟩ | ⟨-, rfl⟩ <;> simp [isCall]

theorem CallU.frameG {s s' : State} (h : CallU s) (e0 : s'.ths = s.ths)
    (hl : Appends s s' (fun e => ∀ t i op, e ≠ .call t i op)) : CallU s' := by
  obtain ⟨evs, hlog, _, hev⟩ := hl
  have hold : ∀ x, x ∈ s'.log → ∀ u i op, x.2 = .call u i op → x ∈ s.log := by
    intro x hx u i op hop
    rw [hlog] at hx
    rcases List.mem_append.mp hx with hx | hx
    · exact hx
    · rw [mem_stamp] at hx; exact absurd hop (hev _ hx.2 u i op)
  constructor
  · intro x hx u i op hop; rw [e0]; exact h.cm3 x (hold x hx u i op hop) u i op hop
  · intro x hx y hy u i op op' hxo hyo; exact h.uniq x (hold x hx u i op hxo) y (hold y hy u i op' hyo) u i op op' hxo hyo
  · intro x hx u i op hop; rw [e0]; exact h.exists_th x (hold x hx u i op hop) u i op hop

theorem ThStep.callU {c : Cfg} {s s' : State} {t : Nat} {th : Thread} {op : Op} (h : CallU s)
    (hth : s.ths[t]? = some th) (hs : ThStep c s t th op s') : CallU s' := by
  obtain ⟨evs, σ, hev, ⟨loc, rfl, hok, -⟩ | ⟨r, rfl, -⟩, e1, e2, e3⟩ := hs.shape
  · exact h.goto hth e1 e2 e3 loc evs (fun hl => by rw [hl, locOk_idle] at hok; cases hok) (hev.imp_left fun g => ⟨op, g⟩)
  · exact h.finish hth e1 e2 e3 r evs (hev.imp_left fun g => ⟨op, g⟩)

theorem Trans.callU {c : Cfg} {s s' : State} (h : CallU s) (hs : Trans c s s') : CallU s' := by
  cases hs with
  | th t th op hth _ hs => exact hs.callU h hth
  | rg hs => exact h.frameG hs.gstep.ths (hs.gstep.appends fun _ he => (gEv_not_call_ret he).1.2.2)
  | sd hs => exact h.frameG hs.gstep.ths (hs.gstep.appends fun _ he => (gEv_not_call_ret he).1.2.2)
  | eh hs => exact h.frameG hs.gstep.ths (hs.gstep.appends fun _ he => (gEv_not_call_ret he).1.2.2)
  | cancelParent p hp => exact h.frameG rfl ((gstep_cancelParent s p).appends fun _ he => (gEv_not_call_ret he).1.2.2)

theorem CallU.reachable {c : Cfg} (hc : c.current) {ps : List (List Op)} {s : State} (hr : Reachable c ps s) : CallU s :=
  reachable_induction hc CallU
    ⟨fun x hx => by simp [Service.init] at hx, fun x hx => by simp [Service.init] at hx, fun x hx => by simp [Service.init] at hx⟩
    (fun _ _ _ h hs => hs.callU h) hr

theorem locRank_lt (l : Loc) : locRank l < 8 := by cases l <;> simp [locRank]

/-- steps a thread can still take: 8 per remaining operation, minus how far it is into the current one -/
def thMeasure (th : Thread) : Nat := 8 * (th.ops.length - th.pc) - locRank th.loc

/-- steps the service goroutines can still take (12, 5, 5 are the ranks of `gone`) -/
def gMeasure (s : State) : Nat := (12 - s.rg.rank) + (5 - s.sd.rank) + (5 - s.eh.rank)

def measure (s : State) : Nat := (s.ths.map thMeasure).sum + gMeasure s

theorem measure_thread {s s' : State} {t : Nat} {th th' : Thread} (hth : s.ths[t]? = some th)
    (e1 : s'.ths = s.ths.set t th') (hg : gMeasure s' ≤ gMeasure s) (hlt : thMeasure th' < thMeasure th) :
    measure s' < measure s := by
  have := List.sum_map_set thMeasure th' hth
  simp only [measure, e1]; omega

theorem thMeasure_goto {th : Thread} {op : Op} (ho : th.ops[th.pc]? = some op) (loc : Loc)
    (h : locRank th.loc < locRank loc) : thMeasure { th with loc := loc } < thMeasure th := by
  have hp := List.lt_of_getElem? ho
  have := locRank_lt loc
  simp only [thMeasure]; omega

theorem thMeasure_finish {th : Thread} {op : Op} (ho : th.ops[th.pc]? = some op) :
    thMeasure { th with pc := th.pc + 1, loc := .idle } < thMeasure th := by
  have hp := List.lt_of_getElem? ho
  have := locRank_lt th.loc
  have h0 : locRank Loc.idle = 0 := rfl
  simp only [thMeasure, h0]; omega

theorem ThStep.measure_lt {c : Cfg} {s s' : State} {t : Nat} {th : Thread} {op : Op}
    (hfr : s.once = .fresh → s.rg = .none ∧ s.sd = .none ∧ s.eh = .none)
    (hth : s.ths[t]? = some th) (ho : th.ops[th.pc]? = some op) (hs : ThStep c s t th op s') :
    measure s' < measure s := by
  have hg : gMeasure s' ≤ gMeasure s := by
    cases hs with
    | startLaunch p hl hon =>
      obtain ⟨hr, hsd, heh⟩ := hfr hon
      simp [gMeasure, State.goto, hr, hsd, heh, RgLoc.rank, SdLoc.rank, EhLoc.rank]
    -- `exact Nat.le_refl _` is accepted too, but slow to check: it unfolds `goto` / `finish` under the subtractions
    | _ => simp only [gMeasure, State.goto, State.finish, tick_rg, tick_sd, tick_eh, setTh_rg, setTh_sd, setTh_eh, Nat.le_refl]
  obtain ⟨evs, σ, -, ⟨loc, rfl, -, hlt⟩ | ⟨r, rfl, -⟩, e1, -, -⟩ := hs.shape
  · exact measure_thread hth (by rw [← e1]; rfl) hg (thMeasure_goto ho loc hlt)
  · exact measure_thread hth (by rw [← e1]; rfl) hg (thMeasure_finish ho)

theorem RgStep.measure_lt {c : Cfg} {s s' : State} (hs : RgStep c s s') : measure s' < measure s := by
  cases hs <;> simp only [measure, gMeasure, tick_ths, tick_rg, tick_sd, tick_eh, RgLoc.rank, *] <;> omega

theorem SdStep.measure_lt {c : Cfg} {s s' : State} (hs : SdStep c s s') : measure s' < measure s := by
  cases hs <;> simp only [measure, gMeasure, tick_ths, tick_rg, tick_sd, tick_eh, SdLoc.rank, *] <;> omega

theorem EhStep.measure_lt {c : Cfg} {s s' : State} (hs : EhStep c s s') : measure s' < measure s := by
  cases hs <;> simp only [measure, gMeasure, tick_ths, tick_rg, tick_sd, tick_eh, EhLoc.rank, *] <;> omega

theorem measure_cancel {c : Cfg} {s s' : State} {p : Nat} (h : step c s (.cancelParent p) = some s') :
    measure s' = measure s := by
  simp only [step] at h
  split at h
  · simp at h
  · simp at h; subst h; rfl

end FunModel.Service
