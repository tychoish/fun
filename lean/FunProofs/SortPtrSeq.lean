import FunProofs.SortSeq

/-! Sequence lemmas for the pointer-level refinement of `dt/cmp.go` (`FunProofs/SortPtr.lean`, `FunProps/C17Ptr.lean`):
    the algorithms of `FunModel/SortSeq.lean` commute with mapping a key function over the list, so a statement about
    element ADDRESSES compared through their items becomes one about the VALUES (`heapInsert_splits` apart). -/

namespace FunProofs.SortPtr
open FunModel FunModel.SortSeq

variable {α β : Type}

/-- at the pointer level `α` = element addresses, `k` = the item stored there -/
def ltOn (lt : β → β → Bool) (k : α → β) : α → α → Bool := fun a b => lt (k a) (k b)

@[simp] theorem ltOn_apply (lt : β → β → Bool) (k : α → β) (a b : α) : ltOn lt k a b = lt (k a) (k b) := rfl

theorem map_merge (lt : β → β → Bool) (k : α → β) (a b : List α) :
    (SortSeq.merge (ltOn lt k) a b).map k = SortSeq.merge lt (a.map k) (b.map k) := by
  rw [merge_eq_listMerge, merge_eq_listMerge]
  exact List.map_merge fun _ _ _ _ => rfl

theorem map_split_fst (k : α → β) (xs : List α) : (SortSeq.split xs).1.map k = (SortSeq.split (xs.map k)).1 := by
  simp [SortSeq.split, List.map_take]

theorem map_split_snd (k : α → β) (xs : List α) : (SortSeq.split xs).2.map k = (SortSeq.split (xs.map k)).2 := by
  simp [SortSeq.split, List.map_drop]

theorem map_mergeSort (lt : β → β → Bool) (k : α → β) (fuel : Nat) (xs : List α) :
    (SortSeq.mergeSort (ltOn lt k) xs fuel).map k = SortSeq.mergeSort lt (xs.map k) fuel := by
  induction fuel generalizing xs with
  | zero => rw [mergeSort_zero, mergeSort_zero]
  | succ f ih =>
    by_cases hlen : xs.length < 2
    · rw [mergeSort_short _ hlen, mergeSort_short _ (by simpa using hlen)]
    · have h2 : 2 ≤ xs.length := Nat.le_of_not_lt hlen
      rw [mergeSort_succ _ h2, mergeSort_succ _ (by simpa using h2), map_merge, ih, ih,
        map_split_fst, map_split_snd]

theorem map_sortMerge (lt : β → β → Bool) (k : α → β) (xs : List α) :
    (SortSeq.sortMerge (ltOn lt k) xs).map k = SortSeq.sortMerge lt (xs.map k) := by
  unfold SortSeq.sortMerge
  rw [map_mergeSort, List.length_map]

theorem map_insertStable (lt : β → β → Bool) (k : α → β) (e : α) (xs : List α) :
    (SortSeq.insertStable (ltOn lt k) e xs).map k = SortSeq.insertStable lt (k e) (xs.map k) := by
  rw [insertStable_eq_merge, map_merge, insertStable_eq_merge]
  rfl

theorem map_sortQuick (lt : β → β → Bool) (k : α → β) (xs : List α) :
    (SortSeq.sortQuick (ltOn lt k) xs).map k = SortSeq.sortQuick lt (xs.map k) := by
  induction xs with
  | nil => rfl
  | cons x xs ih =>
    show (SortSeq.insertStable (ltOn lt k) x (SortSeq.sortQuick (ltOn lt k) xs)).map k = _
    rw [map_insertStable, ih]
    rfl

theorem isSorted_map (lt : β → β → Bool) (k : α → β) (xs : List α) :
    SortSeq.isSorted (ltOn lt k) xs = SortSeq.isSorted lt (xs.map k) := by
  fun_induction SortSeq.isSorted (ltOn lt k) xs with
  | case1 => rfl
  | case2 x => rfl
  | case3 x y rest ih => rw [ih]; rfl

theorem map_heapInsert (lt : β → β → Bool) (k : α → β) (n : α) (xs : List α) :
    (SortSeq.heapInsert (ltOn lt k) n xs).map k = SortSeq.heapInsert lt (k n) (xs.map k) := by
  rw [heapInsert_eq_merge, heapInsert_eq_merge, List.map_reverse, ← List.map_reverse (l := xs)]
  exact congrArg List.reverse (map_merge (fun a b => lt b a) k xs.reverse [n])

theorem heapInsert_splits (lt : α → α → Bool) (t : α) (xs : List α) :
    ∃ f1 f2, xs = f1 ++ f2 ∧ SortSeq.heapInsert lt t xs = f1 ++ t :: f2 := by
  suffices ∀ r : List α, ∃ f2 f1, r = f2 ++ f1 ∧ SortSeq.heapInsert.go lt t r = f2 ++ t :: f1 by
    obtain ⟨f2, f1, h1, h2⟩ := this xs.reverse
    refine ⟨f1.reverse, f2.reverse, ?_, ?_⟩
    · rw [← List.reverse_append, ← h1, List.reverse_reverse]
    · rw [heapInsert_eq, h2]
      simp
  intro r
  induction r with
  | nil => exact ⟨[], [], rfl, rfl⟩
  | cons x rest ih =>
    rw [SortSeq.heapInsert.go]
    split
    · obtain ⟨f2, f1, h1, h2⟩ := ih
      exact ⟨x :: f2, f1, by rw [h1]; rfl, by rw [h2]; rfl⟩
    · exact ⟨[], x :: rest, rfl, rfl⟩

end FunProofs.SortPtr
