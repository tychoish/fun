import FunProofs.BrokerLive

/-! C09: a measure `mu` of what is left to do that every internal action strictly decreases. What a message costs
    depends on how many subscribers it may still be sent to, the potential (`Pot`, `potOf`), which changes when
    the event loop adds or removes a subscriber. Hence two steps: with the potential held fixed every internal
    action lowers the weighted count (`muWith_lt_step`); an internal action does not raise the potential
    (`pot_le_step`), and the count is monotone in it (`muWith_mono`). -/
namespace FunProofs.Broker
open FunModel.Broker

def chanSum (f : Nat → List Msg) (n : Nat) : Nat := ((List.range n).map (fun x => (f x).length)).sum

theorem chanSum_upd (f : Nat → List Msg) (k : Nat) (v : List Msg) : ∀ n, k < n →
    chanSum (upd f k v) n + (f k).length = chanSum f n + v.length := by
  intro n
  simp only [chanSum]
  induction n with
  | zero => intro h; omega
  | succ n ih =>
    intro h
    simp only [List.range_succ, List.map_append, List.sum_append, List.map_cons, List.map_nil, List.sum_cons,
      List.sum_nil, Nat.add_zero]
    by_cases hk : k = n
    · subst hk
      have : ((List.range k).map (fun x => (upd f k v x).length)) = ((List.range k).map (fun x => (f x).length)) := by
        apply List.map_congr_left
        intro x hx
        have : x ≠ k := by simp only [List.mem_range] at hx; omega
        simp [upd_apply, this]
      rw [this]; simp; omega
    · have hlt : k < n := by omega
      have := ih hlt
      have hn : upd f k v n = f n := by simp [upd_apply, Ne.symm hk]
      rw [hn]; omega

def subWeight (cl : Call) : Nat :=
  match cl.kind with
  | .sub _ => 1
  | _ => 0

def subCalls (calls : List Call) : Nat := (calls.map subWeight).sum

/-- how many subscribers a message may still have to be sent to: `P` for a message whose range
    has not started, `U visited` for a range in progress -/
structure Pot where
  P : Nat
  U : List Sub → Nat

def potOf (s : St) : Pot :=
  { P := s.subs.length + s.subQ.length + subCalls s.calls
    U := fun v => (s.subs.filter (fun k => !v.contains k)).length + s.subQ.length + subCalls s.calls }

def Pot.le (a b : Pot) : Prop := a.P ≤ b.P ∧ ∀ v, a.U v ≤ b.U v

/-- cost of a message in the distributor: Receive, start of the range, 3 per subscriber (`wNext`, then `deliver`
    and `recv`, or `handoff` or `sendAbort` alone: a send in progress weighs 2, a buffered delivery 1), end -/
def bcost (p : Pot) : Nat := 4 + 3 * p.P

def loopCost (p : Pot) : Loop → Nat
  | .select => 1
  | .sending _ => 2 + bcost p
  | .exited => 0

def workerCost (p : Pot) : Worker → Nat
  | .idle => 1
  | .got _ => 3 + 3 * p.P
  | .iter _ _ v => 2 + 3 * p.U v
  | .exited => 0

def callCost (p : Pot) (cl : Call) : Nat :=
  match cl.kind with
  | .pub _ => 3 + bcost p
  | .sub _ => 2
  | .unsub _ => 2
  | .stats => 1
  | .wait => 1

def chanCost (s : St) : Nat := chanSum s.chan s.nextSub

def muWith (p : Pot) (s : St) : Nat :=
  loopCost p s.loop + (s.ws.map (workerCost p)).sum + 2 * s.sends.length + chanCost s + s.buf.length * bcost p
    + (s.calls.map (callCost p)).sum + s.subQ.length + s.unsubQ.length

def mu (s : St) : Nat := muWith (potOf s) s

theorem muWith_mono {p p' : Pot} (h : Pot.le p' p) (s : St) : muWith p' s ≤ muWith p s := by
  obtain ⟨hP, hU⟩ := h
  have hb : bcost p' ≤ bcost p := by simp only [bcost]; omega
  have h1 : loopCost p' s.loop ≤ loopCost p s.loop := by
    cases s.loop <;> simp only [loopCost] <;> omega
  have h2 : (s.ws.map (workerCost p')).sum ≤ (s.ws.map (workerCost p)).sum := by
    apply List.sum_map_le
    intro w _
    cases w with
    | idle => exact Nat.le_refl _
    | exited => exact Nat.le_refl _
    | got m => simp only [workerCost]; omega
    | iter m st v => have := hU v; simp only [workerCost]; omega
  have h3 : (s.calls.map (callCost p')).sum ≤ (s.calls.map (callCost p)).sum := by
    apply List.sum_map_le
    intro cl _
    simp only [callCost]
    split <;> omega
  have h4 : s.buf.length * bcost p' ≤ s.buf.length * bcost p := Nat.mul_le_mul_left _ hb
  simp only [muWith]; omega

theorem length_filter_insertSub_le (q : Sub → Bool) (k : Sub) (l : List Sub) :
    ((insertSub k l).filter q).length ≤ (l.filter q).length + 1 := by
  simp only [insertSub]; split
  · omega
  · simp only [List.filter_append, List.length_append]
    have : ([k].filter q).length ≤ 1 := List.length_filter_le q [k]
    omega

theorem length_filter_erase_le (q : Sub → Bool) (k : Sub) (l : List Sub) :
    ((l.erase k).filter q).length ≤ (l.filter q).length :=
  ((List.erase_sublist (a := k) (l := l)).filter q).length_le

theorem unvisited_lt {l v : List Sub} {k : Sub} (hk : k ∈ l) (hv : k ∉ v) :
    (l.filter (fun x => !(k :: v).contains x)).length + 1 ≤ (l.filter (fun x => !v.contains x)).length := by
  -- the keys not in `k :: v` are those not in `v` without `k`, and `k` is one of the latter
  have e : l.filter (fun x => !(k :: v).contains x)
      = (l.filter (fun x => !v.contains x)).filter (fun x => !decide (x = k)) := by
    rw [List.filter_filter]
    exact List.filter_congr fun x _ => by simp
  rw [e]
  exact Nat.succ_le_of_lt (List.length_filter_lt_length_iff_exists.mpr
    ⟨k, List.mem_filter.mpr ⟨hk, by simp [hv]⟩, by simp⟩)

theorem subCalls_erase {calls : List Call} {i : Nat} {cl : Call} (h : calls[i]? = some cl) :
    subCalls (calls.eraseIdx i) + subWeight cl = subCalls calls :=
  List.sum_map_eraseIdx subWeight h

theorem potOf_U_nil (s : St) : (potOf s).U [] = (potOf s).P := by simp [potOf]

theorem pot_le_step {c : Cfg} {s s' : St} {a : Act} (h : Step c s a s') (hi : a.internal = true) :
    Pot.le (potOf s') (potOf s) := by
  -- `P` is `U []`, so the bound on `U` is all there is to show
  suffices hU : ∀ v, (potOf s').U v ≤ (potOf s).U v from
    ⟨by rw [← potOf_U_nil, ← potOf_U_nil]; exact hU [], hU⟩
  intro v
  cases h
  case enqSub hc _ | enqUnsub hc _ | callAbort hc _ | waitRet hc _ _ | loopStats hc | loopTake hc =>
    have := subCalls_erase hc
    simp only [subWeight] at this
    simp only [potOf, List.length_append, List.length_singleton]; omega
  case loopSubQ k rest hl hq =>
    have := length_filter_insertSub_le (fun x => !v.contains x) k s.subs
    simp only [potOf, hq, List.length_cons]; omega
  case loopSub i k x hl hc =>
    have h1 := subCalls_erase hc
    simp only [subWeight] at h1
    have := length_filter_insertSub_le (fun x => !v.contains x) k s.subs
    simp only [potOf]; omega
  case loopUnsubQ k rest hl hq =>
    have := length_filter_erase_le (fun x => !v.contains x) k s.subs
    simp only [potOf]; omega
  case loopUnsub i k x hl hc =>
    have h1 := subCalls_erase hc
    simp only [subWeight] at h1
    have := length_filter_erase_le (fun x => !v.contains x) k s.subs
    simp only [potOf]; omega
  -- the other internal actions leave the map, the queue of new subscribers and the pending calls alone
  all_goals first | exact Nat.le_refl _ | exact nomatch hi

theorem muWith_lt_step {c : Cfg} {s s' : St} {a : Act} {p : Pot} (hU0 : p.U [] = p.P)
    (hU : ∀ {k : Sub} {v : List Sub}, k ∈ s.subs → k ∉ v → p.U (k :: v) + 1 ≤ p.U v)
    (hw : WF c s) (h : Step c s a s') (hi : a.internal = true) : muWith p s' < muWith p s := by
  -- in each case the summands the action leaves alone are cancelled before `omega` is asked
  cases h
  case enqSub hc _ | enqUnsub hc _ | waitRet hc _ _ | loopSub hc | loopUnsub hc | loopStats hc =>
    have := List.sum_map_eraseIdx (callCost p) hc
    simp only [callCost] at this
    simp only [Nat.add_lt_add_iff_right, Nat.add_lt_add_iff_left, muWith, chanCost, List.length_append, List.length_singleton]; omega
  case callAbort i cl hc hx =>
    have := List.sum_map_eraseIdx (callCost p) hc
    have : 0 < callCost p cl := by simp only [callCost]; split <;> omega
    simp only [Nat.add_lt_add_iff_right, Nat.add_lt_add_iff_left, muWith, chanCost]; omega
  case loopSubQ hq | loopUnsubQ hq =>
    simp only [Nat.add_lt_add_iff_right, Nat.add_lt_add_iff_left, muWith, chanCost, hq, List.length_cons]; omega
  case loopTake i m x hl hc =>
    have := List.sum_map_eraseIdx (callCost p) hc
    simp only [callCost] at this
    simp only [Nat.add_lt_add_iff_right, muWith, chanCost, hl, loopCost]; omega
  case loopSend accept m buf' dropped hl hs =>
    have h1 := sendTo_length hs
    have h2 : buf'.length * bcost p ≤ (s.buf.length + 1) * bcost p := Nat.mul_le_mul_right _ h1
    rw [Nat.add_mul, Nat.one_mul] at h2
    simp only [Nat.add_lt_add_iff_right, muWith, chanCost, hl, loopCost]; omega
  case loopSendAbort hl _ | loopExit hl _ =>
    simp only [Nat.add_lt_add_iff_right, muWith, chanCost, hl, loopCost]; omega
  case wRecvBuf w m rest hw' hb =>
    have := List.sum_map_set (workerCost p) (Worker.got m) hw'
    simp only [workerCost] at this
    have h2 : (rest.length + 1) * bcost p = rest.length * bcost p + bcost p := by
      rw [Nat.add_mul, Nat.one_mul]
    have hB : bcost p = 4 + 3 * p.P := rfl
    simp only [Nat.add_lt_add_iff_right, muWith, chanCost, hb, List.length_cons, h2]; omega
  case wRecvDirect w m cap hw' hb hl hc =>
    have := List.sum_map_set (workerCost p) (Worker.got m) hw'
    simp only [workerCost] at this
    simp only [Nat.add_lt_add_iff_right, muWith, chanCost, hl, loopCost, bcost]; omega
  case wStart w m hw' =>
    have := List.sum_map_set (workerCost p) (Worker.iter m s.subs []) hw'
    simp only [workerCost, hU0] at this
    simp only [Nat.add_lt_add_iff_right, Nat.add_lt_add_iff_left, muWith, chanCost]; omega
  case wNext w k m start visited hw' hk hv hp =>
    have := List.sum_map_set (workerCost p) (Worker.iter m start (k :: visited)) hw'
    simp only [workerCost] at this
    have hlt := hU hk hv
    simp only [Nat.add_lt_add_iff_right, muWith, chanCost, List.length_append, List.length_singleton]; omega
  case wDone hw' _ _ | wAbandonGot hw' | wAbandonIter hw' =>
    have := List.sum_map_set (workerCost p) Worker.idle hw'
    simp only [workerCost] at this
    simp only [Nat.add_lt_add_iff_right, Nat.add_lt_add_iff_left, muWith, chanCost]; omega
  case wExit w hd hw' =>
    have := List.sum_map_set (workerCost p) Worker.exited hw'
    simp only [workerCost] at this
    simp only [Nat.add_lt_add_iff_right, Nat.add_lt_add_iff_left, muWith, chanCost]; omega
  case deliver k m hs hb =>
    have h1 := chanSum_upd s.chan k (s.chan k ++ [m]) s.nextSub (hw.sendsLt _ hs)
    have h2 := List.length_erase_of_mem hs
    have h3 := List.length_pos_of_mem hs
    simp only [Nat.add_lt_add_iff_right, muWith, chanCost, List.length_append, List.length_singleton] at h1 ⊢; omega
  case handoff hs _ _ | sendAbort hs _ =>
    have h2 := List.length_erase_of_mem hs
    have h3 := List.length_pos_of_mem hs
    simp only [Nat.add_lt_add_iff_right, Nat.add_lt_add_iff_left, muWith, chanCost]; omega
  case recv k m rest hb ho =>
    have h1 := chanSum_upd s.chan k rest s.nextSub (hw.chanLt k (by rw [hb]; nofun))
    simp only [Nat.add_lt_add_iff_right, Nat.add_lt_add_iff_left, muWith, chanCost, hb, List.length_cons] at h1 ⊢; omega
  all_goals exact nomatch hi

theorem mu_decreases {c : Cfg} {s s' : St} {a : Act} (hw : WF c s) (h : Step c s a s') (hi : a.internal = true) :
    mu s' < mu s :=
  Nat.lt_of_le_of_lt (muWith_mono (pot_le_step h hi) s')
    (muWith_lt_step (potOf_U_nil s) (fun hk hv => by have := unvisited_lt hk hv; simp only [potOf]; omega) hw h hi)

end FunProofs.Broker
